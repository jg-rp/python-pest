/-
  Lemmas/FrontInvScan.lean — scanner inversion (the reject half of C10, scanner part), `scan_inv`:
  whatever text the scanner accepts is a layout (Lemmas/FrontInvCst.lean: `CGrammarText`) of a
  concrete syntax tree whose tokens are the ones emitted: leading trivia, `//!` lines, rules with
  their `///` lines, trailing `///` lines; after every token any trivia; a line comment without
  line break only at the very end.  The converse, for trees that keep a comma between two numbers
  in braces, is `scan_accept_c` (Lemmas/FrontAccScan.lean).

  Method.  A successful run of a scanner method from `s` to `s'` is summarised by
  `Stp s s' K`: the tokens `K` were appended and `Lay K s.rest s'.rest` — the consumed text is
  the tokens `K` as spelled, with trivia anywhere between, before and behind them.
  `skip_trivia` may also swallow a line comment that lacks its line break, but then nothing is
  left.  So what is proved of a method *inside* a rule is `Emits m Q`: every successful run appends
  tokens `K` with `Q result K`, and `Stp s s' K` provided `s'.rest ≠ []` (a closing brace is still
  to come).  `Emits` is closed under `pure` and `>>=` (`Emits.bind`, in continuation form), so the
  inversion of a method written as a `do` block is the composition of those of its steps; loops by
  induction on their bound; `accept_expression` by induction on its fuel with the open-recursion
  hypothesis `RecInv`.  Only `ruleTail` and the driver loop, which see the end of the text and
  `EndC`, take their `do` blocks apart by `bind_inv`.

  The driver (`run_rules_inv`, `run_grammar_inv`, by induction on the bound of `run`).  In the
  layout the trivia before an item belongs to the item before it, but every state function skips
  trivia first.  So the driver's statements do not describe `s.rest`: they describe every text `t0` of
  which `s.rest` is what remains after trivia (`∀ t0, TrE t0 s.rest → …`; the caller instantiates
  `t0` with its own text from the end of its last token, `scan_inv` with the whole text).  One
  call that looks for a doc-comment marker is taken apart once, for both levels
  (`run_marker_inv`, the counterpart of the accept half's `TRT.sp_docMarker`).
  Read after Lemmas/FrontSkipTrivia.lean; the accept half (Lemmas/FrontAccKit.lean …) is not needed.
-/
import PestModel.Lemmas.FrontCstSep
import PestModel.Lemmas.FrontSkipTrivia

namespace Pest
namespace Front
namespace IS
open RT TRT

theorem bind_inv {α β} {m : M α} {f : α → M β} {s s' : St} {b : β} (h : (m >>= f) s = .ok b s') :
    ∃ a s1, m s = .ok a s1 ∧ f a s1 = .ok b s' := by
  rw [bind_def] at h
  cases hm : m s with
  | ok a s1 => rw [hm] at h; exact ⟨a, s1, rfl, h⟩
  | err k st v => rw [hm] at h; cases h
  | exc n => rw [hm] at h; cases h
  | oof => rw [hm] at h; cases h

theorem pure_inv {α} {a b : α} {s s' : St} (h : (pure a : M α) s = .ok b s') : b = a ∧ s' = s := by
  rw [pure_def] at h; cases h; exact ⟨rfl, rfl⟩

/-! ### what a successful run has laid out: `Lay`, `Stp`, `Emits` -/

inductive Lay : List KV → Text → Text → Prop
  | nil (tl : Text) : Lay [] tl tl
  | triv {kvs : List KV} {ws t tl : Text} : IsTrivia ws → Lay kvs t tl → Lay kvs (ws ++ t) tl
  | tok (kv : KV) {kvs : List KV} {w t tl : Text} : SpellsA kv w → Lay kvs t tl →
      Lay (kv :: kvs) (w ++ t) tl

theorem Lay.trans {K1 K2 : List KV} {t m tl : Text} (h1 : Lay K1 t m) (h2 : Lay K2 m tl) :
    Lay (K1 ++ K2) t tl := by
  induction h1 with
  | nil _ => simpa using h2
  | triv hw _ ih => exact .triv hw (ih h2)
  | tok kv hs _ ih => exact .tok kv hs (ih h2)

theorem Lay.suffix {K : List KV} {t tl : Text} (h : Lay K t tl) : ∃ w, t = w ++ tl := by
  induction h with
  | nil tl => exact ⟨[], rfl⟩
  | @triv _ ws _ _ _ _ ih => obtain ⟨w, rfl⟩ := ih; exact ⟨ws ++ w, by simp⟩
  | @tok _ _ w0 _ _ _ _ ih => obtain ⟨w, rfl⟩ := ih; exact ⟨w0 ++ w, by simp⟩

theorem Lay.ne {K : List KV} {t tl : Text} (h : Lay K t tl) (hne : tl ≠ []) : t ≠ [] := by
  obtain ⟨w, rfl⟩ := h.suffix
  simp [hne]

theorem Lay.of_tr {t tl : Text} (h : Tr t tl) : Lay [] t tl := by
  obtain ⟨ws, hw, rfl⟩ := h
  exact .triv hw (.nil tl)

theorem Lay.one {k : TK} (v tl : Text) (h1 : k ≠ .string) (h2 : k ≠ .stringCI) :
    Lay [(k, v)] (v ++ tl) tl :=
  .tok _ ((spellsA_verb h1 h2).2 rfl) (.nil tl)

theorem Lay.toScA {K : List KV} {t tl : Text} (h : Lay K t tl) :
    ∃ ws t', IsTrivia ws ∧ t = ws ++ t' ∧ ScA K t' tl := by
  induction h with
  | nil tl => exact ⟨[], tl, .nil, rfl, .nil tl⟩
  | @triv _ ws0 _ _ hw _ ih =>
    obtain ⟨ws, t', hws, rfl, hsc⟩ := ih
    exact ⟨ws0 ++ ws, t', isTrivia_append hw hws, by simp, hsc⟩
  | @tok kv _ w _ _ hs _ ih =>
    obtain ⟨ws, t', hws, rfl, hsc⟩ := ih
    exact ⟨[], w ++ (ws ++ t'), .nil, rfl, .cons kv hs hws hsc⟩

theorem scA_absorb : ∀ {K : List KV} {t tl ws : Text}, ScA K t (ws ++ tl) → IsTrivia ws → K ≠ [] →
    ScA K t tl := by
  intro K t tl ws h
  generalize hm : ws ++ tl = m at h
  induction h with
  | nil _ => intro _ hne; exact absurd rfl hne
  | @cons kv kvs w ws0 t0 tl0 hs hw0 hrest ih =>
    intro hw _
    subst hm
    cases kvs with
    | nil =>
      cases hrest
      have : w ++ (ws0 ++ (ws ++ tl)) = w ++ ((ws0 ++ ws) ++ tl) := by simp
      rw [this]
      exact .cons kv hs (isTrivia_append hw0 hw) (.nil tl)
    | cons kv' kvs' => exact .cons kv hs hw0 (ih rfl hw (by simp))

def Stp (s s' : St) (K : List KV) : Prop := out s' = out s ++ K ∧ Lay K s.rest s'.rest

theorem Stp.refl (s : St) : Stp s s [] := ⟨by simp, .nil _⟩

theorem Stp.trans {s s1 s2 : St} {K1 K2 : List KV} (h1 : Stp s s1 K1) (h2 : Stp s1 s2 K2) :
    Stp s s2 (K1 ++ K2) :=
  ⟨by rw [h2.1, h1.1, List.append_assoc], h1.2.trans h2.2⟩

theorem Stp.ne {s s' : St} {K : List KV} (h : Stp s s' K) (hne : s'.rest ≠ []) : s.rest ≠ [] :=
  h.2.ne hne

theorem Stp.cast {s s' : St} {K K' : List KV} (h : Stp s s' K) (hk : K' = K := by simp) : Stp s s' K' := by
  subst hk; exact h

theorem triv_inv {s s' : St} (h : triv s = .ok () s') : s' = skipTrivia s := by
  unfold triv at h; cases h; rfl

theorem triv_stp {s s' : St} (h : triv s = .ok () s') (hne : s'.rest ≠ []) : Stp s s' [] := by
  cases triv_inv h
  exact ⟨by simp, .of_tr ((skipTrivia_tre s).tr hne)⟩

def Emits {α} (m : M α) (Q : α → List KV → Prop) : Prop :=
  ∀ s a s', m s = .ok a s' → ∃ K, Q a K ∧ (s'.rest ≠ [] → Stp s s' K)

theorem Emits.pure {α} {a : α} {Q : α → List KV → Prop} (h : Q a []) : Emits (pure a) Q := by
  intro s b s' hp
  obtain ⟨rfl, rfl⟩ := pure_inv hp
  exact ⟨[], h, fun _ => Stp.refl _⟩

/-- that text is left behind travels backwards through `Stp.ne` -/
theorem Emits.bind {α β} {m : M α} {f : α → M β} {Q : α → List KV → Prop} {R : β → List KV → Prop}
    (hm : Emits m Q) (hf : ∀ a K1, Q a K1 → Emits (f a) fun b K2 => R b (K1 ++ K2)) :
    Emits (m >>= f) R := by
  intro s b s' h
  obtain ⟨a, s1, h1, h2⟩ := bind_inv h
  obtain ⟨K1, q1, st1⟩ := hm _ _ _ h1
  obtain ⟨K2, r, st2⟩ := hf a K1 q1 _ _ _ h2
  exact ⟨K1 ++ K2, r, fun hne => (st1 ((st2 hne).ne hne)).trans (st2 hne)⟩

theorem Emits.mono {α} {m : M α} {Q R : α → List KV → Prop} (hm : Emits m Q)
    (h : ∀ a K, Q a K → R a K) : Emits m R :=
  fun s a s' hs => (hm s a s' hs).imp fun _ ⟨q, st⟩ => ⟨h _ _ q, st⟩

/-- a loop started with a bound computed from the state -/
theorem Emits.sized {α} {f : Nat → M α} {Q : α → List KV → Prop} (h : ∀ n, Emits (f n) Q)
    (g : St → Nat) : Emits (fun s => f (g s) s) Q :=
  fun s => h (g s) s

/-! ### the primitives -/

theorem inv_triv : Emits triv fun _ K => K = [] := fun _ _ _ h => ⟨[], rfl, triv_stp h⟩

/-- the side conditions, here and in the primitives below, are found by `decide` when `kind` is a
    constant (as in `RT.scA_cons_v`); a primitive is then written `(inv_optChar).bind …`: in
    parentheses, so that the defaults are filled in before `.bind` is looked up -/
theorem stp_emit (s : St) (n : Nat) (kind : TK) (h1 : kind ≠ .string := by decide)
    (h2 : kind ≠ .stringCI := by decide) :
    Stp s ((s.adv n).emit kind (s.rest.take n)) [(kind, s.rest.take n)] := by
  refine ⟨by simp, ?_⟩
  have := Lay.one (k := kind) (s.rest.take n) (s.rest.drop n) h1 h2
  rw [List.take_append_drop] at this
  simpa using this

theorem scanEmit_inv {m : Text → Option Nat} {kind : TK} {b : Bool} {s s' : St}
    (h : scanEmit m kind s = .ok b s') :
    (b = false ∧ m s.rest = none ∧ s' = s) ∨
      (b = true ∧ ∃ n, m s.rest = some n ∧ s' = (s.adv n).emit kind (s.rest.take n)) := by
  unfold scanEmit at h
  cases hm : m s.rest with
  | none => rw [hm] at h; cases h; exact .inl ⟨rfl, rfl, rfl⟩
  | some n => rw [hm] at h; cases h; exact .inr ⟨rfl, n, rfl, rfl⟩

theorem inv_scanEmit {m : Text → Option Nat} {kind : TK} (h1 : kind ≠ .string := by decide)
    (h2 : kind ≠ .stringCI := by decide) :
    Emits (scanEmit m kind) fun b K =>
      (b = false ∧ K = []) ∨ (b = true ∧ ∃ t n, m t = some n ∧ K = [(kind, t.take n)]) := by
  intro s b s' h
  rcases scanEmit_inv h with ⟨rfl, _, rfl⟩ | ⟨rfl, n, hm, rfl⟩
  · exact ⟨[], .inl ⟨rfl, rfl⟩, fun _ => Stp.refl _⟩
  · exact ⟨_, .inr ⟨rfl, _, n, hm, rfl⟩, fun _ => stp_emit s n kind h1 h2⟩

theorem stp_peek_char (s : St) (c : Nat) (kind : TK) (hp : s.peek = some c)
    (h1 : kind ≠ .string) (h2 : kind ≠ .stringCI) : Stp s ((s.adv 1).emit kind [c]) [(kind, [c])] := by
  obtain ⟨r, hr⟩ := peek_iff.1 hp
  have := stp_emit s 1 kind h1 h2
  rw [hr] at this
  simpa using this

theorem expect_inv {c : Nat} {kind : TK} {k : EK} {s s' : St} (h : expect c kind k s = .ok () s')
    (h1 : kind ≠ .string := by decide) (h2 : kind ≠ .stringCI := by decide) :
    Stp s s' [(kind, [c])] := by
  unfold expect at h
  by_cases hp : s.peek = some c
  · rw [if_pos hp] at h
    cases h
    exact stp_peek_char s c kind hp h1 h2
  · rw [if_neg hp] at h
    cases h

theorem inv_expect {c : Nat} {kind : TK} {k : EK} (h1 : kind ≠ .string := by decide)
    (h2 : kind ≠ .stringCI := by decide) :
    Emits (expect c kind k) fun _ K => K = [(kind, [c])] :=
  fun _ _ _ h => ⟨_, rfl, fun _ => expect_inv h h1 h2⟩

theorem inv_optChar {c : Nat} {kind : TK} (h1 : kind ≠ .string := by decide)
    (h2 : kind ≠ .stringCI := by decide) :
    Emits (optChar c kind) fun b K => (b = false ∧ K = []) ∨ (b = true ∧ K = [(kind, [c])]) := by
  intro s b s' h
  unfold optChar at h
  by_cases hp : s.peek = some c
  · rw [if_pos hp] at h
    cases h
    exact ⟨_, .inr ⟨rfl, rfl⟩, fun _ => stp_peek_char s c kind hp h1 h2⟩
  · rw [if_neg hp] at h
    cases h
    exact ⟨[], .inl ⟨rfl, rfl⟩, fun _ => Stp.refl _⟩

theorem inv_scanOrError {m : Text → Option Nat} {kind : TK} {k : EK}
    (h1 : kind ≠ .string := by decide) (h2 : kind ≠ .stringCI := by decide) :
    Emits (scanOrError m kind k) fun _ K => ∃ t n, m t = some n ∧ K = [(kind, t.take n)] := by
  unfold scanOrError
  refine (inv_scanEmit h1 h2).bind fun b _ h => ?_
  rcases h with ⟨rfl, rfl⟩ | ⟨rfl, t, n, hm, rfl⟩
  · exact fun _ _ _ he => by unfold error at he; cases he
  · exact .pure ⟨t, n, hm, by simp⟩

theorem inv_lit {lit : Text} {kind : TK} {k : EK} (h1 : kind ≠ .string := by decide)
    (h2 : kind ≠ .stringCI := by decide) :
    Emits (scanOrError (mLit lit) kind k) fun _ K => K = [(kind, lit)] :=
  (inv_scanOrError h1 h2).mono fun _ _ ⟨_, _, hm, e⟩ => by rw [e, mLit_inv hm]

/-! ### strings -/

theorem take_span_drop (p : Nat → Bool) (t : Text) :
    t = t.take (spanLen p t) ++ t.drop (spanLen p t) := (List.take_append_drop _ _).symm

theorem stringLoop_inv (kind : TK) : ∀ (n : Nat) (acc : Text) (esc : Bool) (s s' : St) (b : Bool),
    stringLoop kind n acc esc s = .ok b s' →
    b = true ∧ ∃ more v, SBody more ∧ s.rest = more ++ 34 :: s'.rest ∧
      out s' = out s ++ [(kind, v)] ∧ StrVal acc esc more v
  | 0, _, _, _, _, _, h => by simp [stringLoop] at h
  | n + 1, acc, esc, s, s', b, h => by
    cases hr : s.rest with
    | nil => simp [stringLoop, hr] at h
    | cons c r =>
      by_cases h92 : c = 92
      · subst h92
        cases hk : mEscape r with
        | none => simp [stringLoop, hr, hk, error] at h
        | some k =>
          rw [stringLoop_esc kind n acc esc hr hk] at h
          obtain ⟨hb, more, v, hsb, hrest, hout, hv⟩ := stringLoop_inv kind n _ _ _ _ _ h
          obtain ⟨_, hk2, hk3⟩ := escapeLen_some hk
          have hlen : (r.take k).length = k := by simp [List.length_take]; omega
          refine ⟨hb, 92 :: (r.take k ++ more), v, .esc (by rw [hlen]; exact hk3) hsb, ?_,
            by simpa using hout, strVal_esc.2 hv⟩
          simp only [adv_rest, hr, List.drop_succ_cons, List.drop_zero] at hrest
          rw [List.cons_append, List.append_assoc, ← hrest, List.take_append_drop]
      · by_cases h34 : c = 34
        · subst h34
          cases esc with
          | false =>
            rw [stringLoop_close_raw kind n acc hr] at h
            cases h
            exact ⟨rfl, [], acc.reverse, .nil, by simp [hr], by simp, strVal_nil_raw.2 rfl⟩
          | true =>
            cases hu : Unescape.unescape acc.reverse with
            | ok v =>
              rw [stringLoop_close_esc kind n acc hr hu] at h
              cases h
              exact ⟨rfl, [], v, .nil, by simp [hr], by simp, strVal_nil_esc.2 hu⟩
            | error e => simp [stringLoop, hr, hu] at h
            | exc nm => simp [stringLoop, hr, hu] at h
        · rw [stringLoop_plain kind n acc esc hr h92 h34] at h
          obtain ⟨hb, more, v, hsb, hrest, hout, hv⟩ := stringLoop_inv kind n _ _ _ _ _ h
          refine ⟨hb, c :: more, v, .char c h92 h34 hsb, ?_, by simpa using hout,
            (strVal_char h92).2 hv⟩
          simp only [adv_rest, hr, List.drop_succ_cons, List.drop_zero] at hrest
          rw [hrest]; rfl

theorem acceptString_inv :
    Emits acceptString fun b K => (b = false ∧ K = []) ∨ (b = true ∧ ∃ v, K = [(.string, v)]) := by
  intro s b s' h
  unfold acceptString at h
  by_cases hp : s.peek = some 34
  · rw [if_pos hp] at h
    obtain ⟨r, hr⟩ := peek_iff.1 hp
    obtain ⟨hb, more, v, hsb, hrest, hout, hv⟩ := stringLoop_inv _ _ _ _ _ _ _ h
    refine ⟨_, .inr ⟨hb, v, rfl⟩, fun _ => ⟨by rw [hout]; rfl, ?_⟩⟩
    simp only [adv_rest, hr, List.drop_succ_cons, List.drop_zero] at hrest
    rw [hr, hrest]
    have : 34 :: (more ++ 34 :: s'.rest) = (34 :: (more ++ [34])) ++ s'.rest := by simp
    rw [this]
    exact .tok _ ⟨more, rfl, strBody_iff.2 ⟨hsb, hv⟩⟩ (.nil _)
  · rw [if_neg hp] at h
    cases h
    exact ⟨[], .inl ⟨rfl, rfl⟩, fun _ => Stp.refl _⟩

theorem acceptCIString_inv :
    Emits acceptCIString fun b K => (b = false ∧ K = []) ∨ (b = true ∧ ∃ v, K = [(.stringCI, v)]) := by
  intro s b s' h
  unfold acceptCIString at h
  by_cases hp : s.peek = some 94
  · rw [if_pos hp] at h
    obtain ⟨r, hr⟩ := peek_iff.1 hp
    simp only at h
    generalize hs2 : skipTrivia { s.adv 1 with start := (s.adv 1).pos } = s2 at h
    by_cases hq : s2.peek = some 34
    · rw [if_pos hq] at h
      obtain ⟨r2, hr2⟩ := peek_iff.1 hq
      obtain ⟨hb, more, v, hsb, hrest, hout, hv⟩ := stringLoop_inv _ _ _ _ _ _ _ h
      have htr := (skipTrivia_tre { s.adv 1 with start := (s.adv 1).pos }).tr (by rw [hs2, hr2]; simp)
      rw [hs2] at htr
      obtain ⟨ws, hws, hw⟩ := htr
      simp only [adv_rest, hr, List.drop_succ_cons, List.drop_zero] at hw
      refine ⟨_, .inr ⟨hb, v, rfl⟩, fun _ => ⟨?_, ?_⟩⟩
      · have : out s2 = out s := by rw [← hs2, out_skipTrivia]; rfl
        rw [hout, ← this]; rfl
      · simp only [adv_rest, hr2, List.drop_succ_cons, List.drop_zero] at hrest
        rw [hr, hw, hr2, hrest]
        have : 94 :: (ws ++ 34 :: (more ++ 34 :: s'.rest)) =
            (94 :: (ws ++ 34 :: (more ++ [34]))) ++ s'.rest := by simp
        rw [this]
        exact .tok _ ⟨ws, more, hws, rfl, strBody_iff.2 ⟨hsb, hv⟩⟩ (.nil _)
    · rw [if_neg hq] at h
      unfold error at h
      cases h
  · rw [if_neg hp] at h
    cases h
    exact ⟨[], .inl ⟨rfl, rfl⟩, fun _ => Stp.refl _⟩

/-! ### postfix operators; in `{ … }` commas and number lexemes; `PEEK[a..b]`; `'a'..'b'` -/

theorem inv_number : Emits (scanEmit mNumber .number) fun b K =>
    (b = false ∧ K = []) ∨ (b = true ∧ ∃ w, IsDigits w ∧ K = [(.number, w)]) :=
  (inv_scanEmit).mono fun _ _ h =>
    h.imp id fun ⟨hb, _, _, hm, e⟩ => ⟨hb, _, mNumber_inv hm, e⟩

theorem boundsLoop_inv : ∀ n : Nat, Emits (boundsLoop n) fun _ K =>
    ∃ items : List (Option Text), (∀ w, some w ∈ items → IsDigits w) ∧ K = items.map itemKV'
  | 0 => fun _ _ _ h => by simp [boundsLoop] at h
  | n + 1 => by
    have more : ∀ (i : Option Text), (∀ w, i = some w → IsDigits w) →
        Emits (boundsLoop n) fun _ K => ∃ items : List (Option Text),
          (∀ w, some w ∈ items → IsDigits w) ∧ itemKV' i :: K = items.map itemKV' :=
      fun i hi => (boundsLoop_inv n).mono fun _ _ ⟨items, hv, e⟩ =>
        ⟨i :: items, fun w hw => (List.mem_cons.1 hw).elim (fun h => hi w h.symm) (hv w), by rw [e]; rfl⟩
    rw [boundsLoop_succ]
    refine inv_triv.bind fun _ _ e1 => (inv_optChar).bind fun b _ h2 => ?_
    subst e1
    rcases h2 with ⟨rfl, rfl⟩ | ⟨rfl, rfl⟩
    · refine inv_number.bind fun b _ h3 => ?_
      rcases h3 with ⟨rfl, rfl⟩ | ⟨rfl, w, hw, rfl⟩
      · exact .pure ⟨[], by simp, rfl⟩
      · exact more (some w) fun _ h => by cases h; exact hw
    · exact more none fun _ h => nomatch h

/-- one alternative `elif ch == c: self.emit(kind, self.next())` of the chain in `accept_postfix_op`,
    which then returns `True` -/
theorem inv_optChar_or {c : Nat} {kind : TK} {e : M Bool} {Q : Bool → List KV → Prop}
    (hq : Q true [(kind, [c])]) (he : Emits e Q) (h1 : kind ≠ .string := by decide)
    (h2 : kind ≠ .stringCI := by decide) :
    Emits (do let b ← optChar c kind; if b then pure true else e) Q :=
  (inv_optChar h1 h2).bind fun b _ h => by
    rcases h with ⟨rfl, rfl⟩ | ⟨rfl, rfl⟩
    · exact he
    · exact .pure hq

theorem acceptPostfixOp_inv : Emits acceptPostfixOp fun b K =>
    (b = false ∧ K = []) ∨ (b = true ∧ ∃ p : CPost, p.Valid ∧ K = p.kv) := by
  rw [acceptPostfixOp_eq]
  refine inv_triv.bind fun _ _ e1 => ?_
  subst e1
  refine inv_optChar_or (.inr ⟨rfl, .opt, trivial, rfl⟩) <|
    inv_optChar_or (.inr ⟨rfl, .rep, trivial, rfl⟩) <|
    inv_optChar_or (.inr ⟨rfl, .rep1, trivial, rfl⟩) <|
    (inv_optChar).bind fun b _ h => ?_
  rcases h with ⟨rfl, rfl⟩ | ⟨rfl, rfl⟩
  · exact .pure (.inl ⟨rfl, rfl⟩)
  · exact (Emits.sized boundsLoop_inv _).bind fun _ _ ⟨items, hv, e1⟩ => inv_triv.bind fun _ _ e2 =>
      (inv_expect).bind fun _ _ e3 =>
      .pure (.inr ⟨rfl, .braces items, hv, by simp [e1, e2, e3, CPost.kv]⟩)

theorem postfixLoop_inv : ∀ n : Nat, Emits (postfixLoop n) fun _ K =>
    ∃ posts : List CPost, (∀ p ∈ posts, p.Valid) ∧ K = (posts.map CPost.kv).flatten
  | 0 => fun _ _ _ h => by simp [postfixLoop] at h
  | n + 1 => by
    dsimp only [postfixLoop]
    refine acceptPostfixOp_inv.bind fun b _ h1 => ?_
    rcases h1 with ⟨rfl, rfl⟩ | ⟨rfl, p, hp, rfl⟩
    · exact .pure ⟨[], by simp, by simp⟩
    · exact (postfixLoop_inv n).mono fun _ _ ⟨posts, hv, e⟩ =>
        ⟨p :: posts, List.forall_mem_cons.2 ⟨hp, hv⟩, by simp [e]⟩

theorem acceptPostfixOps_inv : Emits acceptPostfixOps fun _ K =>
    ∃ posts : List CPost, (∀ p ∈ posts, p.Valid) ∧ K = (posts.map CPost.kv).flatten :=
  Emits.sized postfixLoop_inv _

theorem scanIdent_inv : Emits scanIdent fun k K =>
    (k = none ∧ K = []) ∨
      ∃ name, IsIdent name ∧ k = some (keywordKind name) ∧ K = [(keywordKind name, name)] := by
  intro s k s' h
  unfold scanIdent at h
  cases hm : mIdentifier s.rest with
  | none => rw [hm] at h; cases h; exact ⟨[], .inl ⟨rfl, rfl⟩, fun _ => Stp.refl _⟩
  | some n =>
    rw [hm] at h
    cases h
    exact ⟨_, .inr ⟨s.rest.take n, mIdentifier_inv hm, rfl, rfl⟩, fun _ =>
      stp_emit s n _ (PRT.keywordKind_ne_string _).1 (PRT.keywordKind_ne_string _).2⟩

theorem optInteger_inv : Emits optInteger fun _ K =>
    ∃ a : Option Text, (∀ w, a = some w → IsIntTok w) ∧ K = optKV .integer a := by
  unfold optInteger
  refine (inv_scanEmit).bind fun b _ h1 => ?_
  rcases h1 with ⟨rfl, rfl⟩ | ⟨rfl, t, n, hm, rfl⟩
  · exact .pure ⟨none, by simp, rfl⟩
  · exact inv_triv.mono fun _ _ e =>
      ⟨some (t.take n), fun w hw => by cases hw; exact mInteger_inv hm, by rw [e]; rfl⟩

theorem peekTail_inv : Emits peekTail fun b K => b = true ∧ (K = [] ∨
    ∃ a c : Option Text, (∀ w, a = some w → IsIntTok w) ∧ (∀ w, c = some w → IsIntTok w) ∧
      K = sliceTail a c) := by
  unfold peekTail
  refine inv_triv.bind fun _ _ e1 => (inv_optChar).bind fun b _ h2 => ?_
  rcases h2 with ⟨rfl, rfl⟩ | ⟨rfl, rfl⟩
  · exact .pure ⟨rfl, .inl (by simp [e1])⟩
  · refine inv_triv.bind fun _ _ e3 => optInteger_inv.bind fun _ _ ⟨a, ha, e4⟩ =>
      (inv_lit).bind fun _ _ e5 => inv_triv.bind fun _ _ e6 =>
      optInteger_inv.bind fun _ _ ⟨c, hc, e7⟩ =>
      (inv_expect).bind fun _ _ e8 => .pure ⟨rfl, .inr ⟨a, c, ha, hc, ?_⟩⟩
    subst_vars
    simp [sDOTS]

theorem charRange_inv : Emits charRange fun b K => (b = false ∧ K = []) ∨
    (b = true ∧ ∃ a c, IsCharLit a ∧ IsCharLit c ∧ K = [(.char, a), (.rangeOp, [46, 46]), (.char, c)]) := by
  unfold charRange
  refine (inv_scanEmit).bind fun b _ h1 => ?_
  rcases h1 with ⟨rfl, rfl⟩ | ⟨rfl, t, n, hm, rfl⟩
  · exact .pure (.inl ⟨rfl, rfl⟩)
  · refine inv_triv.bind fun _ _ e2 => (inv_lit).bind fun _ _ e3 =>
      inv_triv.bind fun _ _ e4 =>
      (inv_scanOrError).bind fun _ _ ⟨t', n', hm', e5⟩ =>
      .pure (.inr ⟨rfl, _, _, mChar_inv hm, mChar_inv hm', ?_⟩)
    subst_vars
    simp [sDOTS]

/-! ### terminals, terms, expressions -/

def RecInv (rec : M Unit) : Prop :=
  Emits rec fun _ K => ∃ (bar : Bool) (e : CExpr), e.Valid ∧ K = barKV bar ++ e.kv

theorem parenthesized_inv {α β} {X : M α} {k : M β} {Q : List KV → Prop} {R : β → List KV → Prop}
    (hX : Emits X fun _ K => Q K)
    (hk : ∀ K, Q K → Emits k fun b K2 => R b ((.lparen, [40]) :: (K ++ (.rparen, [41]) :: K2))) :
    Emits (do expect 40 .lparen .expectedLParen; triv; let _ ← X; triv
              expect 41 .rparen .expectedRParen; k) R :=
  (inv_expect).bind fun _ _ e1 => inv_triv.bind fun _ _ e2 =>
    hX.bind fun _ K q => inv_triv.bind fun _ _ e4 =>
    (inv_expect).bind fun _ _ e5 => (hk K q).mono fun b K2 r => by
      subst_vars
      simpa using r

theorem acceptTerminal_inv {rec : M Unit} (hrec : RecInv rec) : Emits (acceptTerminal rec) fun b K =>
    (b = false ∧ K = []) ∨ (b = true ∧ ∃ nd : CNode, nd.Valid ∧ K = nd.kv) := by
  unfold acceptTerminal
  refine (inv_scanEmit).bind fun b _ h1 => ?_
  rcases h1 with ⟨rfl, rfl⟩ | ⟨rfl, t, n, hm, rfl⟩
  · refine (inv_scanEmit).bind fun b _ h2 => ?_
    rcases h2 with ⟨rfl, rfl⟩ | ⟨rfl, t, n, hm, rfl⟩
    · refine scanIdent_inv.bind fun k _ h3 => ?_
      rcases h3 with ⟨rfl, rfl⟩ | ⟨name, hid, rfl, rfl⟩
      · refine acceptString_inv.bind fun b _ h4 => ?_
        rcases h4 with ⟨rfl, rfl⟩ | ⟨rfl, v, rfl⟩
        · refine acceptCIString_inv.bind fun b _ h5 => ?_
          rcases h5 with ⟨rfl, rfl⟩ | ⟨rfl, v, rfl⟩
          · refine charRange_inv.mono fun b K h => ?_
            rcases h with ⟨rfl, rfl⟩ | ⟨rfl, a, c, ha, hc, rfl⟩
            · exact .inl ⟨rfl, rfl⟩
            · exact .inr ⟨rfl, .range a c, ⟨ha, hc⟩, rfl⟩
          · exact .pure (.inr ⟨rfl, .ci v, trivial, rfl⟩)
        · exact .pure (.inr ⟨rfl, .str v, trivial, rfl⟩)
      · dsimp only
        by_cases hk : keywordKind name = .peek
        · rw [if_pos hk]
          cases keywordKind_peek.1 hk
          refine peekTail_inv.mono fun b K h => ?_
          rcases h with ⟨rfl, rfl | ⟨a, c, ha, hc, rfl⟩⟩
          · exact .inr ⟨rfl, .ident sPEEK, hid, by dsimp only [CNode.kv]; simp⟩
          · exact .inr ⟨rfl, .slice a c, ⟨ha, hc⟩, by rw [hk, slice_kv]; rfl⟩
        · rw [if_neg hk]
          exact .pure (.inr ⟨rfl, .ident name, hid, by dsimp only [CNode.kv]; simp⟩)
    · rw [mLit_inv hm]
      exact inv_triv.bind fun _ _ e3 => parenthesized_inv hrec fun _ ⟨bar, e, he, e6⟩ =>
        .pure (.inr ⟨rfl, .push bar e, he, by dsimp only [CNode.kv]; simp [e3, e6]⟩)
  · rw [mLit_inv hm]
    exact inv_triv.bind fun _ _ e3 => parenthesized_inv
      (Q := fun K => ∃ str : Option Text, K = optKV .string str)
      (acceptString_inv.mono fun b K h => by
        rcases h with ⟨_, rfl⟩ | ⟨_, v, rfl⟩
        · exact ⟨none, rfl⟩
        · exact ⟨some v, rfl⟩)
      fun _ ⟨str, e6⟩ =>
        .pure (.inr ⟨rfl, .pushLit str, trivial, by dsimp only [CNode.kv]; simp [e3, e6]⟩)

theorem acceptTag_inv : Emits acceptTag fun _ K =>
    ∃ tag : Option Text, (match tag with | some t => IsTagName t | none => True) ∧ K = tagKV tag := by
  unfold acceptTag
  refine (inv_scanEmit).bind fun b _ h1 => ?_
  rcases h1 with ⟨rfl, rfl⟩ | ⟨rfl, t, n, hm, rfl⟩
  · exact .pure ⟨none, trivial, by simp [tagKV]⟩
  · obtain ⟨name, hn, htag⟩ := mTag_inv hm
    exact inv_triv.bind fun _ _ e2 => (inv_expect).bind fun _ _ e3 =>
      inv_triv.mono fun _ _ e4 => ⟨some name, htag, by simp [hn, e2, e3, e4, tagKV]⟩

theorem prefixLoop_inv : ∀ n : Nat, Emits (prefixLoop n) fun _ K => ∃ pre : List Bool, K = pre.map preKV
  | 0 => fun _ _ _ h => by simp [prefixLoop] at h
  | n + 1 => by
    have more : ∀ b : Bool, Emits (do triv; prefixLoop n) fun _ K =>
        ∃ pre : List Bool, preKV b :: K = pre.map preKV :=
      fun b => inv_triv.bind fun _ _ e => (prefixLoop_inv n).mono fun _ _ ⟨pre, e'⟩ =>
        ⟨b :: pre, by rw [e, e']; rfl⟩
    rw [prefixLoop_succ]
    refine (inv_optChar).bind fun b _ h1 => ?_
    rcases h1 with ⟨rfl, rfl⟩ | ⟨rfl, rfl⟩
    · refine (inv_optChar).bind fun b _ h2 => ?_
      rcases h2 with ⟨rfl, rfl⟩ | ⟨rfl, rfl⟩
      · exact .pure ⟨[], rfl⟩
      · exact more false
    · exact more true

theorem acceptTerm_inv {rec : M Unit} (hrec : RecInv rec) :
    Emits (acceptTerm rec) fun _ K => ∃ ct : CTerm, ct.Valid ∧ K = ct.kv := by
  unfold acceptTerm
  refine acceptTag_inv.bind fun _ _ ⟨tag, htag, e1⟩ =>
    (Emits.sized prefixLoop_inv _).bind fun _ _ ⟨pre, e2⟩ =>
    (acceptTerminal_inv hrec).bind fun b _ h3 => ?_
  rcases h3 with ⟨rfl, rfl⟩ | ⟨rfl, nd, hnd, rfl⟩
  · exact parenthesized_inv hrec fun _ ⟨bar, e, he, e6⟩ =>
      acceptPostfixOps_inv.mono fun _ _ ⟨posts, hp, e9⟩ =>
        ⟨.mk tag pre (.paren bar e) posts, ⟨htag, he, hp⟩, by
          dsimp only [CTerm.kv, CNode.kv]; simp [e1, e2, e6, e9]⟩
  · exact acceptPostfixOps_inv.mono fun _ _ ⟨posts, hp, e4⟩ =>
      ⟨.mk tag pre nd posts, ⟨htag, hnd, hp⟩, by dsimp only [CTerm.kv]; simp [e1, e2, e4]⟩

theorem exprLoop_inv {rec : M Unit} (hrec : RecInv rec) : ∀ n : Nat, Emits (exprLoop rec n) fun _ K =>
    ∃ tl : List (Bool × CTerm), (∀ x ∈ tl, x.2.Valid) ∧ K = tailKV tl
  | 0 => fun _ _ _ h => by simp [exprLoop] at h
  | n + 1 => by
    have more : ∀ (op : Bool) (f : List KV → List KV), (∀ K, f K = opKV op :: K) →
        Emits (do triv; acceptTerm rec; exprLoop rec n) fun _ K =>
          ∃ tl : List (Bool × CTerm), (∀ x ∈ tl, x.2.Valid) ∧ f K = tailKV tl := by
      intro op f hf
      refine inv_triv.bind fun _ _ e1 => (acceptTerm_inv hrec).bind fun _ _ ⟨ct, hct, e2⟩ =>
        (exprLoop_inv hrec n).mono fun _ _ ⟨tl, htl, e3⟩ =>
          ⟨(op, ct) :: tl, List.forall_mem_cons.2 ⟨hct, htl⟩, ?_⟩
      subst_vars
      simp [hf, tailKV]
    dsimp only [exprLoop]
    refine inv_triv.bind fun _ _ e1 => (inv_optChar).bind fun b _ h2 => ?_
    rcases h2 with ⟨rfl, rfl⟩ | ⟨rfl, rfl⟩
    · refine (inv_optChar).bind fun b _ h3 => ?_
      rcases h3 with ⟨rfl, rfl⟩ | ⟨rfl, rfl⟩
      · exact .pure ⟨[], by simp, by simp [e1, tailKV]⟩
      · exact more true _ fun K => by simp [e1, opKV]
    · exact more false _ fun K => by simp [e1, opKV]

theorem leadingChoice_inv : Emits leadingChoice fun _ K => ∃ bar : Bool, K = barKV bar := by
  unfold leadingChoice
  refine (inv_optChar).bind fun b _ h1 => ?_
  rcases h1 with ⟨rfl, rfl⟩ | ⟨rfl, rfl⟩
  · exact .pure ⟨false, by simp [barKV]⟩
  · exact inv_triv.mono fun _ _ e => ⟨true, by simp [e, barKV]⟩

theorem exprStep_inv {rec : M Unit} (hrec : RecInv rec) : RecInv (exprStep rec) := by
  unfold exprStep
  exact inv_triv.bind fun _ _ e1 => leadingChoice_inv.bind fun _ _ ⟨bar, e2⟩ =>
    (acceptTerm_inv hrec).bind fun _ _ ⟨ct, hct, e3⟩ =>
    (Emits.sized (exprLoop_inv hrec) _).mono fun _ _ ⟨tl, htl, e4⟩ =>
      ⟨bar, mkCExpr ct tl, mkCExpr_valid.2 ⟨hct, htl⟩, by simp [e1, e2, e3, e4, mkCExpr_kv]⟩

theorem acceptExpression_inv : ∀ fuel : Nat, RecInv (acceptExpression fuel)
  | 0 => fun _ _ _ h => by simp [acceptExpression] at h
  | fuel + 1 => exprStep_inv (acceptExpression_inv fuel)

/-! ### a doc line behind its marker; a rule from its name to the closing brace -/

theorem noLF_of_take {t : Text} (h : ∀ c ∈ t, c ≠ 10) : NoLF t := h

theorem docBlank_inv (s : St) :
    ∃ sp, s.rest = sp ++ (docBlank s).rest ∧ out (docBlank s) = out s ∧
      (sp = [32] ∨ sp = [9] ∨ (sp = [] ∧ s.rest.head? ≠ some 32 ∧ s.rest.head? ≠ some 9)) := by
  unfold docBlank
  cases hr : s.rest with
  | nil => exact ⟨[], by simp [hr], rfl, .inr (.inr ⟨rfl, by simp, by simp⟩)⟩
  | cons c r =>
    simp only
    by_cases hc : (c == 32 || c == 9) = true
    · rw [if_pos hc]
      have : c = 32 ∨ c = 9 := by simpa using hc
      refine ⟨[c], by simp [St.adv, hr], rfl, ?_⟩
      rcases this with rfl | rfl
      · exact .inl rfl
      · exact .inr (.inl rfl)
    · rw [if_neg hc]
      have : ¬ (c = 32 ∨ c = 9) := by simpa using hc
      exact ⟨[], by simp [hr], rfl, .inr (.inr ⟨rfl, by simp; omega, by simp; omega⟩)⟩

theorem head?_take_ne {t : Text} {n c : Nat} (h : t.head? ≠ some c) : (t.take n).head? ≠ some c := by
  cases t with
  | nil => simp
  | cons x r =>
    cases n with
    | zero => simp
    | succ k => simpa using h

theorem docInner_inv {s s' : St} (h : docInner s = .ok () s') :
    ∃ sp l, DocSp sp l ∧ NoLF l ∧ s.rest = sp ++ (l ++ s'.rest) ∧ DocEnd l s'.rest ∧
      out s' = out s ++ [(.commentText, l)] := by
  unfold docInner at h
  simp only at h
  cases h
  obtain ⟨sp, hrest, hout, hsp⟩ := docBlank_inv s
  generalize docBlank s = s1 at hrest hout ⊢
  refine ⟨sp, s1.rest.take ((findNewline s1.rest).getD s1.rest.length), ?_, ?_, ?_, ?_, by simp [hout]⟩
  · -- the blank
    rcases hsp with rfl | rfl | ⟨rfl, h1, h2⟩
    · exact .inl rfl
    · exact .inr (.inl rfl)
    · simp only [List.nil_append] at hrest
      rw [hrest] at h1 h2
      exact .inr (.inr ⟨rfl, head?_take_ne h1, head?_take_ne h2⟩)
  · -- no line feed
    intro x hx
    cases hf : findNewline s1.rest with
    | none =>
      rw [hf] at hx
      simp only [Option.getD_none, List.take_length] at hx
      exact findNewline_none_inv _ hf x hx
    | some k =>
      rw [hf] at hx
      simp only [Option.getD_some] at hx
      exact (findNewline_some_inv _ k hf).1 x hx
  · rw [hrest]; simp
  · simp only [emit_rest, adv_rest]
    cases hf : findNewline s1.rest with
    | none =>
      refine .inl ?_
      simp only [Option.getD_none, List.drop_length]
    | some k =>
      simp only [Option.getD_some]
      rcases (findNewline_some_inv _ k hf).2 with ⟨u, hu, hl⟩ | ⟨u, hu⟩
      · exact .inr (.inl ⟨u, hu, hl⟩)
      · exact .inr (.inr ⟨u, hu⟩)

theorem optModifier_inv : Emits optModifier fun _ K =>
    ∃ m : Option Nat, (match m with | some c => c = 95 ∨ c = 64 ∨ c = 36 ∨ c = 33 | none => True) ∧
      K = modKV m := by
  unfold optModifier
  refine (inv_scanEmit).bind fun b _ h1 => ?_
  rcases h1 with ⟨rfl, rfl⟩ | ⟨rfl, t, n, hm, rfl⟩
  · exact .pure ⟨none, trivial, by simp [modKV]⟩
  · obtain ⟨c, hc, hcond⟩ := mModifier_inv hm
    exact inv_triv.mono fun _ _ e => ⟨some c, hcond, by simp [hc, e, modKV]⟩

theorem ne_nil_of_match {t : Text} {n : Nat} (h1 : 1 ≤ n) (h2 : n ≤ t.length) : t ≠ [] := by
  intro e; rw [e] at h2; simp at h2; omega

theorem expect_ne {c : Nat} {kind : TK} {k : EK} {s s' : St} (h : expect c kind k s = .ok () s') :
    s.rest ≠ [] := by
  unfold expect at h
  by_cases hp : s.peek = some c
  · obtain ⟨r, hr⟩ := peek_iff.1 hp
    simp [hr]
  · rw [if_neg hp] at h; cases h

theorem ruleTail_inv {s s' : St} {fn : Option Fn} (h : ruleTail s = .ok fn s') :
    (fn = none ∧ s' = skipTrivia s ∧ s'.rest = []) ∨
      (fn = some .grammarRule ∧ (skipTrivia s).rest ≠ [] ∧
        ∃ r : CRule, r.docs = [] ∧ r.Valid ∧ Stp s s' r.headKV) := by
  unfold ruleTail at h
  replace h := bind_inv h; obtain ⟨_, s1, h1, h⟩ := h
  replace h := bind_inv h; obtain ⟨b, s2, h2, h⟩ := h
  rcases scanEmit_inv h2 with ⟨rfl, _, rfl⟩ | ⟨rfl, n, hm, rfl⟩
  · simp only [Bool.false_eq_true, ↓reduceIte] at h
    by_cases he : s2.rest.isEmpty = true
    · rw [if_pos he] at h
      cases h
      exact .inl ⟨rfl, triv_inv h1, by simpa using he⟩
    · rw [if_neg he] at h
      unfold error at h
      cases h
  · replace h := bind_inv h; obtain ⟨_, s3, h3, h⟩ := h
    replace h := bind_inv h; obtain ⟨_, s4, h4, h⟩ := h
    replace h := bind_inv h; obtain ⟨_, s5, h5, h⟩ := h
    replace h := bind_inv h; obtain ⟨_, s6, h6, h⟩ := h
    replace h := bind_inv h; obtain ⟨_, s7, h7, h⟩ := h
    replace h := bind_inv h; obtain ⟨_, s8, h8, h⟩ := h
    replace h := bind_inv h; obtain ⟨_, s9, h9, h⟩ := h
    obtain ⟨rfl, rfl⟩ := pure_inv h
    have st9 := expect_inv h9
    have n8 := expect_ne h9
    obtain ⟨_, ⟨bar, e, he, rfl⟩, st8⟩ := acceptExpression_inv _ _ _ _ h8
    replace st8 := st8 n8
    have n7 := st8.ne n8
    have st7 := expect_inv h7
    have n6 := st7.ne n7
    obtain ⟨_, ⟨m, hmod, rfl⟩, st6⟩ := optModifier_inv _ _ _ h6
    replace st6 := st6 n6
    have n5 := st6.ne n6
    have st5 := triv_stp h5 n5
    have n4 := st5.ne n5
    have st4 := expect_inv h4
    have n3 := st4.ne n4
    have st3 := triv_stp h3 n3
    have st2 := stp_emit s1 n .identifier
    obtain ⟨k1, k2, _⟩ := mIdentifier_some hm
    have st1 := triv_stp h1 (ne_nil_of_match k1 k2)
    refine .inr ⟨rfl, by rw [← triv_inv h1]; exact ne_nil_of_match k1 k2,
      ⟨[], s1.rest.take n, m, bar, e⟩, rfl, ⟨by simp, mIdentifier_inv hm, hmod, he⟩, ?_⟩
    exact (st1.trans (st2.trans (st3.trans (st4.trans (st5.trans (st6.trans (st7.trans
      (st8.trans st9)))))))).cast (by simp [CRule.headKV])

/-! ### rules, doc comments, the grammar -/

/-- from the state `grammar_rule`: trivia, rules with their doc lines, trailing doc lines, the end -/
def RulesFrom (rules : List CRule) (trailing : List Text) (t : Text) : Prop :=
  ∃ ws t1 t2 e, IsTrivia ws ∧ t = ws ++ t1 ∧ CRulesText rules t1 t2 ∧
    DocsText' sRDOC trailing t2 e ∧ EndC e

/-- a doc line in front of what follows: it belongs to the next rule, or to the trailing lines -/
def consDoc (l : Text) : List CRule → List Text → List CRule × List Text
  | r :: rs, tr => ({ r with docs := l :: r.docs } :: rs, tr)
  | [], tr => ([], l :: tr)

def rulesKV (rules : List CRule) : List KV := (rules.map CRule.kv).flatten

theorem consDoc_kv (l : Text) (rules : List CRule) (trailing : List Text) :
    rulesKV (consDoc l rules trailing).1 ++ docsKV .ruleDoc sRDOC (consDoc l rules trailing).2 =
      (.ruleDoc, sRDOC) :: (.commentText, l) :: (rulesKV rules ++ docsKV .ruleDoc sRDOC trailing) := by
  cases rules with
  | nil => simp [consDoc, rulesKV]
  | cons r rs => simp [consDoc, rulesKV, CRule.kv, CRule.headKV, docKV]

theorem consDoc_valid (l : Text) (hl : NoLF l) (rules : List CRule) (trailing : List Text)
    (h1 : ∀ r ∈ rules, r.Valid) (h2 : ∀ x ∈ trailing, NoLF x) :
    (∀ r ∈ (consDoc l rules trailing).1, r.Valid) ∧ ∀ x ∈ (consDoc l rules trailing).2, NoLF x := by
  cases rules with
  | nil =>
    refine ⟨by simp [consDoc], ?_⟩
    intro x hx
    simp only [consDoc, List.mem_cons] at hx
    rcases hx with rfl | hx
    · exact hl
    · exact h2 x hx
  | cons r rs =>
    refine ⟨?_, h2⟩
    intro q hq
    simp only [consDoc, List.mem_cons] at hq
    rcases hq with rfl | hq
    · obtain ⟨v1, v2, v3, v4⟩ := h1 r (by simp)
      refine ⟨?_, v2, v3, v4⟩
      intro x hx
      simp only [List.mem_cons] at hx
      rcases hx with rfl | hx
      · exact hl
      · exact v1 x hx
    · exact h1 q (by simp [hq])

theorem consDoc_text {sp l ws rest : Text} {rules : List CRule} {trailing : List Text}
    (hsp : DocSp sp l) (hws : IsTrivia ws) (hd : DocEnd l rest) (h : RulesFrom rules trailing rest) :
    RulesFrom (consDoc l rules trailing).1 (consDoc l rules trailing).2
      (ws ++ (sRDOC ++ (sp ++ (l ++ rest)))) := by
  obtain ⟨ws', t1, t2, e, hws', rfl, hr, ht, he⟩ := h
  cases rules with
  | nil =>
    have : t1 = t2 := hr
    subst this
    exact ⟨ws, _, _, e, hws, rfl, rfl, ⟨sp, ws', t1, hsp, hws', rfl, hd, ht⟩, he⟩
  | cons r rs =>
    obtain ⟨u1, u2, hdoc, hsc, hrs⟩ := hr
    exact ⟨ws, _, t2, e, hws, rfl, ⟨u1, u2, ⟨sp, ws', t1, hsp, hws', rfl, hd, hdoc⟩, hsc, hrs⟩, ht, he⟩

theorem run_succ_inv {n : Nat} {fn : Fn} {s s' : St} (h : run (n + 1) fn s = .ok () s') :
    ∃ next s1, stateFn fn s = .ok next s1 ∧
      match next with
      | none => s' = s1
      | some fn' => run n fn' s1 = .ok () s' := by
  dsimp only [run] at h
  obtain ⟨next, s1, h1, h⟩ := bind_inv h
  refine ⟨next, s1, h1, ?_⟩
  cases next with
  | none => exact (pure_inv h).2
  | some fn' => exact h

def RuleOut (s s' : St) (rules : List CRule) (trailing : List Text) : Prop :=
  (∀ r ∈ rules, r.Valid) ∧ (∀ l ∈ trailing, NoLF l) ∧
    out s' = out s ++ (rulesKV rules ++ docsKV .ruleDoc sRDOC trailing)

theorem run_doc_inv {outer inner : Fn} (hI : stateFn inner = (do docInner; pure (some outer)))
    {n : Nat} {s1 s' : St} (h : run n inner s1 = .ok () s') :
    ∃ k sp l s2, n = k + 1 ∧ DocSp sp l ∧ NoLF l ∧ s1.rest = sp ++ (l ++ s2.rest) ∧
      DocEnd l s2.rest ∧ out s2 = out s1 ++ [(.commentText, l)] ∧ run k outer s2 = .ok () s' := by
  cases n with
  | zero => simp [run] at h
  | succ k =>
    obtain ⟨next, s2, hst, hnext⟩ := run_succ_inv h
    rw [hI] at hst
    obtain ⟨_, sa, ha, hst⟩ := bind_inv hst
    obtain ⟨rfl, rfl⟩ := pure_inv hst
    obtain ⟨sp, l, hsp, hl, hrest, hd, ho⟩ := docInner_inv ha
    exact ⟨k, sp, l, _, rfl, hsp, hl, hrest, hd, ho, hnext⟩

theorem doc_marker_text {m t0 : Text} {s : St} {k : Nat} (hm : mLit m (skipTrivia s).rest = some k)
    (hne : m ≠ []) (ht0 : TrE t0 s.rest) :
    ∃ ws, IsTrivia ws ∧ t0 = ws ++ (m ++ (skipTrivia s).rest.drop k) := by
  have hk := mLit_inv hm
  have hne' : (skipTrivia s).rest ≠ [] := by
    intro e
    rw [e] at hk
    exact hne (by simpa using hk.symm)
  obtain ⟨ws0, hws0, rfl⟩ := (ht0.trans (skipTrivia_tre s)).tr hne'
  exact ⟨ws0, hws0, by rw [← hk, List.take_append_drop]⟩

/-- One call of a state function that looks for a doc-comment marker first (`grammar`: `//!`,
    `grammar_rule`: `///`; the inversion's side of `TRT.sp_docMarker`): either the marker is not
    there and `other` runs from where the trivia ends, or a doc line was scanned — two calls —
    and `outer` runs again. -/
theorem run_marker_inv {outer inner : Fn} {marker : TK} {m : Text} {other : M (Option Fn)}
    (hO : stateFn outer = (do
      triv
      let b ← scanEmit (mLit m) marker
      if b then pure (some inner) else other))
    (hI : stateFn inner = (do docInner; pure (some outer)))
    (hne : m ≠ []) {n : Nat} {s s' : St} (h : run (n + 1) outer s = .ok () s') :
    (∃ next s1, other (skipTrivia s) = .ok next s1 ∧
      match next with
      | none => s' = s1
      | some fn' => run n fn' s1 = .ok () s') ∨
    ∃ k sp l s2, n = k + 1 ∧ DocSp sp l ∧ NoLF l ∧ DocEnd l s2.rest ∧
      out s2 = out s ++ [(marker, m), (.commentText, l)] ∧ run k outer s2 = .ok () s' ∧
      ∀ t0, TrE t0 s.rest → ∃ ws, IsTrivia ws ∧ t0 = ws ++ (m ++ (sp ++ (l ++ s2.rest))) := by
  obtain ⟨next, s1, hst, hnext⟩ := run_succ_inv h
  rw [hO] at hst
  obtain ⟨_, sa, ha, hst⟩ := bind_inv hst
  cases triv_inv ha
  obtain ⟨b, sb, hb, hst⟩ := bind_inv hst
  rcases scanEmit_inv hb with ⟨rfl, _, rfl⟩ | ⟨rfl, k, hm, rfl⟩
  · exact .inl ⟨next, s1, hst, hnext⟩
  · obtain ⟨rfl, rfl⟩ := pure_inv hst
    obtain ⟨k', sp, l, s2, rfl, hsp, hl, hrest, hd, ho2, hrun2⟩ := run_doc_inv hI hnext
    refine .inr ⟨k', sp, l, s2, rfl, hsp, hl, hd, ?_, hrun2, fun t0 ht0 => ?_⟩
    · rw [ho2, mLit_inv hm]
      simp
    · obtain ⟨ws0, hws0, rfl⟩ := doc_marker_text hm hne ht0
      exact ⟨ws0, hws0, by rw [show (skipTrivia s).rest.drop k = sp ++ (l ++ s2.rest) from hrest]⟩

theorem run_rules_inv (n : Nat) : ∀ s s', run n .grammarRule s = .ok () s' →
    ∃ rules trailing, RuleOut s s' rules trailing ∧
      ∀ t0, TrE t0 s.rest → RulesFrom rules trailing t0 := by
  induction n using Nat.strongRecOn with
  | _ n ih =>
    intro s s' h
    cases n with
    | zero => simp [run] at h
    | succ n =>
      rcases run_marker_inv (outer := .grammarRule) rfl rfl (by decide) h with
        ⟨next, s1, hst, hnext⟩ | ⟨k', sp, l, s2, rfl, hsp, hl, hd, ho2, hrun2, hmark⟩
      · have hsa := skipTrivia_tre s
        rcases ruleTail_inv hst with ⟨rfl, rfl, hnil⟩ | ⟨rfl, hne, r, hdocs, hr, st⟩
        · -- the end of the text
          cases (hnext : s' = _)
          refine ⟨[], [], ⟨by simp, by simp, by simp [rulesKV]⟩, ?_⟩
          intro t0 ht0
          have h2 := skipTrivia_tre (skipTrivia s)
          rw [hnil] at h2
          obtain ⟨ws, e, hws, rfl, he⟩ := ((ht0.trans hsa).trans h2).endc
          exact ⟨ws, e, e, e, hws, rfl, rfl, rfl, he⟩
        · -- a rule
          obtain ⟨rules, trailing, ⟨v1, v2, ho⟩, htext⟩ := ih n (by omega) _ _ hnext
          refine ⟨r :: rules, trailing, ⟨?_, v2, ?_⟩, ?_⟩
          · intro q hq
            simp only [List.mem_cons] at hq
            rcases hq with rfl | hq
            · exact hr
            · exact v1 q hq
          · rw [ho, st.1]
            simp [rulesKV, CRule.kv, hdocs]
          · intro t0 ht0
            have hne' : (skipTrivia s).rest ≠ [] := by
              intro e
              apply hne
              have := skipTrivia_len (skipTrivia s)
              rw [e] at this
              simpa using this
            obtain ⟨ws0, hws0, rfl⟩ := (ht0.trans hsa).tr hne'
            obtain ⟨ws1, u, hws1, hu, hsc⟩ := st.2.toScA
            obtain ⟨ws2, t1, t2, e, hws2, ht1, hrs, htr, he⟩ := htext _ (TrE.refl _)
            rw [ht1] at hsc
            have hsc' := scA_absorb hsc hws2 (by simp [CRule.headKV])
            refine ⟨ws0 ++ ws1, u, t2, e, isTrivia_append hws0 hws1, by rw [hu]; simp, ?_, htr, he⟩
            exact ⟨u, t1, by rw [hdocs]; rfl, hsc', hrs⟩
      · -- a doc line
        obtain ⟨rules, trailing, ⟨v1, v2, ho⟩, htext⟩ := ih k' (by omega) _ _ hrun2
        obtain ⟨w1, w2⟩ := consDoc_valid l hl rules trailing v1 v2
        refine ⟨(consDoc l rules trailing).1, (consDoc l rules trailing).2, ⟨w1, w2, ?_⟩, ?_⟩
        · rw [ho, ho2, consDoc_kv]
          simp
        · intro t0 ht0
          obtain ⟨ws0, hws0, rfl⟩ := hmark t0 ht0
          exact consDoc_text hsp hws0 hd (htext _ (TrE.refl _))

theorem run_grammar_inv (n : Nat) : ∀ s s', run n .grammar s = .ok () s' →
    ∃ c : CGrammar, c.Valid ∧ out s' = out s ++ c.kv ∧ ∀ t0, TrE t0 s.rest → CGrammarText c t0 := by
  induction n using Nat.strongRecOn with
  | _ n ih =>
    intro s s' h
    cases n with
    | zero => simp [run] at h
    | succ n =>
      rcases run_marker_inv (outer := .grammar) rfl rfl (by decide) h with
        ⟨next, s1, hst, hnext⟩ | ⟨k', sp, l, s2, rfl, hsp, hl, hd, ho2, hrun2, hmark⟩
      · -- the rules
        obtain ⟨rfl, rfl⟩ := pure_inv hst
        obtain ⟨rules, trailing, ⟨v1, v2, ho⟩, htext⟩ := run_rules_inv n _ _ hnext
        refine ⟨⟨[], rules, trailing⟩, ⟨by simp, v1, v2⟩, ?_, ?_⟩
        · rw [ho]; simp [CGrammar.kv, rulesKV, docsKV]
        · intro t0 ht0
          obtain ⟨ws, t1, t2, e, hws, rfl, hrs, htr, he⟩ :=
            htext t0 (ht0.trans (skipTrivia_tre s))
          exact ⟨ws, t1, t1, t2, e, hws, rfl, rfl, hrs, htr, he⟩
      · -- a doc line
        obtain ⟨c, ⟨v1, v2, v3⟩, ho, htext⟩ := ih k' (by omega) _ _ hrun2
        refine ⟨⟨l :: c.gdocs, c.rules, c.trailing⟩, ⟨?_, v2, v3⟩, ?_, ?_⟩
        · intro x hx
          simp only [List.mem_cons] at hx
          rcases hx with rfl | hx
          · exact hl
          · exact v1 x hx
        · rw [ho, ho2]
          simp [CGrammar.kv, docKV]
        · intro t0 ht0
          obtain ⟨ws0, hws0, rfl⟩ := hmark t0 ht0
          obtain ⟨lead, u0, u1, u2, e, hlead, hu, hg, hrs, htr, he⟩ := htext _ (TrE.refl _)
          rw [hu] at hd ⊢
          exact ⟨ws0, _, u1, u2, e, hws0, rfl, ⟨sp, lead, u0, hsp, hlead, rfl, hd, hg⟩, hrs, htr, he⟩

/-- **Scanner inversion.**  Whatever the scanner accepts is a layout of a concrete syntax tree
    whose tokens (kinds and values) are the ones emitted. -/
theorem scan_inv {t : Text} {toks : List Token} (h : scan t = .ok toks) :
    ∃ c : CGrammar, c.Valid ∧ kvOf toks = c.kv ∧ CGrammarText c t := by
  dsimp only [scan] at h
  cases hr : run (3 * t.length + 3) .grammar (St.init t) with
  | ok u s' =>
    rw [hr] at h
    cases h
    obtain ⟨c, hv, ho, htext⟩ := run_grammar_inv _ _ _ hr
    refine ⟨c, hv, ?_, htext t (TrE.refl _)⟩
    simpa [out, St.init, kvOf] using ho
  | err k st v => rw [hr] at h; cases h
  | exc n => rw [hr] at h; cases h
  | oof => rw [hr] at h; cases h

end IS
end Front
end Pest
