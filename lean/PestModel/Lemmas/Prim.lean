/-
  Lemmas/Prim.lean — what the proofs about all three layers share about primitives: which nodes
  have no sub-expressions (`Expr.isLeaf`), the primitive matchers stay inside the input and never
  move backwards, lookups in the rule table return members of it, `fail()` in closed form.
-/
import PestModel.Interp

namespace Pest

/-- the nodes without sub-expressions: their `step` never calls `rec` -/
def Expr.isLeaf : Expr → Bool
  | .str _ | .ci _ | .range _ _ | .pushLit _ | .peek | .pop | .drop | .peekAll | .popAll
  | .peekSlice _ _ | .anyB | .soiB | .eoiB | .uprop _ | .skipUntil _ | .optChoice _ _ => true
  | _ => false

theorem ite_ind {α : Type} {P : α → Prop} {p : Prop} [Decidable p] {a b : α}
    (ha : p → P a) (hb : ¬p → P b) : P (if p then a else b) := by
  by_cases h : p
  · rw [if_pos h]; exact ha h
  · rw [if_neg h]; exact hb h

theorem ite_ind₂ {α β : Type} {P : α → β → Prop} {p : Prop} [Decidable p] {a b : α} {a' b' : β}
    (ha : p → P a a') (hb : ¬p → P b b') : P (if p then a else b) (if p then a' else b') := by
  by_cases h : p
  · rw [if_pos h, if_pos h]; exact ha h
  · rw [if_neg h, if_neg h]; exact hb h

namespace Prim

variable {inp : Input}

theorem getElem?_lt {p : Nat} {x : CP} (h : inp[p]? = some x) : p < inp.size :=
  (Array.getElem?_eq_some_iff.mp h).1

theorem getElem?_eq_head?_drop (p : Nat) : inp[p]? = (inp.toList.drop p).head? := by
  rw [List.head?_drop, Array.getElem?_toList]

/-- the model's `startsWithAt` (Python's `str.startswith(x, p)`) in the library's prefix order -/
theorem startsWithAt_iff : ∀ {x : Str} {p : Nat},
    startsWithAt inp x p = true ↔ p ≤ inp.size ∧ x <+: inp.toList.drop p
  | [], p => by simp [startsWithAt]
  | c :: x, p => by
    have hlen : (inp.toList.drop p).length = inp.size - p := by simp
    rw [startsWithAt, Bool.and_eq_true, startsWithAt_iff, getElem?_eq_head?_drop, ← List.tail_drop]
    generalize inp.toList.drop p = r at hlen
    cases r with
    | nil => simp
    | cons d r =>
      simp only [List.head?_cons, List.tail_cons, List.cons_prefix_cons, List.length_cons] at hlen ⊢
      constructor
      · rintro ⟨h1, _, h3⟩; exact ⟨by omega, (beq_iff_eq.1 h1).symm ▸ rfl, h3⟩
      · rintro ⟨_, h2, h3⟩; exact ⟨beq_iff_eq.2 (by rw [h2]), by omega, h3⟩

theorem startsWithAt_le {s : Str} {p : Nat} (h : startsWithAt inp s p = true) :
    p + s.length ≤ inp.size := by
  obtain ⟨hp, hx⟩ := startsWithAt_iff.1 h
  have := hx.length_le
  simp only [List.length_drop, Array.length_toList] at this
  omega

theorem startsWithAtCI_le : ∀ {s : Str} {p : Nat}, startsWithAtCI inp s p = true → p + s.length ≤ inp.size
  | [], p, h => by simpa [startsWithAtCI] using h
  | _ :: rest, p, h => by
    simp only [startsWithAtCI, Bool.and_eq_true] at h
    have := startsWithAtCI_le (s := rest) h.2
    simp only [List.length_cons]; omega

theorem matchAll_le : ∀ {ls : List Str} {p q : Nat}, L1.matchAll inp ls p = some q →
    p ≤ q ∧ (p ≤ inp.size → q ≤ inp.size)
  | [], p, q, h => by
    simp only [L1.matchAll, Option.some.injEq] at h; subst h; exact ⟨Nat.le_refl _, id⟩
  | l :: ls, p, q, h => by
    simp only [L1.matchAll] at h
    by_cases hm : startsWithAt inp l p = true
    · rw [if_pos hm] at h
      have h1 := startsWithAt_le hm
      have h2 := matchAll_le h
      exact ⟨by omega, fun _ => h2.2 h1⟩
    · rw [if_neg hm] at h; cases h

theorem findFrom_go_le {s : Str} : ∀ {k p q : Nat}, findFrom.go inp s k p = some q →
    p ≤ q ∧ q ≤ inp.size ∧ startsWithAt inp s q = true
  | 0, p, q, h => by simp [findFrom.go] at h
  | k + 1, p, q, h => by
    simp only [findFrom.go] at h
    by_cases hm : startsWithAt inp s p = true
    · rw [if_pos hm] at h; cases h
      have := startsWithAt_le hm
      exact ⟨Nat.le_refl _, by omega, hm⟩
    · rw [if_neg hm] at h
      have := findFrom_go_le h
      exact ⟨by omega, this.2⟩

theorem findFrom_le {s : Str} {p q : Nat} (h : findFrom inp s p = some q) :
    p ≤ q ∧ q ≤ inp.size ∧ startsWithAt inp s q = true := by
  unfold findFrom at h
  by_cases hp : p > inp.size
  · rw [if_pos hp] at h; cases h
  · rw [if_neg hp] at h; exact findFrom_go_le h

theorem foldl_pres {α β} {P : β → Prop} {f : β → α → β} (hf : ∀ b a, P b → P (f b a)) :
    ∀ (l : List α) (b : β), P b → P (l.foldl f b)
  | [], _, hb => hb
  | a :: l, b, hb => foldl_pres hf l (f b a) (hf b a hb)

theorem foldl_none {α β : Type} (f : β → α → Option β) : ∀ (l : List α),
    l.foldl (fun acc x => acc.bind fun s => f s x) (none : Option β) = none
  | [] => rfl
  | _ :: l => by simpa using foldl_none f l

theorem skipUntilPos_le (subs : List Str) {p : Nat} (hp : p ≤ inp.size) :
    p ≤ L1.skipUntilPos inp subs p ∧ L1.skipUntilPos inp subs p ≤ inp.size := by
  unfold L1.skipUntilPos
  simp only []
  generalize hbest : subs.foldl _ none = best
  have h : ∀ q, best = some q → p ≤ q ∧ q ≤ inp.size := by
    subst hbest
    refine foldl_pres (P := fun b => ∀ q, b = some q → p ≤ q ∧ q ≤ inp.size) ?_ subs none
      (fun q h => by cases h)
    intro b s hb q hq
    cases hf : findFrom inp s p with
    | none => rw [hf] at hq; exact hb q hq
    | some r =>
      rw [hf] at hq
      have hr : p ≤ r ∧ r ≤ inp.size := ⟨(findFrom_le hf).1, (findFrom_le hf).2.1⟩
      cases b with
      | none => cases hq; exact hr
      | some q0 =>
        dsimp only [] at hq
        by_cases hlt : r < q0
        · rw [if_pos hlt] at hq; cases hq; exact hr
        · rw [if_neg hlt] at hq; cases hq; exact hb _ rfl
  cases best with
  | none => exact ⟨hp, Nat.le_refl _⟩
  | some q => exact h q rfl

variable {g : Grammar}

theorem optMatchOnce_le {alts : List Alt} {p q : Nat} (h : L1.optMatchOnce g inp alts p = some q) :
    p ≤ q ∧ q ≤ inp.size := by
  unfold L1.optMatchOnce at h
  dsimp only [] at h
  revert h
  generalize hS : List.find? (fun x => startsWithAt inp x p) _ = oS
  cases oS with
  | some s =>
    intro h; cases h
    have hm := List.find?_some hS
    have := startsWithAt_le hm
    exact ⟨Nat.le_add_right _ _, this⟩
  | none =>
    dsimp only []
    generalize hI : List.find? (fun x => startsWithAtCI inp x p) _ = oI
    cases oI with
    | some s =>
      intro h; cases h
      have hm := List.find?_some hI
      have := startsWithAtCI_le hm
      exact ⟨Nat.le_add_right _ _, this⟩
    | none =>
      dsimp only []
      cases hc : inp[p]? with
      | none => intro h; cases h
      | some c =>
        have := getElem?_lt hc
        dsimp only []
        intro h
        generalize (List.any _ fun x => g.uprop x c) = viaProp at h
        generalize (_ && L1.classAccepts alts c) = viaClass at h
        cases viaProp
        · cases viaClass
          · cases h
          · cases h; exact ⟨Nat.le_add_right _ _, this⟩
        · cases h; exact ⟨Nat.le_add_right _ _, this⟩

theorem optMatchStar_le (alts : List Alt) : ∀ (k p : Nat),
    p ≤ L1.optMatchStar g inp alts k p ∧ (p ≤ inp.size → L1.optMatchStar g inp alts k p ≤ inp.size)
  | 0, p => ⟨Nat.le_refl _, id⟩
  | k + 1, p => by
    simp only [L1.optMatchStar]
    cases ho : L1.optMatchOnce g inp alts p with
    | none => exact ⟨Nat.le_refl _, id⟩
    | some q =>
      dsimp only []
      have hq := optMatchOnce_le ho
      by_cases hlt : q > p
      · rw [if_pos hlt]
        have := optMatchStar_le alts k q
        exact ⟨by omega, fun _ => this.2 hq.2⟩
      · rw [if_neg hlt]; exact ⟨Nat.le_refl _, id⟩

theorem optMatch_le {alts : List Alt} {star : Bool} {p q : Nat}
    (h : L1.optMatch g inp alts star p = some q) : p ≤ q ∧ (p ≤ inp.size → q ≤ inp.size) := by
  unfold L1.optMatch at h
  by_cases he : alts.isEmpty = true
  · rw [if_pos he] at h; cases h; exact ⟨Nat.le_refl _, id⟩
  · rw [if_neg he] at h
    by_cases hs : star = true
    · rw [if_pos hs] at h; cases h; exact optMatchStar_le alts _ p
    · rw [if_neg hs] at h
      exact ⟨(optMatchOnce_le h).1, fun _ => (optMatchOnce_le h).2⟩

theorem lookup_mem {n : String} {r : Rule} (h : g.lookup n = some r) : r ∈ g.rules :=
  List.mem_of_find?_eq_some h

theorem lookup_name {n : String} {r : Rule} (h : g.lookup n = some r) : r.name = n := by
  simpa using List.find?_some h

theorem fusedSkip_lookup {r : Rule} (h : g.fusedSkip = some r) : g.lookup "SKIP" = some r := by
  unfold Grammar.fusedSkip at h
  cases hl : g.lookup "SKIP" with
  | none => rw [hl] at h; cases h
  | some r' =>
    rw [hl] at h
    dsimp only [] at h
    by_cases hm : (r'.mod == SILENT + ATOMIC) = true
    · rw [if_pos hm] at h; cases h; rfl
    · rw [if_neg hm] at h; cases h

theorem fusedSkip_mem {r : Rule} (h : g.fusedSkip = some r) : r ∈ g.rules :=
  lookup_mem (fusedSkip_lookup h)

theorem allL_iff {f : Expr → Bool} {fL : List Expr → Bool} (hnil : fL [] = true)
    (hcons : ∀ e es, fL (e :: es) = (f e && fL es)) (es : List Expr) :
    fL es = true ↔ ∀ e ∈ es, f e = true := by
  induction es with
  | nil => exact ⟨(fun _ _ h => nomatch h), fun _ => hnil⟩
  | cons e rest ih => rw [hcons, Bool.and_eq_true, ih, List.forall_mem_cons]

/-- the members of the unrolled form are the repeated expression `a`, `a?` and `a*` -/
theorem unrolled_all {f : Expr → Bool} (hopt : ∀ a, f (.opt a) = f a) (hrep : ∀ a, f (.rep a) = f a)
    (h1 : ∀ a, f (.rep1 a) = f a) (hex : ∀ a n, f (.repExact a n) = f a)
    (hmin : ∀ a n, f (.repMin a n) = f a) (hmax : ∀ a n, f (.repMax a n) = f a)
    (hmm : ∀ a m n, f (.repMinMax a m n) = f a)
    {e : Expr} {es : List Expr} (hu : L1.unrolled e = some es) (h : f e = true) :
    ∀ x ∈ es, f x = true := by
  unfold L1.unrolled at hu
  split at hu
  · next a =>
    cases hu; rw [h1] at h
    exact List.forall_mem_cons.2 ⟨h, List.forall_mem_singleton.2 (hrep a ▸ h)⟩
  · next a n => cases hu; rw [hex] at h; exact List.forall_mem_replicate.2 (.inr h)
  · next a n =>
    cases hu; rw [hmin] at h
    exact List.forall_mem_append.2
      ⟨List.forall_mem_replicate.2 (.inr h), List.forall_mem_singleton.2 (hrep a ▸ h)⟩
  · next a n => cases hu; rw [hmax] at h; exact List.forall_mem_replicate.2 (.inr (hopt a ▸ h))
  · next a m n =>
    cases hu; rw [hmm] at h
    exact List.forall_mem_append.2
      ⟨List.forall_mem_replicate.2 (.inr h), List.forall_mem_replicate.2 (.inr (hopt a ▸ h))⟩
  · cases hu

end Prim

theorem failRecord_eq (c : PState) (name : String) (p : Nat) : ∃ fs fe fu,
    c.failRecord name p =
      { c with fpos := if (p : Int) > c.fpos then (p : Int) else c.fpos,
               fstack := fs, fexp := fe, funexp := fu } := by
  unfold PState.failRecord
  by_cases h1 : (p : Int) > c.fpos
  · simp only [if_pos h1]; exact ⟨_, _, _, rfl⟩
  · simp only [if_neg h1]
    by_cases h2 : (p : Int) = c.fpos
    · simp only [if_pos h2]
      by_cases h3 : (c.negDepth % 2 == 1) = true
      · simp only [if_pos h3]; exact ⟨_, _, _, rfl⟩
      · simp only [if_neg h3]; exact ⟨_, _, _, rfl⟩
    · simp only [if_neg h2]; exact ⟨_, _, _, rfl⟩

theorem fail_eq {c c' : PState} {rn : Option String} {force : Bool} {pa : Option Nat}
    (h : c.fail rn force pa = some c') : ∃ fs fe fu,
    c' = { c with
      fpos := if ((c.negDepth > 0 && !force) || c.suppress) = true then c.fpos
              else if (c.failPos pa : Int) > c.fpos then (c.failPos pa : Int) else c.fpos,
      fstack := fs, fexp := fe, funexp := fu } := by
  unfold PState.fail at h
  by_cases hs : ((c.negDepth > 0 && !force) || c.suppress) = true
  · rw [if_pos hs] at h; cases h; rw [if_pos hs]; exact ⟨_, _, _, rfl⟩
  · rw [if_neg hs] at h
    rw [if_neg hs]
    cases hn : c.failName rn with
    | none => rw [hn] at h; cases h
    | some nm => rw [hn] at h; cases h; exact failRecord_eq c nm _

end Pest
