/-
  Lemmas/OptSoundTR.lean — the syntactic rewrite relation `TR` of the optimizer passes.

  `TR F G a e e'`: `e'` is obtained from `e` (an expression of a rule body of the *current* rule
  table `G`) by rewriting some nodes the way the passes do, each rewrite carrying the side
  condition under which it is sound; `a` is the atomicity flag of the states in which `e` runs
  (the same at every node of `e`: `TR.ruleC` rewrites only under embedded rule nodes that leave the
  flag alone, which by `NodeOK` all of them do); `F` switches the `squash` / `skip` rewrites on.

  Syntax only (of OptSoundBase it needs `isTerm`, of OptMatch `AltOK`).  Two files rest on it independently of each
  other: OptSoundSim (what a `TR` step means) and OptSoundPass (the passes make `TR` steps).
  A new rewrite is a new constructor; the theorems with a case per constructor are `TR.sim_induct`
  (OptSoundSim: the congruence cases are one case there, a rewrite gets an argument of its own in `fwd`
  and in `rev`), `sq_term`, `TR.keeps` and `TR.root_facts` (OptSoundPass), whose second conjunct relies on
  no rewrite turning a non-terminal root into a terminal.
-/
import PestModel.Lemmas.OptSoundBase
import PestModel.Lemmas.AllN
import PestModel.Lemmas.OptMatch

namespace Pest
namespace OptS

open L0

/-- a rule that changes nothing but the grouping of pairs (it has none) -/
def plainSilent (m : Nat) : Prop :=
  hasBit m SILENT = true ∧ hasBit m ATOMIC = false ∧ hasBit m COMPOUND = false ∧ hasBit m NONATOMIC = false

instance (m : Nat) : Decidable (plainSilent m) := by unfold plainSilent; exact inferInstance

theorem ruleAtomic_id {n : String} {m : Nat}
    (hm : hasBit m ATOMIC = false ∧ hasBit m COMPOUND = false ∧ hasBit m NONATOMIC = false)
    (hn : L1.isTriviaName n = false) (b : Bool) : ruleAtomic n m b = b := by
  simp [ruleAtomic, hm.1, hm.2.1, hm.2.2, hn]

structure Feat where
  squash : Bool
  skip : Bool

def NoTrivia (G : Grammar) : Prop :=
  G.fusedSkip = none ∧ G.lookup "WHITESPACE" = none ∧ G.lookup "COMMENT" = none

/-- the `Rep-NegPred-Any` shape that `skip` rewrites, with what the rewrite needs to be sound -/
def SkipPat (G : Grammar) (a : Bool) (e : Expr) (subs : List Str) : Prop :=
  ∃ inner anyN t x k,
    e = .rep (.group (.seq [.notP inner, anyN]) t) ∧
    (∃ m sm, anyN = .rule "ANY" m sm .anyB ∧ hasBit m SILENT = true) ∧
    (x = inner ∨ ∃ n m sm, inner = .rule n m sm x) ∧
    Opt.skipCollect G.rules k x [] = some subs ∧
    (a = true ∨ NoTrivia G)

/-- what `squash` needs of the nodes it flattens: embedded rule nodes are silent and a Unicode
    property rule carries its own name; a nested `OptimizedChoice` is not the repeating kind and
    not empty; a range is not reversed (as in `AltOK`, Lemmas/OptMatch.lean) -/
def SqOK : Expr → Prop
  | .rule n m _ b => (∀ pn, b = .uprop pn → pn = n ∧ hasBit m SILENT = true) ∧
      (∀ es, b = .choice es → hasBit m SILENT = true)
  | .choice es => es ≠ []
  | .optChoice alts star => star = false ∧ alts ≠ [] ∧ ∀ a ∈ alts, AltOK a
  | .range a b => a ≤ b
  | _ => True

/-- a `Choice` whose (already rewritten) alternatives `squash` turns into `alts` -/
def SqPat (G : Grammar) (es' : List Expr) (alts : List Alt) : Prop :=
  ∃ k, Opt.squash k es' [] = some alts ∧ alts ≠ [] ∧ Opt.isOrderPreserving G alts = true ∧
    AllNL SqOK es'

/-- the successful runs of `Opt.squash`: `es` flattens to `new` -/
inductive Sq : List Expr → List Alt → Prop
  | nil : Sq [] []
  | str {x rest new} : Sq rest new → Sq (.str x :: rest) (.lit x false :: new)
  | ci {x rest new} : Sq rest new → Sq (.ci x :: rest) (.lit x true :: new)
  | range {lo hi rest new} : Sq rest new → Sq (.range lo hi :: rest) (.range lo hi :: new)
  | uprop {n m sm pn rest new} : Sq rest new → Sq (.rule n m sm (.uprop pn) :: rest) (.uprop n :: new)
  | optChoice {al st rest new} : Sq rest new → Sq (.optChoice al st :: rest) (al ++ new)
  | choice {es rest new1 new} : Sq es new1 → Sq rest new → Sq (.choice es :: rest) (new1 ++ new)
  | ruleChoice {n m sm es rest new1 new} : Sq es new1 → Sq rest new →
      Sq (.rule n m sm (.choice es) :: rest) (new1 ++ new)

theorem squash_Sq_acc : ∀ (k : Nat) (es : List Expr) (acc alts : List Alt),
    Opt.squash k es acc = some alts → ∃ new, alts = acc ++ new ∧ Sq es new := by
  intro k
  induction k with
  | zero => intro es acc alts h; simp [Opt.squash] at h
  | succ k ih =>
    intro es acc alts h
    cases es with
    | nil =>
      simp only [Opt.squash, Option.some.injEq] at h
      exact ⟨[], by rw [h, List.append_nil], .nil⟩
    | cons e rest =>
      simp only [Opt.squash] at h
      split at h
      · exact absurd h (by simp)
      · rename_i acc' hone
        obtain ⟨new, h2, s2⟩ := ih rest acc' alts h
        have key : ∀ new1, acc' = acc ++ new1 → alts = acc ++ (new1 ++ new) := by
          intro new1 h1; rw [h2, h1, List.append_assoc]
        cases e with
        | str x => exact ⟨_, key [_] (Option.some.inj hone).symm, .str s2⟩
        | ci x => exact ⟨_, key [_] (Option.some.inj hone).symm, .ci s2⟩
        | range lo hi => exact ⟨_, key [_] (Option.some.inj hone).symm, .range s2⟩
        | optChoice al st => exact ⟨_, key al (Option.some.inj hone).symm, .optChoice s2⟩
        | choice es1 =>
          obtain ⟨new1, h1, s1⟩ := ih es1 acc acc' hone
          exact ⟨_, key new1 h1, .choice s1 s2⟩
        | rule n m sm b =>
          cases b with
          | uprop pn => exact ⟨_, key [_] (Option.some.inj hone).symm, .uprop s2⟩
          | choice es1 =>
            obtain ⟨new1, h1, s1⟩ := ih es1 acc acc' hone
            exact ⟨_, key new1 h1, .ruleChoice s1 s2⟩
          | _ => simp at hone
        | _ => simp at hone

theorem squash_Sq {k : Nat} {es : List Expr} {alts : List Alt} (h : Opt.squash k es [] = some alts) :
    Sq es alts := by
  obtain ⟨new, h1, h2⟩ := squash_Sq_acc k es [] alts h
  rw [h1, List.nil_append]
  exact h2

theorem Sq.altOK {es : List Expr} {new : List Alt} (h : Sq es new) :
    AllNL SqOK es → ∀ a ∈ new, AltOK a := by
  induction h with
  | nil => exact fun _ _ ha => (List.not_mem_nil ha).elim
  | str _ ih | ci _ ih | uprop _ ih =>
    exact fun hes a ha => (List.mem_cons.1 ha).elim (fun e => e ▸ trivial) (ih hes.2 a)
  | range _ ih =>
    exact fun hes a ha => (List.mem_cons.1 ha).elim (fun e => e ▸ (hes.1 : SqOK (.range _ _))) (ih hes.2 a)
  | optChoice _ ih =>
    exact fun hes a ha => (List.mem_append.1 ha).elim ((hes.1 : SqOK (.optChoice _ _)).2.2 a) (ih hes.2 a)
  | choice _ _ ih1 ih =>
    exact fun hes a ha => (List.mem_append.1 ha).elim (ih1 hes.1.2 a) (ih hes.2 a)
  | ruleChoice _ _ ih1 ih =>
    exact fun hes a ha => (List.mem_append.1 ha).elim (ih1 hes.1.2.2 a) (ih hes.2 a)

inductive TR (F : Feat) (G : Grammar) : Bool → Expr → Expr → Prop
  | term {a e} : isTerm e = true → TR F G a e e
  | ident {a n t} : TR F G a (.ident n t) (.ident n t)
  | rule {a n m sm b} : TR F G a (.rule n m sm b) (.rule n m sm b)
  | ruleC {a n m sm b b'} : ruleAtomic n m a = a → TR F G a b b' → TR F G a (.rule n m sm b) (.rule n m sm b')
  | seq {a es es'} : es.length = es'.length →
      (∀ i (h1 : i < es.length) (h2 : i < es'.length), TR F G a es[i] es'[i]) → TR F G a (.seq es) (.seq es')
  | choice {a es es'} : es.length = es'.length →
      (∀ i (h1 : i < es.length) (h2 : i < es'.length), TR F G a es[i] es'[i]) →
      TR F G a (.choice es) (.choice es')
  | opt {a e e'} : TR F G a e e' → TR F G a (.opt e) (.opt e')
  | rep {a e e'} : TR F G a e e' → TR F G a (.rep e) (.rep e')
  | rep1 {a e e'} : TR F G a e e' → TR F G a (.rep1 e) (.rep1 e')
  | repExact {a e e' n} : TR F G a e e' → TR F G a (.repExact e n) (.repExact e' n)
  | repMin {a e e' n} : TR F G a e e' → TR F G a (.repMin e n) (.repMin e' n)
  | repMax {a e e' n} : TR F G a e e' → TR F G a (.repMax e n) (.repMax e' n)
  | repMinMax {a e e' m n} : TR F G a e e' → TR F G a (.repMinMax e m n) (.repMinMax e' m n)
  | andP {a e e'} : TR F G a e e' → TR F G a (.andP e) (.andP e')
  | notP {a e e'} : TR F G a e e' → TR F G a (.notP e) (.notP e')
  | group {a e e' t} : TR F G a e e' → TR F G a (.group e t) (.group e' t)
  | push {a e e'} : TR F G a e e' → TR F G a (.push e) (.push e')
  -- unroll (applied after the children)
  | unroll1 {a e e'} : TR F G a e e' → TR F G a (.rep1 e) (.seq [e', .rep e'])
  | unroll1g {a e x'} : TR F G a e (.group x' none) → TR F G a (.rep1 e) (.seq [x', .rep (.group x' none)])
  | unrollExact {a e e' n} : TR F G a e e' → TR F G a (.repExact e n) (.seq (List.replicate n e'))
  | unrollMin {a e e' n} : TR F G a e e' → TR F G a (.repMin e n) (.seq (List.replicate n e' ++ [.rep e']))
  | unrollMax {a e e' n} : TR F G a e e' → TR F G a (.repMax e n) (.seq (List.replicate n (.opt e')))
  | unrollMinMax {a e e' m n} : TR F G a e e' →
      TR F G a (.repMinMax e m n) (.seq (List.replicate m e' ++ List.replicate (n - m) (.opt e')))
  -- inline_builtin (applied before the children of the result)
  | inlB {a n m sm b b'} : plainSilent m → L1.isTriviaName n = false → TR F G a b b' →
      TR F G a (.rule n m sm b) b'
  -- inline_silent_rules
  | inlS {a n r b'} : G.lookup n = some r → hasBit r.mod SILENT = true → ruleAtomic r.name r.mod a = a →
      TR F G a r.body b' → TR F G a (.ident n none) b'
  -- squash_choice (applied after the children)
  | squash {a es es' alts} : F.squash = true → es.length = es'.length →
      (∀ i (h1 : i < es.length) (h2 : i < es'.length), TR F G a es[i] es'[i]) →
      SqPat G es' alts → TR F G a (.choice es) (.optChoice alts false)
  -- skip
  | skip {a e subs} : F.skip = true → SkipPat G a e subs → TR F G a e (.skipUntil subs)

theorem TR.refl (F : Feat) (G : Grammar) : ∀ (e : Expr) (a : Bool), TR F G a e e := by
  intro e
  induction e using Expr.children_ind with
  | _ e ih =>
    intro a
    have one : ∀ c, Opt.children e = [c] → TR F G a c c := fun c h => ih c (h ▸ List.mem_singleton.2 rfl) a
    cases e with
    | rule _ _ _ _ => exact .rule
    | ident _ _ => exact .ident
    | seq es => exact .seq rfl fun i h1 _ => ih _ (List.getElem_mem h1) a
    | choice es => exact .choice rfl fun i h1 _ => ih _ (List.getElem_mem h1) a
    | opt e => exact .opt (one e rfl)
    | rep e => exact .rep (one e rfl)
    | rep1 e => exact .rep1 (one e rfl)
    | repExact e _ => exact .repExact (one e rfl)
    | repMin e _ => exact .repMin (one e rfl)
    | repMax e _ => exact .repMax (one e rfl)
    | repMinMax e _ _ => exact .repMinMax (one e rfl)
    | andP e => exact .andP (one e rfl)
    | notP e => exact .notP (one e rfl)
    | group e _ => exact .group (one e rfl)
    | push e => exact .push (one e rfl)
    | _ => exact .term rfl

theorem TR.reflL (F : Feat) (G : Grammar) : ∀ (es : List Expr) (a : Bool) (i : Nat) (h : i < es.length),
    TR F G a es[i] es[i] :=
  fun es a i _ => TR.refl F G es[i] a

end OptS
end Pest
