/-
  Lemmas/FrontScanAst.lean — the scanner half of the C10 round trip: the accept half
  (Lemmas/FrontAccScan.lean) read on source-level grammars.  A layout of a well-formed grammar is a
  layout of a concrete syntax tree that abstracts to it (`IG.ctree_of_text'`; for the printer's
  spelling, `GrammarText g t` of Front/AstTrivia.lean, with exactly the grammar's tokens:
  `IG.ctree_of_text`), so the statements are instances of `scan_accept_c`; the printer's own texts
  are such layouts (Lemmas/FrontPrintText.lean).  Three samples show that the hypotheses are met.
  Read after Lemmas/FrontAccScan.lean, Lemmas/FrontCstGlue.lean and Lemmas/FrontPrintText.lean.
-/
import PestModel.Lemmas.FrontCstGlue
import PestModel.Lemmas.FrontAccScan
import PestModel.Lemmas.FrontPrintText

namespace Pest
namespace Front

/-- **Scanner ACCEPT half, every spelling.**  Any text that is a layout of a well-formed
    source-level grammar in the generalised sense of Front/AstText2.lean (arbitrary trivia, any
    escapes in literals, trivia behind `^`, leading zeros, CR LF or the end of the text behind a
    doc line, an unterminated line comment at the end) is accepted by the scanner, and the
    tokens are the items of the grammar: same kinds, same values — numbers, integers and
    character literals carrying their spelling. -/
theorem scan_accept_text' (g : SGrammar) (h : g.WF') {t : Text} (ht : GrammarText' g t) :
    ∃ toks, scan t = .ok toks ∧ Act g.kv (kvOf toks) := by
  obtain ⟨c, hc, hv, hsep, htext⟩ := IG.ctree_of_text' h ht
  obtain ⟨toks, hs, hkv⟩ := scan_accept_c c hv hsep htext
  exact ⟨toks, hs, hkv ▸ IG.ctree_act hc hv⟩

/-- **C10, scanner half, every layout.**  Any text that spells the tokens of a well-formed
    grammar with arbitrary (possibly empty) trivia between them scans to exactly those tokens. -/
theorem scan_roundtrip_text (g : SGrammar) (h : g.WF) {t : Text} (ht : GrammarText g t) :
    ∃ toks, scan t = .ok toks ∧ kvOf toks = g.kv := by
  obtain ⟨c, _, hv, hsep, htext, hkv⟩ := IG.ctree_of_text h ht
  exact hkv ▸ scan_accept_c c hv hsep htext

/-- **C10, scanner half, with explicit separators**: leading trivia `lead`, and `sep i` behind
    the `i`-th item (doc line or token); every `sep i` may be empty. -/
theorem scan_roundtrip_trivia (g : SGrammar) (h : g.WF) (lead : Text) (sep : Nat → Text)
    (hl : IsTrivia lead) (hs : ∀ i, IsTrivia (sep i)) :
    ∃ toks, scan (g.prettyWith lead sep) = .ok toks ∧ kvOf toks = g.kv :=
  scan_roundtrip_text g h (TRT.grammarText_prettyWith g hl hs)

/-- **C10, scanner half.**  Scanning the canonical text of a well-formed source-level grammar
    succeeds and gives exactly the expected tokens (kinds and values): every node kind, tags,
    prefix and postfix chains (all brace forms), leading `|`, nesting to any depth, slices,
    escaped literals, character ranges, keyword identifiers, modifiers, doc comments, any number
    of rules. -/
theorem scan_roundtrip (g : SGrammar) (h : g.WF) :
    ∃ toks, scan g.pretty = .ok toks ∧ kvOf toks = g.kv :=
  scan_roundtrip_text g h (TRT.grammarText_pretty g)

theorem scan_roundtrip' (g : SGrammar) (h : g.WF) :
    ∃ toks, scan g.pretty = .ok toks ∧ kvOf toks = g.kv :=
  scan_roundtrip g h

/-! ### a concrete instance: the hypothesis is met by a grammar using every construct -/

namespace RT.Sample

instance : DecidablePred IsIdent := fun t => by unfold IsIdent; infer_instance
instance : DecidablePred IsDocLine := fun t => by unfold IsDocLine; infer_instance
instance : DecidablePred IsTagName := fun t => by unfold IsTagName; split <;> infer_instance
instance : DecidablePred WFPost := fun p => by cases p <;> unfold WFPost <;> infer_instance

def tx (x : String) : Text := x.toList.map Char.toNat
def idt (x : String) : STerm := .mk none [] (.ident (tx x)) []

/-- `a ~ #t = ( | b | POP ) * ? { 2 , 30 } | & ! ! "x\"y\\z<LF>" { 7 } ~ #u = ANY { , 0 } ~ '\\' .. 'È' { 12 , }
    | ! PEEK [ -12 .. ] ~ PEEK [ .. 3 ] + | PUSH ( PEEK ) ~ PUSH_LITERAL ( "q\\" ) | #_9 = & ^"Z"` -/
def body : SExpr :=
  .cons (idt "a") false
  (.cons (.mk (some (tx "t")) [] (.paren true (.cons (idt "b") true (.one (idt "POP"))))
      [.rep, .opt, .minmax 2 30]) true
  (.cons (.mk none [true, false, false] (.str (tx "x\"y\\z\n")) [.exact 7]) false
  (.cons (.mk (some (tx "u")) [] (.ident (tx "ANY")) [.max 0]) false
  (.cons (.mk none [] (.range 92 200) [.min 12]) true
  (.cons (.mk none [false] (.slice (some (-12)) none) []) false
  (.cons (.mk none [] (.slice none (some 3)) [.rep1]) true
  (.cons (.mk none [] (.push false (.one (idt "PEEK"))) []) false
  (.cons (.mk none [] (.pushLit (tx "q\\")) []) true
  (.one (.mk (some (tx "_9")) [true] (.ci (tx "Z")) []))))))))))

def grammar : SGrammar :=
  ⟨[tx " top", tx ""],
   [⟨[tx " d1", tx "d2\r x"], tx "r_1", some 95, true, body⟩,
    ⟨[], tx "POPCORN", none, false, .one (idt "r_1")⟩,
    ⟨[tx "x"], tx "r_1", some 33, false, .one (idt "EOI")⟩],
   [tx " tail"]⟩

theorem grammar_wf : grammar.WF := by
  dsimp only [grammar, SGrammar.WF]
  refine ⟨by decide, ?_, by decide⟩
  intro r hr
  simp only [List.mem_cons, List.not_mem_nil, or_false] at hr
  rcases hr with rfl | rfl | rfl
  all_goals
    dsimp only [SRule.WF, body, idt, SExpr.WF, STerm.WF, SNode.WF]
    decide +kernel

example : ∃ toks, scan grammar.pretty = .ok toks ∧ kvOf toks = grammar.kv :=
  scan_roundtrip grammar grammar_wf

end RT.Sample

/-! ### a concrete instance: all kinds of trivia, and none, between the tokens of the sample -/

namespace TRT.Sample
open RT.Sample

/-- `/* a /* b */ * / */` -/
def nested : Text := tx "/* a /* b */ * / */"

theorem nested_block : IsBlock nested := by
  have e : nested =
      47 :: 42 :: [32, 97, 32, 47, 42, 32, 98, 32, 42, 47, 32, 42, 32, 47, 32, 42, 47] := by rfl
  rw [e]
  apply isBlock_of_BB
  exact .plain 32 (by decide) (by decide) (.plain 97 (by decide) (by decide)
    (.plain 32 (by decide) (by decide) (.opn (.plain 32 (by decide) (by decide)
    (.plain 98 (by decide) (by decide) (.plain 32 (by decide) (by decide) (.closeS
    (.plain 32 (by decide) (by decide) (.chr 42 (by decide) (by decide)
    (.plain 32 (by decide) (by decide) (.chr 47 (by decide) (by decide)
    (.plain 32 (by decide) (by decide) .close))))))))))))

/-- the separator behind item `i`: nothing, a nested block comment between blanks, a line
    comment, CR LF + tab -/
def sep (i : Nat) : Text :=
  match i % 4 with
  | 0 => []
  | 1 => 32 :: (nested ++ [32])
  | 2 => tx "// c\r x\n"
  | _ => [13, 10, 9]

theorem sep_trivia (i : Nat) : IsTrivia (sep i) := by
  unfold sep
  split
  · exact .nil
  · exact .sp (.block nested_block (.sp .nil))
  · have e : tx "// c\r x\n" = 47 :: 47 :: ([32, 99, 13, 32, 120] ++ 10 :: []) := by rfl
    rw [e]
    exact .line _ (by decide) (by decide) (by decide) .nil
  · exact .crlf (.tab .nil)

example : ∃ toks, scan (grammar.prettyWith (tx "\n/**/ ") sep) = .ok toks ∧
    kvOf toks = grammar.kv :=
  scan_roundtrip_trivia grammar grammar_wf _ sep
    (.lf (.block (isBlock_flat [] (by simp)) (.sp .nil))) sep_trivia

end TRT.Sample

/-- the spellings of the tokens one after the other, with no trivia between them, are a layout: the
    way to show that a text written out is one -/
theorem sc'_spellings (tl : Text) : ∀ L : List (KV × Text), (∀ p ∈ L, Spells p.1 p.2) →
    Sc' (L.map Prod.fst) ((L.map Prod.snd).flatten ++ tl) tl
  | [], _ => .nil tl
  | p :: L, h => by
    have := Sc'.cons p.1 (h p List.mem_cons_self) .nil
      (sc'_spellings tl L fun q hq => h q (List.mem_cons_of_mem _ hq))
    simpa using this

namespace IA

/-! ### a concrete instance using the spellings `GrammarText` leaves out

The text `a={"\n"{007}~^ "x"~'\x41'..'b'}//c` (no final line break): an escape in a string, leading
zeros in a bound, a blank between `^` and its string, an escape in a character literal, no trivia
between the other tokens, and an unterminated line comment at the end. -/

namespace Sample

/-- `"\n"{7} ~ ^"x" ~ 'A'..'b'` -/
def body : SExpr :=
  .cons (.mk none [] (.str [10]) [.exact 7]) false
  (.cons (.mk none [] (.ci [120]) []) false
  (.one (.mk none [] (.range 65 98) [])))

def grammar : SGrammar := ⟨[], [⟨[], [97], none, false, body⟩], []⟩

/-- `a={"\n"{007}~^ "x"~'\x41'..'b'}//c` -/
def text : Text :=
  [97, 61, 123, 34, 92, 110, 34, 123, 48, 48, 55, 125, 126, 94, 32, 34, 120, 34, 126,
   39, 92, 120, 52, 49, 39, 46, 46, 39, 98, 39, 125, 47, 47, 99]

theorem grammar_wf : grammar.WF' := by
  dsimp only [grammar, SGrammar.WF']
  refine ⟨(fun _ h => nomatch h), ?_, (fun _ h => nomatch h)⟩
  intro r hr
  simp only [List.mem_cons, List.not_mem_nil, or_false] at hr
  subst hr
  dsimp only [SRule.WF', body, SExpr.WF', STerm.WF', SNode.WF']
  refine ⟨(fun _ h => nomatch h), ?_⟩
  unfold IsIdent; decide

theorem grammar_kv : grammar.kv =
    [(.identifier, [97]), (.assignOp, [61]), (.lbrace, [123]), (.string, [10]), (.lbrace, [123]),
     (.number, natDigits 7), (.rbrace, [125]), (.sequenceOp, [126]), (.stringCI, [120]),
     (.sequenceOp, [126]), (.char, charLit 65), (.rangeOp, [46, 46]), (.char, charLit 98),
     (.rbrace, [125])] := by
  rfl

theorem headKV_eq : (⟨[], [97], none, false, body⟩ : SRule).headKV =
    [(.identifier, [97]), (.assignOp, [61]), (.lbrace, [123]), (.string, [10]), (.lbrace, [123]),
     (.number, natDigits 7), (.rbrace, [125]), (.sequenceOp, [126]), (.stringCI, [120]),
     (.sequenceOp, [126]), (.char, charLit 65), (.rangeOp, [46, 46]), (.char, charLit 98),
     (.rbrace, [125])] := by
  rfl

theorem text_layout : GrammarText' grammar text := by
  refine ⟨[], text, text, [47, 47, 99], [47, 47, 99], .nil, rfl, rfl, ?_, rfl,
    .inr ⟨[99], rfl, by decide, by decide, by decide⟩⟩
  refine ⟨text, [47, 47, 99], rfl, ?_, rfl⟩
  rw [headKV_eq]
  refine sc'_spellings [47, 47, 99] [(_, [97]), (_, [61]), (_, [123]), (_, [34, 92, 110, 34]), (_, [123]),
    (_, [48, 48, 55]), (_, [125]), (_, [126]), (_, [94, 32, 34, 120, 34]), (_, [126]),
    (_, [39, 92, 120, 52, 49, 39]), (_, [46, 46]), (_, [39, 98, 39]), (_, [125])] ?_
  simp only [List.forall_mem_cons]
  exact ⟨rfl, rfl, rfl, ⟨[92, 110], rfl, .esc (e := [110]) (v := 10) (.simple 110 10 rfl) .nil⟩, rfl,
    ⟨7, rfl, by decide, by decide, by decide⟩, rfl, rfl,
    ⟨[32], [120], .sp .nil, rfl, .char 120 (by decide) (by decide) .nil⟩, rfl,
    ⟨65, rfl, .esc (e := [120, 52, 49]) (v := 65) (.code 52 49 4 1 rfl rfl)⟩, rfl,
    ⟨98, rfl, .raw 98 (by decide)⟩, rfl, fun _ h => nomatch h⟩

example : ∃ toks, scan text = .ok toks ∧ Act grammar.kv (kvOf toks) :=
  scan_accept_text' grammar grammar_wf text_layout

end Sample

end IA

/-! ### the nesting depth of a source-level tree

  It is at most the number of `(` tokens (`TRT.lp`).  The accept half compares the depth fuel of
  `accept_expression` with that number directly (`TRT.acceptExpression_ok`, `TRT.scA_lp`); the
  depth itself enters no proof. -/

namespace RT

mutual
def nodeDepth : SNode → Nat
  | .push _ e => exprDepth e + 1
  | .paren _ e => exprDepth e + 1
  | _ => 0
def termDepth : STerm → Nat
  | .mk _ _ nd _ => nodeDepth nd
def exprDepth : SExpr → Nat
  | .one t => termDepth t
  | .cons t _ r => max (termDepth t) (exprDepth r)
end

end RT

namespace TRT
open RT

mutual
theorem nodeDepth_lp : ∀ nd : SNode, nodeDepth nd ≤ lp nd.kv
  | .push b e => by
    have := exprDepth_lp e
    have h1 : lp [(TK.push, sPUSH), (TK.lparen, [40])] = 1 := by decide
    dsimp only [nodeDepth, SNode.kv]
    simp only [lp_append, h1]; omega
  | .paren b e => by
    have := exprDepth_lp e
    have h1 : lp [(TK.lparen, [40])] = 1 := by decide
    dsimp only [nodeDepth, SNode.kv]
    simp only [lp_append, h1]; omega
  | .str _ => Nat.zero_le _
  | .ci _ => Nat.zero_le _
  | .range _ _ => Nat.zero_le _
  | .ident _ => Nat.zero_le _
  | .pushLit _ => Nat.zero_le _
  | .slice _ _ => Nat.zero_le _
theorem termDepth_lp : ∀ t : STerm, termDepth t ≤ lp t.kv
  | .mk tag pre nd post => by
    have := nodeDepth_lp nd
    dsimp only [termDepth, STerm.kv]
    simp only [lp_append]; omega
theorem exprDepth_lp : ∀ e : SExpr, exprDepth e ≤ lp e.kv
  | .one t => by
    have := termDepth_lp t
    exact this
  | .cons t b r => by
    have h1 := termDepth_lp t
    have h2 := exprDepth_lp r
    dsimp only [exprDepth, SExpr.kv]
    simp only [lp_append]; omega
end

theorem lp_le (kvs : List KV) : lp kvs ≤ kvs.length := List.length_filter_le _ _

end TRT

namespace RT

theorem nodeDepth_le : ∀ nd : SNode, nodeDepth nd ≤ nd.kv.length :=
  fun nd => Nat.le_trans (TRT.nodeDepth_lp nd) (TRT.lp_le _)

theorem termDepth_le : ∀ t : STerm, termDepth t ≤ t.kv.length :=
  fun t => Nat.le_trans (TRT.termDepth_lp t) (TRT.lp_le _)

end RT

/-! ### a triple of the token level read on the layout of AST items

`Sc'` lays out items, the scanner emits tokens; `Act` relates the two (`IG.scA_of_sc'`). -/

namespace IA
open RT TRT

def Sp' {α} (m : M α) (inp : Text) (a : α) (tl : Text) (K : List KV) : Prop :=
  ∃ K', Act K K' ∧ Sp m inp a tl K'

theorem sp_prefixLoop' (pre : List Bool) (n : Nat) (inp tl : Text) (hn : pre.length < n)
    (hs : Sc' (pre.map preKV) inp tl) (htl : Hd nodeStart tl) :
    Sp' (prefixLoop n) inp () tl (pre.map preKV) := by
  obtain ⟨L, ha, hs'⟩ := IG.scA_of_sc' hs
  cases IG.act_plain_inv (fun kv hkv => by
    obtain ⟨b, _, rfl⟩ := List.mem_map.1 hkv
    cases b <;> decide) ha
  exact ⟨_, ha, sp_prefixLoop pre n inp tl hn hs' htl⟩

end IA
end Front
end Pest
