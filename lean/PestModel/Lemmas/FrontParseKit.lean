/-
  Lemmas/FrontParseKit.lean — facts about the functions of the grammar parser (Front/Parse.lean)
  whatever syntax tree the tokens come from (the tokens' `start` fields are arbitrary).  The tool is
  `IP.Reads eof m X L o` — `m` on tokens that spell `X`, with look-ahead condition `L` on what follows,
  succeeds exactly when `o` is defined — with one rule per primitive of the parser monad.  It is defined
  here, not in Lemmas/FrontCstParse.lean, because the functions that mention no tree are proved by the
  rules in this file already.

  What the namespaces hold (`PRT`, `IP` here) is said once, in the header of Lemmas/FrontScanBase.lean.
-/
import PestModel.Lemmas.FrontParseLex

namespace Pest
namespace Front
namespace PRT

/- the same function as `kvOf` (Lemmas/FrontScanLex.lean), in which the scanner's theorems are stated;
   a statement with the one is used for the other by unfolding -/
def tokKV (toks : List Token) : List KV := toks.map fun t => (t.kind, t.value)

@[simp] theorem tokKV_nil : tokKV [] = [] := rfl
@[simp] theorem tokKV_cons (t : Token) (ts : List Token) : tokKV (t :: ts) = (t.kind, t.value) :: tokKV ts := rfl
theorem tokKV_length (ts : List Token) : (tokKV ts).length = ts.length := by simp [tokKV]

/-- the model's fuel `ts.length + 1` covers whatever is read off a prefix of the tokens -/
theorem tokKV_le {ts : List Token} {X K : List KV} (h : tokKV ts = X ++ K) : X.length ≤ ts.length := by
  rw [← tokKV_length ts, h, List.length_append]
  exact Nat.le_add_right ..

/-- a loop that takes one round per item has fuel enough when every item has a token: there are at least
    as many tokens as items (doc lines, postfix operators, rules) -/
theorem length_le_flatten_map {α β} (f : α → List β) : ∀ (l : List α), (∀ x ∈ l, 0 < (f x).length) →
    l.length ≤ ((l.map f).flatten).length
  | [], _ => Nat.zero_le _
  | x :: l, h => by
    have hx := h x (List.mem_cons_self ..)
    have ih := length_le_flatten_map f l fun y hy => h y (List.mem_cons_of_mem _ hy)
    rw [List.map_cons, List.flatten_cons, List.length_append, List.length_cons]
    omega

@[simp] theorem bind_eq {α β} (m : P α) (f : α → P β) (eof : Token) (ts : List Token) :
    (m >>= f) eof ts =
      match m eof ts with
      | .ok a ts' => f a eof ts'
      | .err k t => .err k t
      | .exc n => .exc n
      | .oof => .oof := rfl

@[simp] theorem pure_eq {α} (a : α) (eof : Token) (ts : List Token) : (pure a : P α) eof ts = .ok a ts := rfl

@[simp] theorem current_cons (eof t : Token) (ts : List Token) : current eof (t :: ts) = .ok t (t :: ts) := rfl
@[simp] theorem next_cons (eof t : Token) (ts : List Token) : next eof (t :: ts) = .ok t ts := rfl
@[simp] theorem advance_cons (eof t : Token) (ts : List Token) : advance eof (t :: ts) = .ok () ts := rfl

theorem eat_cons {kind : TK} {eof t : Token} {ts : List Token} (h : t.kind = kind) :
    eat kind eof (t :: ts) = .ok t ts := by
  simp [eat, h]

theorem tokKV_inv {ts : List Token} {k : TK} {v : Text} {K : List KV} (h : tokKV ts = (k, v) :: K) :
    ∃ s ts', ts = ⟨k, v, s⟩ :: ts' ∧ tokKV ts' = K := by
  cases ts with
  | nil => cases h
  | cons t ts' =>
    obtain ⟨k', v', s⟩ := t
    cases h
    exact ⟨s, ts', rfl, rfl⟩

theorem bind_ok {α β} {m : P α} {f : α → P β} {eof : Token} {ts ts' : List Token} {a : α}
    (h : m eof ts = .ok a ts') : (m >>= f) eof ts = f a eof ts' := by
  simp only [bind_eq, h]

theorem eat_ne {kind : TK} {eof t : Token} {ts : List Token} (h : t.kind ≠ kind) :
    eat kind eof (t :: ts) = .err .unexpected t := by
  simp only [eat, bind_eq, next_cons, if_neg h]

end PRT

namespace IP
open PRT (tokKV tokKV_inv bind_eq bind_ok)

def okPart {α} : PR α → Option (α × List KV)
  | .ok a rest => some (a, tokKV rest)
  | _ => none

theorem okPart_ok {α} {r : PR α} {a : α} {ts' : List Token} {K : List KV} (h : r = .ok a ts')
    (hK : tokKV ts' = K) : okPart r = some (a, K) := by
  subst h; subst hK; rfl

theorem okPart_some {α} {r : PR α} {a : α} {K : List KV} (h : okPart r = some (a, K)) :
    ∃ ts', r = .ok a ts' ∧ tokKV ts' = K := by
  cases r with
  | ok a' ts' =>
    simp only [okPart, Option.some.injEq, Prod.mk.injEq] at h
    exact ⟨ts', by rw [h.1], h.2⟩
  | err k t => simp [okPart] at h
  | exc n => simp [okPart] at h
  | oof => simp [okPart] at h

@[simp] theorem okPart_err {α} (k : EK) (t : Token) : okPart (PR.err k t : PR α) = none := rfl
@[simp] theorem okPart_exc {α} (n : String) : okPart (PR.exc n : PR α) = none := rfl
@[simp] theorem okPart_oof {α} : okPart (PR.oof : PR α) = none := rfl
@[simp] theorem okPart_ok' {α} (a : α) (ts : List Token) : okPart (PR.ok a ts) = some (a, tokKV ts) := rfl

theorem bind_fail {α β} {m : P α} {f : α → P β} {eof : Token} {ts : List Token}
    (h : okPart (m eof ts) = none) : okPart ((m >>= f) eof ts) = none := by
  simp only [bind_eq]
  cases hm : m eof ts with
  | ok a ts' => rw [hm] at h; cases h
  | err k t => rfl
  | exc n => rfl
  | oof => rfl

theorem bind_okPart {α β γ} {m : P α} {f : α → P β} {eof : Token} {ts : List Token} {o : Option γ}
    {v : γ → α} {K1 : List KV} {R : Option (β × List KV)}
    (hm : okPart (m eof ts) = o.map fun c => (v c, K1)) (hnone : o = none → R = none)
    (hsome : ∀ c ts1, o = some c → tokKV ts1 = K1 → okPart (f (v c) eof ts1) = R) :
    okPart ((m >>= f) eof ts) = R := by
  cases o with
  | none => rw [hnone rfl]; exact bind_fail hm
  | some c =>
    obtain ⟨ts1, r1, h1⟩ := okPart_some hm
    rw [bind_ok r1]
    exact hsome c ts1 rfl h1

theorem okPart_map {α β} (m : P α) (f : α → β) (eof : Token) (ts : List Token) :
    okPart ((do let a ← m; pure (f a)) eof ts) = (okPart (m eof ts)).map fun p => (f p.1, p.2) := by
  simp only [bind_eq]
  cases m eof ts <;> rfl

/-- with end token `eof`, `m` run on tokens that spell `X ++ K`, `K` satisfying the look-ahead
    condition `L`, succeeds exactly when `o` is defined, returns it and leaves tokens that spell `K`
    (`err`, `exc` and `oof` all read as `o = none`).

    `X` is what `m` consumes or inspects token by token; `L` is all that is known of what follows.  When
    `X = []` the parser can still look at the next token; what it sees is `nextKind eof K`, and `L K` is
    the only information about it (`Reads.look`, `Reads.absent`).  `L` is consulted nowhere else, except
    that `Reads.bind` asks that the look-ahead condition of the first part holds of what the second
    reads, `hL : L K → L' (Y ++ K)`. -/
def Reads {α} (eof : Token) (m : P α) (X : List KV) (L : List KV → Prop) (o : Option α) : Prop :=
  ∀ ts K, tokKV ts = X ++ K → L K → okPart (m eof ts) = o.map fun a => (a, K)

section kit
variable {α β : Type} {eof : Token} {k k' : TK} {v : Text} {X Y : List KV} {L L' : List KV → Prop}
  {o : Option β}

/-! One rule per primitive of the parser monad, in continuation form (`prim >>= f`).  A rule is given by
    `exact`/`refine` against the parser function itself (after `unfold` or `rw` with its equation): the
    unifier matches the `do` block with `prim >>= f`, and because the head of `X` is a literal `(k, v)`
    the token handed to `f` is `⟨k, v, s⟩`, so a `match` on its kind reduces by itself.  An `if` on the
    kind stays and is removed by `rw [if_pos rfl]` / `simp only [↓reduceIte]` before the next rule. -/

theorem Reads.current {f : Token → P β} (h : ∀ s, Reads eof (f ⟨k, v, s⟩) ((k, v) :: X) L o) :
    Reads eof (current >>= f) ((k, v) :: X) L o := by
  intro ts K hts hL
  obtain ⟨s, ts', rfl, -⟩ := tokKV_inv hts
  exact h s _ K hts hL

theorem Reads.next {f : Token → P β} (h : ∀ s, Reads eof (f ⟨k, v, s⟩) X L o) :
    Reads eof (next >>= f) ((k, v) :: X) L o := by
  intro ts K hts hL
  obtain ⟨s, ts', rfl, h'⟩ := tokKV_inv hts
  exact h s ts' K h' hL

theorem Reads.advance {f : Unit → P β} (h : Reads eof (f ()) X L o) :
    Reads eof (advance >>= f) ((k, v) :: X) L o := by
  intro ts K hts hL
  obtain ⟨s, ts', rfl, h'⟩ := tokKV_inv hts
  exact h ts' K h' hL

theorem Reads.advance_end : Reads eof Front.advance [(k, v)] L (some ()) := by
  intro ts K hts hL
  obtain ⟨s, ts', rfl, h'⟩ := tokKV_inv hts
  exact okPart_ok rfl h'

theorem Reads.eat {f : Token → P β} (h : ∀ s, Reads eof (f ⟨k, v, s⟩) X L o) :
    Reads eof (Front.eat k >>= f) ((k, v) :: X) L o := by
  intro ts K hts hL
  obtain ⟨s, ts', rfl, h'⟩ := tokKV_inv hts
  rw [bind_ok (PRT.eat_cons (t := ⟨k, v, s⟩) rfl)]
  exact h s ts' K h' hL

theorem Reads.eat_ne {f : Token → P β} (hk : k ≠ k') : Reads eof (Front.eat k' >>= f) ((k, v) :: X) L none := by
  intro ts K hts hL
  obtain ⟨s, ts', rfl, h'⟩ := tokKV_inv hts
  exact bind_fail (by rw [PRT.eat_ne (fun h => hk h)]; rfl)

theorem Reads.fail {e : EK} {t : Token} : Reads eof (Front.fail e t : P β) X L none := fun _ _ _ _ => rfl

theorem Reads.raise {n : String} : Reads eof (Front.raise n : P β) X L none := fun _ _ _ _ => rfl

theorem Reads.pure {a : β} (e : o = some a) : Reads eof (Pure.pure a : P β) [] L o := by
  intro ts K hts hL
  rw [e]
  exact okPart_ok rfl hts

theorem Reads.bind {m : P α} {f : α → P β} {oa : Option α} {g : α → Option β}
    (hm : Reads eof m X L' oa) (hL : ∀ K, L K → L' (Y ++ K)) (hf : ∀ a, oa = some a → Reads eof (f a) Y L (g a)) :
    Reads eof (m >>= f) (X ++ Y) L (oa.bind g) := by
  intro ts K hts hK
  rw [List.append_assoc] at hts
  refine bind_okPart (hm ts (Y ++ K) hts (hL K hK)) (fun h => by rw [h]; rfl) fun a ts1 ha h1 => ?_
  rw [ha]
  exact hf a ha ts1 K h1 hK

theorem Reads.cast {m : P β} {o' : Option β} (h : Reads eof m X L o) (e : o = o') : Reads eof m X L o' :=
  e ▸ h

theorem Reads.map {m : P α} {oa : Option α} (f : α → β) (h : Reads eof m X L oa) :
    Reads eof (do let a ← m; Pure.pure (f a)) X L (oa.map f) := by
  intro ts K hts hK
  rw [okPart_map, h ts K hts hK]
  cases oa <;> rfl

/-- a `Reads` fact in the form the `okPart` equations chain by (`bind_okPart`) -/
theorem Reads.run {γ} {m : P α} {o : Option γ} {f : γ → α}
    (h : Reads eof m X L (o.map f)) {ts : List Token} {K : List KV} (hts : tokKV ts = X ++ K) (hK : L K) :
    okPart (m eof ts) = o.map fun c => (f c, K) :=
  (h ts K hts hK).trans (by cases o <;> rfl)

theorem Reads.of_run {γ} {m : P α} {o : Option γ} {f : γ → α}
    (h : ∀ ts K, tokKV ts = X ++ K → L K → okPart (m eof ts) = o.map fun c => (f c, K)) :
    Reads eof m X L (o.map f) :=
  fun ts K hts hK => (h ts K hts hK).trans (by cases o <;> rfl)

/-- the kind the parser sees next: of the first token left, of `eof` when there is none -/
def nextKind (eof : Token) : List KV → TK
  | [] => eof.kind
  | (k, _) :: _ => k

theorem Reads.look {f : Token → P β} {p : TK → Prop} (hL : ∀ K, L K → p (nextKind eof K))
    (h : ∀ t, p t.kind → Reads eof (f t) [] L o) : Reads eof (Front.current >>= f) [] L o := by
  intro ts K hts hK
  cases ts with
  | nil => cases hts; exact h eof (hL _ hK) [] [] rfl hK
  | cons t ts' => cases hts; exact h t (hL _ hK) (t :: ts') _ rfl hK

theorem Reads.absent {A : Token → P β} {a : β} (hL : ∀ K, L K → nextKind eof K ≠ k) :
    Reads eof (Front.current >>= fun t => if t.kind = k then A t else Pure.pure a) [] L (some a) :=
  Reads.look (p := (· ≠ k)) hL fun t ht => by rw [if_neg ht]; exact Reads.pure rfl

theorem Reads.current_of {f : Token → P β} {X' : List KV} (hX : X = (k, v) :: X')
    (h : ∀ s, Reads eof (f ⟨k, v, s⟩) X L o) : Reads eof (Front.current >>= f) X L o := by
  subst hX
  exact Reads.current h

theorem Reads.fuel {f : Nat → P β} (h : ∀ n, X.length < n → Reads eof (f n) X L o) :
    Reads eof (fun eof ts => f (ts.length + 1) eof ts) X L o :=
  fun ts K hts hK => h _ (Nat.lt_succ_of_le (PRT.tokKV_le hts)) ts K hts hK

end kit
end IP

namespace PRT

/-! ### look-ahead conditions

Inside an expression what follows is a token that must be there: these conditions say `K = (k, v) :: K'` with
`k` of some kinds.  Where the input may end (doc lines, modifier, rules) a condition is stated on
`nextKind eof K` instead, the kind the parser sees, which is that of `eof` when nothing is left; a condition of
the first form gives one of the second by `rfl` on the head (as in `parsePeek_plain`). -/

def TermEnd (K : List KV) : Prop :=
  ∃ k v K', K = (k, v) :: K' ∧ (k = .sequenceOp ∨ k = .choiceOp ∨ k = .rbrace ∨ k = .rparen)

def Closer (K : List KV) : Prop :=
  ∃ k v K', K = (k, v) :: K' ∧ (k = .rbrace ∨ k = .rparen)

theorem Closer.termEnd {K : List KV} (h : Closer K) : TermEnd K := by
  obtain ⟨k, v, K', rfl, h⟩ := h
  exact ⟨k, v, K', rfl, by rcases h with h | h <;> simp [h]⟩

theorem Closer.cases {K : List KV} (h : Closer K) : ∃ k v K', K = (k, v) :: K' ∧ (k = .rbrace ∨ k = .rparen) := h

def NoBracket (K : List KV) : Prop := ∃ k v K', K = (k, v) :: K' ∧ k ≠ .lbracket

theorem TermEnd.noBracket {K : List KV} (h : TermEnd K) : NoBracket K := by
  obtain ⟨k, v, K', rfl, hk⟩ := h
  exact ⟨k, v, K', rfl, by rcases hk with rfl | rfl | rfl | rfl <;> simp⟩

def HeadOK (K : List KV) : Prop := ∃ k v K', K = (k, v) :: K' ∧ k ≠ .choiceOp ∧ k ≠ .tag

/-! ### the algebra of `den`: what a term denotes is neither `seq` nor `choice`; how the infix loop joins -/

def IsTermDen (e : Expr) : Prop := (∀ es, e ≠ .seq es) ∧ (∀ es, e ≠ .choice es)

theorem applyPost_termDen (e : Expr) (p : Post) : IsTermDen (applyPost e p) := by
  cases p <;> exact ⟨fun _ h => by simp [applyPost] at h, fun _ h => by simp [applyPost] at h⟩

theorem foldl_applyPost_termDen : ∀ (posts : List Post) (e : Expr), IsTermDen e →
    IsTermDen (posts.foldl applyPost e) := by
  intro posts
  induction posts with
  | nil => intro e h; exact h
  | cons p posts ih => intro e _; exact ih _ (applyPost_termDen e p)

theorem applyPre_termDen (b : Bool) (e : Expr) : IsTermDen (applyPre b e) := by
  cases b <;> exact ⟨fun _ h => by simp [applyPre] at h, fun _ h => by simp [applyPre] at h⟩

theorem foldr_applyPre_termDen : ∀ (pre : List Bool) (e : Expr), IsTermDen e →
    IsTermDen (pre.foldr applyPre e) := by
  intro pre
  induction pre with
  | nil => intro e h; exact h
  | cons b pre _ => intro e _; exact applyPre_termDen b _

theorem ite_termDen {c : Prop} [Decidable c] {x y : Expr} (hx : IsTermDen x) (hy : IsTermDen y) :
    IsTermDen (if c then x else y) := by
  split <;> assumption

theorem identExpr_termDen (b : List String) (name : Text) (tag : Option String) :
    IsTermDen (identExpr b name tag) := by
  have hi : ∀ n t, IsTermDen (Expr.ident n t) := fun _ _ => ⟨by simp, by simp⟩
  unfold identExpr
  split
  all_goals first
    | exact ite_termDen (hi _ _) (hi _ _)
    | exact ⟨by simp, by simp⟩

theorem node_termDen (b : List String) (tag : Option String) (n : SNode) : IsTermDen (n.den b tag) := by
  cases n <;> simp only [SNode.den] <;> first
    | exact identExpr_termDen _ _ _
    | exact ⟨fun _ h => by simp at h, fun _ h => by simp at h⟩

theorem term_termDen (b : List String) (t : STerm) : IsTermDen (t.den b) := by
  cases t with
  | mk tag pre node post =>
    simp only [STerm.den]
    exact foldr_applyPre_termDen _ _ (foldl_applyPost_termDen _ _ (node_termDen _ _ _))

/-- how `parse_infix_expression` joins a `~` -/
def joinSeq (left right : Expr) : Expr :=
  match right with
  | .seq es => .seq (left :: es)
  | _ => .seq [left, right]

/-- how `parse_infix_expression` joins a `|` -/
def joinChoice (left right : Expr) : Expr :=
  match right with
  | .choice es => .choice (left :: es)
  | _ => .choice [left, right]

theorem joinSeq_mkSeq (x : Expr) : ∀ (l : List Expr), l ≠ [] → (∀ y ∈ l, IsTermDen y) →
    joinSeq x (mkSeq l) = mkSeq (x :: l)
  | [], h, _ => absurd rfl h
  | [y], _, hl => by
    have hy := (hl y (List.mem_singleton.mpr rfl)).1
    unfold joinSeq mkSeq
    split
    · rename_i es h; exact absurd h (hy es)
    · rfl
  | y :: z :: l, _, _ => rfl

theorem mkSeq_not_choice : ∀ (l : List Expr), l ≠ [] → (∀ y ∈ l, IsTermDen y) → ∀ es, mkSeq l ≠ .choice es
  | [], h, _, _ => absurd rfl h
  | [y], _, hl, es => by simpa [mkSeq] using (hl y (by simp)).2 es
  | y :: z :: l, _, _, es => by simp [mkSeq]

theorem joinChoice_mkChoice (x : Expr) : ∀ (l : List Expr), l ≠ [] → (∀ y ∈ l, ∀ es, y ≠ .choice es) →
    joinChoice x (mkChoice l) = mkChoice (x :: l)
  | [], h, _ => absurd rfl h
  | [y], _, hl => by
    have hy := hl y (List.mem_singleton.mpr rfl)
    unfold joinChoice mkChoice
    split
    · rename_i es h; exact absurd h (hy es)
    · rfl
  | y :: z :: l, _, _ => rfl

theorem consGroup_elems {x : Expr} {gs : List (List Expr)} (hx : IsTermDen x)
    (h : ∀ g ∈ gs, g ≠ [] ∧ ∀ y ∈ g, IsTermDen y) : ∀ g ∈ consGroup x gs, g ≠ [] ∧ ∀ y ∈ g, IsTermDen y := by
  cases gs with
  | nil =>
    intro g hg
    rw [consGroup, List.mem_singleton] at hg
    subst hg
    exact ⟨List.cons_ne_nil _ _, fun y hy => by rw [List.mem_singleton] at hy; exact hy ▸ hx⟩
  | cons g0 gs =>
    intro g hg
    rw [consGroup, List.mem_cons] at hg
    rcases hg with rfl | hg
    · refine ⟨List.cons_ne_nil _ _, fun y hy => ?_⟩
      rcases List.mem_cons.mp hy with rfl | hy
      · exact hx
      · exact (h g0 (List.mem_cons_self ..)).2 y hy
    · exact h g (List.mem_cons_of_mem _ hg)

theorem groups_elems (b : List String) : ∀ (e : SExpr), ∀ g ∈ e.groups b, g ≠ [] ∧ ∀ y ∈ g, IsTermDen y
  | .one t => by
    intro g hg
    rw [SExpr.groups, List.mem_singleton] at hg
    subst hg
    exact ⟨List.cons_ne_nil _ _, fun y hy => by rw [List.mem_singleton] at hy; exact hy ▸ term_termDen b t⟩
  | .cons t true rest => by
    intro g hg
    rw [SExpr.groups, List.mem_cons] at hg
    rcases hg with rfl | hg
    · exact ⟨List.cons_ne_nil _ _, fun y hy => by rw [List.mem_singleton] at hy; exact hy ▸ term_termDen b t⟩
    · exact groups_elems b rest g hg
  | .cons t false rest => by
    rw [SExpr.groups]
    exact consGroup_elems (term_termDen b t) (groups_elems b rest)

theorem groups_ne_nil (b : List String) (e : SExpr) : e.groups b ≠ [] := by
  cases e with
  | one t => rw [SExpr.groups]; exact List.cons_ne_nil _ _
  | cons t bar rest =>
    cases bar
    · rw [SExpr.groups]
      cases rest.groups b <;> exact List.cons_ne_nil _ _
    · rw [SExpr.groups]; exact List.cons_ne_nil _ _

theorem groups_mkSeq_not_choice (b : List String) (e : SExpr) :
    ∀ y ∈ (e.groups b).map mkSeq, ∀ es, y ≠ .choice es := by
  intro y hy es
  obtain ⟨g, hg, rfl⟩ := List.mem_map.mp hy
  have := groups_elems b e g hg
  exact mkSeq_not_choice g this.1 this.2 es

theorem den_prefix (b : List String) (tag : Option Text) (c : Bool) (pre : List Bool) (node : SNode)
    (post : List Post) :
    (STerm.mk tag (c :: pre) node post).den b = applyPre c ((STerm.mk none pre node post).den b) := by
  simp only [STerm.den, List.isEmpty_cons, Bool.false_eq_true, if_false, List.foldr_cons, Option.map_none]
  cases pre <;> simp

/-! ### functions that only step through tokens, by the rules of `Reads` -/

section
open IP (Reads nextKind)
variable {eof : Token}

theorem parsePostfix_none (e : Expr) : Reads eof (parsePostfix e) [] TermEnd (some none) := by
  unfold parsePostfix
  refine Reads.look (p := fun k => k ≠ .optionOp ∧ k ≠ .repeatOp ∧ k ≠ .repeatOnceOp ∧ k ≠ .lbrace)
    (fun _ ⟨_, _, _, e, hk⟩ => ?_) fun t ht => ?_
  · subst e
    rcases hk with rfl | rfl | rfl | rfl <;> exact ⟨nofun, nofun, nofun, nofun⟩
  · dsimp only
    rw [if_neg ht.1, if_neg ht.2.1, if_neg ht.2.2.1, if_neg ht.2.2.2]
    exact Reads.pure rfl

theorem parsePeek_plain : Reads eof parsePeek [] NoBracket (some .peek) := by
  unfold parsePeek
  exact Reads.look (p := (· ≠ .lbracket)) (fun _ ⟨_, _, _, e, hk⟩ => e ▸ hk) fun t ht => by
    rw [if_pos ht]; exact Reads.pure rfl

theorem parsePrimary_keyword (b : List String) (rec : Nat → P Expr) (tag : Option String)
    (name : Text) :
    Reads eof (parsePrimary b rec tag) [(keywordKind name, name)] NoBracket (some (identExpr b name tag)) := by
  unfold identExpr
  rcases keywordKind_cases name with ⟨_, hk⟩ | hk | hk | hk | hk | hk
  · rw [hk]; exact Reads.current fun _ => Reads.advance parsePeek_plain
  · rw [hk]; exact Reads.current fun _ => Reads.advance (Reads.pure rfl)
  · rw [hk]; exact Reads.current fun _ => Reads.advance (Reads.pure rfl)
  · rw [hk]; exact Reads.current fun _ => Reads.advance (Reads.pure rfl)
  · rw [hk]; exact Reads.current fun _ => Reads.advance (Reads.pure rfl)
  · rw [hk]
    refine Reads.current fun _ => Reads.next fun _ => ?_
    dsimp only
    split
    · exact Reads.pure rfl
    · exact Reads.pure rfl

/-! `parseHead` on the four shapes of input, as equations on literal token lists.  No proof uses them: the
    proofs about the parser use `parseHead_reads` below. -/

theorem parseHead_none {eof t : Token} {ts : List Token} (h1 : t.kind ≠ .choiceOp) (h2 : t.kind ≠ .tag) :
    parseHead eof (t :: ts) = .ok none (t :: ts) := by
  simp [parseHead, h1, h2]

theorem parseHead_tag {eof t1 t2 : Token} {ts : List Token} {tg : Text} (h1 : t1.kind = .tag)
    (hv : t1.value = 35 :: tg) (h2 : t2.kind = .assignOp) :
    parseHead eof (t1 :: t2 :: ts) = .ok (some (nameOf tg)) ts := by
  simp [parseHead, h1, h2, hv, eat]

theorem parseHead_bar {eof t1 t2 : Token} {ts : List Token} (h0 : t1.kind = .choiceOp)
    (h2 : t2.kind ≠ .tag) :
    parseHead eof (t1 :: t2 :: ts) = .ok none (t2 :: ts) := by
  simp [parseHead, h0, h2]

theorem parseHead_bar_tag {eof t0 t1 t2 : Token} {ts : List Token} {tg : Text} (h0 : t0.kind = .choiceOp)
    (h1 : t1.kind = .tag) (hv : t1.value = 35 :: tg) (h2 : t2.kind = .assignOp) :
    parseHead eof (t0 :: t1 :: t2 :: ts) = .ok (some (nameOf tg)) ts := by
  simp [parseHead, h0, h1, h2, hv, eat]

theorem parseHead_reads (bar : Bool) (tag : Option Text) :
    Reads eof parseHead (barKV bar ++ tagKV tag) HeadOK (some (tag.map nameOf)) := by
  unfold parseHead
  refine Reads.bind (L' := fun K => nextKind eof K ≠ .choiceOp) (oa := some ())
    (g := fun _ => some (tag.map nameOf)) ?_ (fun K hK => ?_) fun _ _ => ?_
  · cases bar with
    | false =>
      exact Reads.absent fun _ h => h
    | true => exact Reads.current fun _ => by rw [if_pos rfl]; exact Reads.advance_end
  · obtain ⟨k, v, K', rfl, hk, -⟩ := hK
    cases tag with
    | none => exact hk
    | some tg => exact (by decide : TK.tag ≠ .choiceOp)
  · cases tag with
    | none =>
      exact Reads.absent fun _ ⟨_, _, _, e, _, hk⟩ => e ▸ hk
    | some tg =>
      exact Reads.current fun _ => by
        rw [if_pos rfl]; exact Reads.next fun _ => Reads.eat fun _ => Reads.pure rfl

theorem docLines_all (kind : TK) (m : Text) : ∀ (docs : List Text) (n : Nat) (acc : List Text), docs.length < n →
    Reads eof (docLines kind n acc) (docs.map (docKV kind m)).flatten (fun K => nextKind eof K ≠ kind)
      (some (acc ++ docs))
  | [], n + 1, acc, _ => by
    rw [docLines]
    exact (Reads.absent fun _ h => h).cast (by rw [List.append_nil])
  | d :: docs, n + 1, acc, hn => by
    rw [docLines]
    refine Reads.current fun _ => ?_
    rw [if_pos rfl]
    refine Reads.advance <| Reads.eat fun _ => ?_
    exact (docLines_all kind m docs n (acc ++ [d]) (Nat.lt_of_succ_lt_succ hn)).cast
      (by rw [List.append_assoc]; rfl)

theorem docLines_fuel (kind : TK) (m : Text) (docs : List Text) :
    Reads eof (fun eof ts => docLines kind (ts.length + 1) [] eof ts) (docs.map (docKV kind m)).flatten
      (fun K => nextKind eof K ≠ kind) (some docs) :=
  Reads.fuel fun n hn => (docLines_all kind m docs n []
    (Nat.lt_of_le_of_lt (length_le_flatten_map (docKV kind m) docs fun _ _ => Nat.succ_pos _) hn)).cast
    (by rw [List.nil_append])

theorem parseModifier_reads (m : Option Nat) :
    Reads eof parseModifier (modKV m) (fun K => nextKind eof K ≠ .modifier)
      (some ((m.map fun c => modifierBits [c]).getD 0)) := by
  unfold parseModifier
  cases m with
  | none => exact Reads.absent fun _ h => h
  | some c => exact Reads.current fun _ => by rw [if_pos rfl]; exact Reads.next fun _ => Reads.pure rfl

/-- after the last rule: the trailing doc lines are read and dropped -/
theorem parseRules_end (b : List String) (heof : eof.kind = .eoi) (trailing : List Text) (n : Nat) (acc : List FRule) :
    Reads eof (parseRules b (n + 1) acc) (trailing.map (docKV .ruleDoc sRDOC)).flatten (fun K => K = []) (some acc) := by
  rw [parseRules]
  have hend : ∀ K : List KV, K = [] → nextKind eof K = .eoi := fun K hK => by rw [hK]; exact heof
  cases trailing with
  | nil => exact Reads.look (p := (· = .eoi)) hend fun t ht => by rw [if_pos ht]; exact Reads.pure rfl
  | cons d ds =>
    refine Reads.current_of rfl fun _ => ?_
    rw [if_neg (by decide : TK.ruleDoc ≠ .eoi), ← List.append_nil (List.flatten _)]
    exact Reads.bind (docLines_fuel .ruleDoc sRDOC (d :: ds)) (fun K hK => by rw [List.nil_append, hend K hK]; decide)
      (g := fun _ => some acc) fun _ _ => Reads.look (p := (· = .eoi)) hend fun t ht => by
        rw [if_pos ht]; exact Reads.pure rfl

end

/-! ### `parse_expression`: its body as term part and infix loop; the loop's equations -/

def termPart (b : List String) (rec : Nat → P Expr) : P Expr := do
  let tag ← parseHead
  let left ← parsePrimary b rec tag
  (fun eof ts => postfixes (ts.length + 1) left eof ts : P Expr)

theorem exprBody_eq (b : List String) (rec : Nat → P Expr) (p : Nat) :
    exprBody b rec p = (do
      let left ← termPart b rec
      (fun eof ts => infixes rec p (ts.length + 1) left eof ts : P Expr)) := by
  funext eof ts
  simp only [exprBody, termPart, bind_eq]
  cases parseHead eof ts with
  | ok a ts1 =>
    simp only
    cases parsePrimary b rec a eof ts1 with
    | ok e ts2 => rfl
    | err k t => rfl
    | exc n => rfl
    | oof => rfl
  | err k t => rfl
  | exc n => rfl
  | oof => rfl

theorem infixes_end {rec : Nat → P Expr} {p n : Nat} {left : Expr} {eof t : Token} {ts : List Token}
    (h : (t.kind = .eoi || precedenceOf t.kind < p || !isInfix t.kind) = true) :
    infixes rec p (n + 1) left eof (t :: ts) = .ok left (t :: ts) := by
  simp only [infixes, bind_eq, current_cons, h, if_true]
  rfl

theorem infixes_stop {rec : Nat → P Expr} {p n : Nat} {left : Expr} {eof : Token} {ts : List Token}
    {k : TK} {v : Text} {K : List KV} (h : tokKV ts = (k, v) :: K)
    (hk : k = .rbrace ∨ k = .rparen ∨ (k = .sequenceOp ∧ PRECEDENCE_SEQUENCE < p) ∨
      (k = .choiceOp ∧ PRECEDENCE_CHOICE < p)) :
    infixes rec p (n + 1) left eof ts = .ok left ts := by
  obtain ⟨s, ts1, rfl, -⟩ := tokKV_inv h
  apply infixes_end
  rcases hk with rfl | rfl | ⟨rfl, hp⟩ | ⟨rfl, hp⟩
  · exact Bool.or_true _
  · exact Bool.or_true _
  · rw [Bool.or_eq_true, Bool.or_eq_true]
    exact .inl (.inr (decide_eq_true hp))
  · rw [Bool.or_eq_true, Bool.or_eq_true]
    exact .inl (.inr (decide_eq_true hp))

theorem infixes_round {rec : Nat → P Expr} {p n : Nat} {left : Expr} {eof t : Token} {ts : List Token}
    (hi : isInfix t.kind = true) (hp : p ≤ precedenceOf t.kind) :
    infixes rec p (n + 1) left eof (t :: ts) =
      (do let e ← parseInfix rec left; infixes rec p n e) eof (t :: ts) := by
  have h1 : t.kind ≠ .eoi := by
    intro e
    rw [e] at hi
    cases hi
  have h2 : ¬ precedenceOf t.kind < p := Nat.not_lt.mpr hp
  simp only [infixes, bind_eq, current_cons, h1, h2, hi, decide_false, Bool.or_false, Bool.not_true,
    Bool.false_eq_true, if_false]

theorem infixes_seq {rec : Nat → P Expr} {p n : Nat} {left : Expr} {eof : Token} {v : Text} {s : Nat}
    {ts : List Token} (hp : p ≤ PRECEDENCE_SEQUENCE) :
    infixes rec p (n + 1) left eof (⟨.sequenceOp, v, s⟩ :: ts) =
      (do let right ← rec PRECEDENCE_SEQUENCE; infixes rec p n (joinSeq left right)) eof ts := by
  have e : precedenceOf TK.sequenceOp = PRECEDENCE_SEQUENCE := rfl
  rw [infixes_round rfl hp]
  simp only [bind_eq, parseInfix, next_cons, e]
  cases rec PRECEDENCE_SEQUENCE eof ts with
  | ok right ts' => cases right <;> rfl
  | err k t => rfl
  | exc n => rfl
  | oof => rfl

theorem infixes_choice {rec : Nat → P Expr} {p n : Nat} {left : Expr} {eof : Token} {v : Text} {s : Nat}
    {ts : List Token} (hp : p ≤ PRECEDENCE_CHOICE) :
    infixes rec p (n + 1) left eof (⟨.choiceOp, v, s⟩ :: ts) =
      (do let right ← rec PRECEDENCE_CHOICE; infixes rec p n (joinChoice left right)) eof ts := by
  have e : precedenceOf TK.choiceOp = PRECEDENCE_CHOICE := rfl
  rw [infixes_round rfl hp]
  simp only [bind_eq, parseInfix, next_cons, e]
  cases rec PRECEDENCE_CHOICE eof ts with
  | ok right ts' => cases right <;> rfl
  | err k t => rfl
  | exc n => rfl
  | oof => rfl

theorem load_ok {b : List String} {t : Text} {toks rest : List Token} {r : Loaded}
    (hs : scan t = .ok toks) (hp : parseTokens b ⟨.eoi, [], t.length⟩ toks = .ok r rest) :
    load b t = .ok r := by
  dsimp only [load]
  rw [hs]
  dsimp only
  rw [hp]

theorem load_ok_inv {b : List String} {t : Text} {r : Loaded} (h : load b t = .ok r) :
    ∃ toks rest, scan t = .ok toks ∧ parseTokens b ⟨.eoi, [], t.length⟩ toks = .ok r rest := by
  dsimp only [load] at h
  cases hs : scan t with
  | ok toks =>
    rw [hs] at h
    dsimp only at h
    cases hp : parseTokens b ⟨.eoi, [], t.length⟩ toks with
    | ok g rest => rw [hp] at h; cases h; exact ⟨toks, rest, rfl, hp⟩
    | err k tok => rw [hp] at h; cases h
    | exc n => rw [hp] at h; cases h
    | oof => rw [hp] at h; cases h
  | err k st v => rw [hs] at h; cases h
  | exc n => rw [hs] at h; cases h
  | oof => rw [hs] at h; cases h

end PRT
end Front
end Pest
