/-
  Lemmas/Shift.lean — shift invariance of the interpreter model L1 and of the generated-code model
  LG (property C16): on SOI-free expressions running commutes with moving every position by `k`
  (`c.shift k`, `r.shift k`; `run_shift`, `runG_shift`, for `parse` itself `parse_shifted`), for any two
  inputs of which one is the other from `k` on (`Shifted k inp inp'`; `shifted_extract` for `inp[k:]`).
  Every primitive matcher is
  position-relative; the one node that is not, `.soiB` (`pos == 0`), is what `soiFree` excludes.
  The proofs are equations between runs; the relations `ShiftRel`, `ResRel`, `ResRelG` of C16's
  statements come last, as readings of those equations (`ShiftRel k c c'` says `c = c'.shift k`
  with `c'.fpos` the sentinel or a real position: `shiftRel_iff`).
-/
import PestModel.Hyps
import PestModel.Lemmas.Thread

namespace Pest

structure Shifted (k : Nat) (inp inp' : Input) : Prop where
  size : inp.size = inp'.size + k
  get : ∀ p, inp[p + k]? = inp'[p]?

theorem shifted_extract {k : Nat} {inp : Input} (h : k ≤ inp.size) :
    Shifted k inp (inp.extract k inp.size) := by
  constructor
  · rw [Array.size_extract, Nat.min_self, Nat.sub_add_cancel h]
  · intro p
    rw [Array.getElem?_extract, Nat.min_self, Nat.add_comm]
    split
    · rfl
    · next hp => exact Array.getElem?_eq_none (Nat.sub_le_iff_le_add'.1 (Nat.le_of_not_lt hp))

theorem foldl_getD_rel {k : Nat} {f f' : Option Nat → Str → Option Nat}
    (h : ∀ b s, f (b.map (· + k)) s = (f' b s).map (· + k)) (subs : List Str) (n n' : Nat)
    (hn : n = n' + k) : (subs.foldl f none).getD n = (subs.foldl f' none).getD n' + k := by
  have key : ∀ (subs : List Str) (b : Option Nat),
      subs.foldl f (b.map (· + k)) = (subs.foldl f' b).map (· + k) := by
    intro subs
    induction subs with
    | nil => intro b; rfl
    | cons s rest ih => intro b; simp only [List.foldl_cons]; rw [h, ih]
  rw [show subs.foldl f none = _ from key subs none]
  cases subs.foldl f' none with
  | none => exact hn
  | some q => rfl

section prim
variable {k : Nat} {inp inp' : Input} (hS : Shifted k inp inp')
include hS

theorem startsWithAt_shift : ∀ (x : Str) (p : Nat), startsWithAt inp x (p + k) = startsWithAt inp' x p
  | [], p => by simp only [startsWithAt, hS.size, Nat.add_le_add_iff_right]
  | c :: rest, p => by
    simp only [startsWithAt, hS.get]
    rw [Nat.add_right_comm p k 1, startsWithAt_shift rest]

theorem startsWithAtCI_shift : ∀ (x : Str) (p : Nat),
    startsWithAtCI inp x (p + k) = startsWithAtCI inp' x p
  | [], p => by simp only [startsWithAtCI, hS.size, Nat.add_le_add_iff_right]
  | c :: rest, p => by
    simp only [startsWithAtCI, hS.get]
    rw [Nat.add_right_comm p k 1, startsWithAtCI_shift rest]

theorem slice_shift (a b : Nat) : slice inp (a + k) (b + k) = slice inp' a b := by
  unfold slice
  apply List.ext_getElem?
  intro i
  rw [Array.getElem?_toList, Array.getElem?_toList, Array.getElem?_extract, Array.getElem?_extract,
    Nat.add_right_comm a k i, hS.get, hS.size, Nat.add_min_add_right, Nat.add_sub_add_right]

theorem findFrom_go_shift (sub : Str) : ∀ n p,
    findFrom.go inp sub n (p + k) = (findFrom.go inp' sub n p).map (· + k)
  | 0, p => rfl
  | n + 1, p => by
    simp only [findFrom.go, startsWithAt_shift hS]
    rw [Nat.add_right_comm p k 1, findFrom_go_shift sub n, apply_ite (Option.map (· + k))]
    rfl

theorem findFrom_shift (sub : Str) (p : Nat) :
    findFrom inp sub (p + k) = (findFrom inp' sub p).map (· + k) := by
  unfold findFrom
  rw [hS.size, Nat.add_right_comm inp'.size k 1, Nat.add_sub_add_right, findFrom_go_shift hS,
    apply_ite (Option.map (· + k))]
  simp only [gt_iff_lt, Nat.add_lt_add_iff_right, Option.map_none]

theorem skipUntilPos_shift (subs : List Str) (p : Nat) :
    L1.skipUntilPos inp subs (p + k) = L1.skipUntilPos inp' subs p + k := by
  unfold L1.skipUntilPos
  refine foldl_getD_rel ?_ subs _ _ hS.size
  intro b s
  rw [findFrom_shift hS]
  cases findFrom inp' s p with
  | none => rfl
  | some q =>
    cases b with
    | none => rfl
    | some r => simp only [Option.map_some, Nat.add_lt_add_iff_right, apply_ite (Option.map (· + k))]

theorem matchAll_shift : ∀ (ls : List Str) (p : Nat),
    L1.matchAll inp ls (p + k) = (L1.matchAll inp' ls p).map (· + k)
  | [], p => rfl
  | l :: rest, p => by
    simp only [L1.matchAll, startsWithAt_shift hS]
    rw [Nat.add_right_comm p k l.length, matchAll_shift rest, apply_ite (Option.map (· + k))]
    rfl

theorem optMatchOnce_shift (g : Grammar) (alts : List Alt) (p : Nat) :
    L1.optMatchOnce g inp alts (p + k) = (L1.optMatchOnce g inp' alts p).map (· + k) := by
  unfold L1.optMatchOnce
  simp only [startsWithAt_shift hS, startsWithAtCI_shift hS, hS.get]
  cases List.find? (fun x => startsWithAt inp' x p) _ with
  | some s => exact congrArg some (Nat.add_right_comm p k s.length)
  | none =>
    cases List.find? (fun x => startsWithAtCI inp' x p) _ with
    | some s => exact congrArg some (Nat.add_right_comm p k s.length)
    | none =>
      cases inp'[p]? with
      | none => rfl
      | some c =>
        simp only [apply_ite (Option.map (· + k)), Option.map_some, Option.map_none, Nat.add_right_comm p k 1]

theorem optMatchStar_shift (g : Grammar) (alts : List Alt) : ∀ n p,
    L1.optMatchStar g inp alts n (p + k) = L1.optMatchStar g inp' alts n p + k
  | 0, p => rfl
  | n + 1, p => by
    simp only [L1.optMatchStar, optMatchOnce_shift hS]
    cases L1.optMatchOnce g inp' alts p with
    | none => rfl
    | some q =>
      simp only [Option.map_some, gt_iff_lt, Nat.add_lt_add_iff_right, apply_ite (· + k)]
      rw [optMatchStar_shift g alts n q]

theorem optMatch_shift (g : Grammar) (alts : List Alt) (star : Bool) (p : Nat) :
    L1.optMatch g inp alts star (p + k) = (L1.optMatch g inp' alts star p).map (· + k) := by
  unfold L1.optMatch
  rw [hS.size, Nat.add_right_comm inp'.size k 1, Nat.add_sub_add_right, optMatchStar_shift hS,
    optMatchOnce_shift hS, apply_ite (Option.map (· + k)), apply_ite (Option.map (· + k))]
  rfl

end prim

mutual
def Pair.shift (k : Nat) : Pair → Pair
  | .mk n m s e ch t => .mk n m (s + k) (e + k) (shiftL k ch) t
def shiftL (k : Nat) : List Pair → List Pair
  | [] => []
  | p :: ps => p.shift k :: shiftL k ps
end

theorem shiftL_eq_map (k : Nat) (ps : List Pair) : shiftL k ps = ps.map (Pair.shift k) := by
  induction ps with
  | nil => rfl
  | cons p ps ih => simp [shiftL, ih]

theorem shiftL_append (k : Nat) (a b : List Pair) : shiftL k (a ++ b) = shiftL k a ++ shiftL k b := by
  simp [shiftL_eq_map]

mutual
theorem visible_shift (k : Nat) : ∀ p : Pair, (p.shift k).visible = shiftL k p.visible
  | .mk n m s e ch t => by
    by_cases h : (hasBit m COMPOUND || hasBit m NONATOMIC) = true
    · simp [Pair.shift, Pair.visible, h, shiftL]
    · simp only [Pair.shift, Pair.visible, h]
      exact visibleList_shift k ch
theorem visibleList_shift (k : Nat) : ∀ ps : List Pair, visibleList (shiftL k ps) = shiftL k (visibleList ps)
  | [] => by simp [shiftL, visibleList]
  | p :: ps => by
    simp only [shiftL, visibleList, shiftL_append, visible_shift k p, visibleList_shift k ps]
end

mutual
theorem shift_zero : ∀ p : Pair, p.shift 0 = p
  | .mk n m s e ch t => by simp [Pair.shift, shiftL_zero ch]
theorem shiftL_zero : ∀ ps : List Pair, shiftL 0 ps = ps
  | [] => rfl
  | p :: ps => by simp [shiftL, shift_zero p, shiftL_zero ps]
end

def SOIFree (g : Grammar) : Prop := ∀ r ∈ g.rules, soiFree r.body = true

theorem soiFreeG_iff (g : Grammar) : soiFreeG g = true ↔ SOIFree g := by
  simp [soiFreeG, SOIFree]

theorem soiFreeL_iff (es : List Expr) : soiFreeL es = true ↔ ∀ e ∈ es, soiFree e = true :=
  Prim.allL_iff rfl (fun _ _ => rfl) es

theorem soiFree_unrolled {e : Expr} {es : List Expr} (h : L1.unrolled e = some es)
    (hf : soiFree e = true) : ∀ x ∈ es, soiFree x = true :=
  Prim.unrolled_all (f := soiFree) (fun _ => rfl) (fun _ => rfl) (fun _ => rfl) (fun _ _ => rfl)
    (fun _ _ => rfl) (fun _ _ => rfl) (fun _ _ _ => rfl) h hf

/-- `c` with every position moved by `k`; a negative furthest-failure position (the sentinel
    `-1`) stays -/
def PState.shift (k : Nat) (c : PState) : PState :=
  { c with pos := c.pos + k, posHist := c.posHist.map (· + k),
           fpos := if c.fpos < 0 then c.fpos else c.fpos + k }

namespace PState
variable (k : Nat) (c : PState)

theorem shift_checkpoint : (c.shift k).checkpoint = c.checkpoint.shift k := by
  cases c; rfl

theorem shift_ok : (c.shift k).ok = c.ok.shift k := by
  unfold PState.ok PState.shift
  rw [List.map_tail]

theorem shift_restore : (c.shift k).restore = c.restore.shift k := by
  cases h : c.posHist <;> simp [PState.restore, PState.shift, h]

theorem shift_pushTag (tag : Option String) : (c.shift k).pushTag tag = (c.pushTag tag).shift k := by
  cases tag <;> rfl

theorem shift_incNeg :
    { c.shift k with negDepth := (c.shift k).negDepth + 1 }
      = ({ c with negDepth := c.negDepth + 1 } : PState).shift k := by
  cases c; rfl

theorem shift_init (j : Nat) : (PState.init j).shift k = PState.init (j + k) := rfl

end PState

theorem shiftFpos_gt (f : Int) (p k : Nat) :
    ((p + k : Nat) : Int) > (if f < 0 then f else f + k) ↔ (p : Int) > f := by
  split
  · next h =>
    exact ⟨fun _ => Int.lt_of_lt_of_le h (Int.natCast_nonneg p),
      fun _ => Int.lt_of_lt_of_le h (Int.natCast_nonneg _)⟩
  · rw [Int.natCast_add]; exact Int.add_lt_add_iff_right _

theorem shiftFpos_eq (f : Int) (p k : Nat) :
    ((p + k : Nat) : Int) = (if f < 0 then f else f + k) ↔ (p : Int) = f := by
  split
  · next h =>
    exact ⟨fun e => absurd (e ▸ h) (Int.not_lt.2 (Int.natCast_nonneg _)),
      fun e => absurd (e ▸ h) (Int.not_lt.2 (Int.natCast_nonneg _))⟩
  · rw [Int.natCast_add]; exact Int.add_left_inj _

theorem failRecord_shift {k : Nat} (c : PState) (name : String) (p : Nat) :
    (c.shift k).failRecord name (p + k) = (c.failRecord name p).shift k := by
  unfold PState.failRecord
  simp only [show (c.shift k).fpos = (if c.fpos < 0 then c.fpos else c.fpos + k) from rfl,
    show (c.shift k).negDepth = c.negDepth from rfl, shiftFpos_gt, shiftFpos_eq]
  by_cases h1 : (p : Int) > c.fpos
  · rw [if_pos h1, if_pos h1]
    simp only [PState.shift, Int.natCast_add]
    rw [if_neg (Int.not_lt.2 (Int.natCast_nonneg p))]
  · rw [if_neg h1, if_neg h1]
    by_cases h2 : (p : Int) = c.fpos
    · rw [if_pos h2, if_pos h2]
      cases c.negDepth % 2 == 1 <;> rfl
    · rw [if_neg h2, if_neg h2]

theorem fail_shift {k : Nat} (c : PState) (rn : Option String) (force : Bool) :
    (c.shift k).fail rn force = (c.fail rn force).map (PState.shift k) := by
  unfold PState.fail
  by_cases hs : ((c.negDepth > 0 && !force) || c.suppress) = true
  · have hs' : (((c.shift k).negDepth > 0 && !force) || (c.shift k).suppress) = true := hs
    simp only [hs, hs', ↓reduceIte, Option.map_some]
  · have hs' : ¬ (((c.shift k).negDepth > 0 && !force) || (c.shift k).suppress) = true := hs
    simp only [hs, hs', Bool.false_eq_true, ↓reduceIte, Option.map_map]
    have hn : (c.shift k).failName rn = c.failName rn := rfl
    rw [hn]
    cases c.failName rn with
    | none => rfl
    | some nm => exact congrArg some (failRecord_shift c nm c.pos)

def R1.shift (k : Nat) : R1 → R1
  | .done m c ps => .done m (c.shift k) (shiftL k ps)
  | .oof => .oof
  | .exc e => .exc e

def ShiftGood (k : Nat) (r r' : Sem1) : Prop :=
  ∀ e c, soiFree e = true → r e (c.shift k) = (r' e c).shift k

section l1
variable {k : Nat} {inp inp' : Input} (g : Grammar)

theorem R1.shift_mapState_popTag (tag : Option String) (r : R1) :
    (r.shift k).mapState (PState.popTag tag) = (r.mapState (PState.popTag tag)).shift k := by
  cases r <;> cases tag <;> rfl

theorem failT_shift (c : PState) : L1.failT (c.shift k) = (L1.failT c).shift k := by
  unfold L1.failT
  rw [fail_shift]
  cases c.fail none false <;> rfl

theorem ruleEnter_shift (name : String) (mod : Nat) (c : PState) :
    L1.ruleEnter name mod { c.shift k with rstack := (c.shift k).rstack.push name }
      = (L1.ruleEnter name mod { c with rstack := c.rstack.push name }).shift k := by
  rw [L1.ruleEnter_eq, L1.ruleEnter_eq]
  rfl

theorem exitPairs_shift (name : String) (mod start : Nat) (matched : Bool) (c2 : PState)
    (children : List Pair) :
    L1.exitPairs name mod (start + k) matched (c2.shift k) (shiftL k children)
      = shiftL k (L1.exitPairs name mod start matched c2 children) := by
  unfold L1.exitPairs
  cases matched with
  | false => rfl
  | true =>
    simp only [Bool.not_true, Bool.false_eq_true, ↓reduceIte]
    rw [apply_ite (shiftL k), visibleList_shift, ← apply_ite (shiftL k) (hasBit mod ATOMIC = true)]
    rfl

theorem ruleExit_shift (name : String) (mod start : Nat) (matched : Bool) (c2 : PState)
    (children : List Pair) :
    L1.ruleExit name mod (start + k) matched (c2.shift k) (shiftL k children)
      = (L1.ruleExit name mod start matched c2 children).shift k := by
  rw [L1.ruleExit_eq, L1.ruleExit_eq, exitPairs_shift, show (c2.shift k).rstack = c2.rstack from rfl]
  cases c2.rstack.pop <;> rfl

theorem ruleParse_shift {r r' : Sem1} (h : ShiftGood k r r') (name : String) (mod : Nat)
    (body : Expr) (hb : soiFree body = true) (c : PState) :
    L1.ruleParse r name mod body (c.shift k) = (L1.ruleParse r' name mod body c).shift k := by
  unfold L1.ruleParse
  rw [ruleEnter_shift, h body _ hb]
  cases r' body (L1.ruleEnter name mod { c with rstack := c.rstack.push name }) with
  | oof => rfl
  | exc e => rfl
  | done m c2 ch => exact ruleExit_shift name mod c.pos m c2 ch

theorem withTag_shift (tag : Option String) (c : PState) (body body' : PState → R1)
    (hb : ∀ d, body (d.shift k) = (body' d).shift k) :
    L1.withTag tag (c.shift k) body = (L1.withTag tag c body').shift k := by
  rw [L1.withTag_eq, L1.withTag_eq, PState.shift_pushTag, hb, R1.shift_mapState_popTag]

theorem callRule_shift {r r' : Sem1} (hg : SOIFree g) (h : ShiftGood k r r') (name : String)
    (c : PState) : L1.callRule g r name (c.shift k) = (L1.callRule g r' name c).shift k := by
  unfold L1.callRule
  cases hl : g.lookup name with
  | none => rfl
  | some rl => exact ruleParse_shift h rl.name rl.mod rl.body (hg rl (Prim.lookup_mem hl)) c

def L1.TryR.shift (k : Nat) : L1.TryR → L1.TryR
  | .matched c ps => .matched (c.shift k) (shiftL k ps)
  | .no c => .no (c.shift k)
  | .stop r => .stop (r.shift k)

theorem tryTrivia_shift {r r' : Sem1} (h : ShiftGood k r r') (rl : Option Rule)
    (hrl : ∀ x, rl = some x → soiFree x.body = true) (c : PState) :
    L1.tryTrivia r rl (c.shift k) = (L1.tryTrivia r' rl c).shift k := by
  unfold L1.tryTrivia
  cases rl with
  | none => rfl
  | some x =>
    simp only []
    rw [PState.shift_checkpoint, ruleParse_shift h x.name x.mod x.body (hrl x rfl)]
    cases L1.ruleParse r' x.name x.mod x.body c.checkpoint with
    | oof => rfl
    | exc e => rfl
    | done m d ps =>
      cases m with
      | true => simp only [R1.shift, PState.shift_ok]; rfl
      | false => simp only [R1.shift, PState.shift_restore]; rfl

theorem triviaLoop_shift {r r' : Sem1} (h : ShiftGood k r r') (ws cm : Option Rule)
    (hws : ∀ x, ws = some x → soiFree x.body = true) (hcm : ∀ x, cm = some x → soiFree x.body = true) :
    ∀ (n : Nat) (c : PState) (acc : List Pair),
      L1.triviaLoop r ws cm n (c.shift k) (shiftL k acc) = (L1.triviaLoop r' ws cm n c acc).shift k := by
  intro n
  induction n with
  | zero => intro c acc; rfl
  | succ n ih =>
    intro c acc
    dsimp only [L1.triviaLoop]
    rw [tryTrivia_shift h ws hws]
    cases L1.tryTrivia r' ws c with
    | matched d ps => simp only [L1.TryR.shift, ← shiftL_append]; exact ih d _
    | stop x => rfl
    | no c1 =>
      simp only [L1.TryR.shift]
      rw [tryTrivia_shift h cm hcm]
      cases L1.tryTrivia r' cm c1 with
      | matched d ps => simp only [L1.TryR.shift, ← shiftL_append]; exact ih d _
      | stop x => rfl
      | no c2 => rfl

theorem parseTrivia_shift {r r' : Sem1} (hg : SOIFree g) (h : ShiftGood k r r') (n : Nat)
    (c : PState) : L1.parseTrivia g r n (c.shift k) = (L1.parseTrivia g r' n c).shift k := by
  unfold L1.parseTrivia
  by_cases ha : c.adepth.val > 0
  · rw [if_pos ha, if_pos (show (c.shift k).adepth.val > 0 from ha)]; rfl
  · rw [if_neg ha, if_neg (show ¬ (c.shift k).adepth.val > 0 from ha)]
    cases hsk : g.fusedSkip with
    | some skip =>
      exact ruleParse_shift h skip.name skip.mod skip.body (hg skip (Prim.fusedSkip_mem hsk)) c
    | none =>
      simp only []
      by_cases hn : ((g.lookup "WHITESPACE").isNone && (g.lookup "COMMENT").isNone) = true
      · rw [if_pos hn, if_pos hn]; rfl
      · rw [if_neg hn, if_neg hn]
        have hl : L1.triviaLoop r (g.lookup "WHITESPACE") (g.lookup "COMMENT") n
            { c.shift k with suppress := true } [] = _ :=
          triviaLoop_shift h (g.lookup "WHITESPACE") (g.lookup "COMMENT")
            (fun x hx => hg x (Prim.lookup_mem hx)) (fun x hx => hg x (Prim.lookup_mem hx)) n
            { c with suppress := true } []
        simp only [hl]
        cases L1.triviaLoop r' (g.lookup "WHITESPACE") (g.lookup "COMMENT") n { c with suppress := true } []
          <;> rfl

theorem seqParse_shift {r r' : Sem1} (hg : SOIFree g) (h : ShiftGood k r r') (n : Nat) :
    ∀ (es : List Expr) (c : PState) (acc : List Pair), (∀ e ∈ es, soiFree e = true) →
      L1.seqParse g r n es (c.shift k) (shiftL k acc) = (L1.seqParse g r' n es c acc).shift k := by
  intro es
  induction es with
  | nil => intro c acc _; rfl
  | cons e rest ih =>
    intro c acc hes
    dsimp only [L1.seqParse]
    rw [h e c (hes e (by simp))]
    cases r' e c with
    | oof => rfl
    | exc x => rfl
    | done m c1 ps =>
      cases m with
      | false => rfl
      | true =>
        simp only [R1.shift]
        by_cases hr : rest.isEmpty = true
        · rw [if_pos hr, if_pos hr, ← shiftL_append]
        · rw [if_neg hr, if_neg hr, parseTrivia_shift g hg h n c1]
          cases L1.parseTrivia g r' n c1 with
          | oof => rfl
          | exc x => rfl
          | done m2 c2 tps =>
            simp only [R1.shift, ← shiftL_append]
            exact ih c2 _ (fun x hx => hes x (by simp [hx]))

theorem choiceParse_shift {r r' : Sem1} (h : ShiftGood k r r') :
    ∀ (es : List Expr) (c : PState), (∀ e ∈ es, soiFree e = true) →
      L1.choiceParse r es (c.shift k) = (L1.choiceParse r' es c).shift k := by
  intro es
  induction es with
  | nil => intro c _; rfl
  | cons e rest ih =>
    intro c hes
    dsimp only [L1.choiceParse]
    rw [PState.shift_checkpoint, h e _ (hes e (by simp))]
    cases r' e c.checkpoint with
    | oof => rfl
    | exc x => rfl
    | done m c1 ps =>
      cases m with
      | true => simp only [R1.shift, PState.shift_ok]
      | false =>
        simp only [R1.shift, PState.shift_restore]
        exact ih _ (fun x hx => hes x (by simp [hx]))

theorem repLoop_shift {r r' : Sem1} (hg : SOIFree g) (h : ShiftGood k r r') (e : Expr)
    (he : soiFree e = true) (kk : Nat) :
    ∀ (n : Nat) (first : Bool) (c : PState) (acc : List Pair),
      L1.repLoop g r e n kk first (c.shift k) (shiftL k acc)
        = (L1.repLoop g r' e n kk first c acc).shift k := by
  intro n
  induction n with
  | zero => intro first c acc; rfl
  | succ n ih =>
    intro first c acc
    dsimp only [L1.repLoop]
    have hT : (if first = true then R1.done true (c.shift k).checkpoint []
          else L1.parseTrivia g r kk (c.shift k).checkpoint)
        = (if first = true then R1.done true c.checkpoint [] else L1.parseTrivia g r' kk c.checkpoint).shift k := by
      rw [apply_ite (R1.shift k), PState.shift_checkpoint, parseTrivia_shift g hg h]; rfl
    rw [hT]
    cases (if first = true then R1.done true c.checkpoint [] else L1.parseTrivia g r' kk c.checkpoint) with
    | oof => rfl
    | exc x => rfl
    | done m c1 tps =>
      simp only [R1.shift]
      rw [h e c1 he]
      cases r' e c1 with
      | oof => rfl
      | exc x => rfl
      | done m2 c2 ps =>
        cases m2 with
        | true =>
          simp only [R1.shift, PState.shift_ok, ← shiftL_append]
          exact ih false c2.ok _
        | false => simp only [R1.shift, PState.shift_restore]

theorem popAllLoop_shift (hS : Shifted k inp inp') :
    ∀ (n : Nat) (c : PState) (p : Nat),
      L1.popAllLoop inp n (c.shift k) (p + k) = (L1.popAllLoop inp' n c p).shift k := by
  intro n
  induction n with
  | zero => intro c p; rfl
  | succ n ih =>
    intro c p
    dsimp only [L1.popAllLoop]
    have hu : (c.shift k).ustack = c.ustack := rfl
    rw [hu]
    cases c.ustack.pop with
    | none => simp only [R1.shift, PState.shift_ok]; rfl
    | some q =>
      obtain ⟨lit, us⟩ := q
      simp only [startsWithAt_shift hS]
      rw [apply_ite (R1.shift k), Nat.add_right_comm p k lit.length, ← ih { c with ustack := us },
        ← failT_shift, ← PState.shift_restore]
      rfl

def LeafAct.shift (k : Nat) : LeafAct → LeafAct
  | .ok q op => .ok (q + k) op
  | a => a

/-- every test a terminal other than SOI makes on the input is relative to the current position:
    it decides at `p + k` on the long input what it decides at `p` on the short one, `k` further on -/
theorem leafAct_shift (hS : Shifted k inp inp') {e : Expr} (hf : soiFree e = true) (p : Nat)
    (st : List Str) : leafAct g inp e (p + k) st = (leafAct g inp' e p st).shift k := by
  have adv : ∀ n op, LeafAct.ok (p + k + n) op = (LeafAct.ok (p + n) op).shift k :=
    fun n op => congrArg (LeafAct.ok · op) (Nat.add_right_comm p k n)
  have ma : ∀ (ls : List Str) (op : StkOp),
      (match L1.matchAll inp ls (p + k) with | some q => LeafAct.ok q op | none => .fail)
        = (match L1.matchAll inp' ls p with | some q => LeafAct.ok q op | none => .fail).shift k := by
    intro ls op
    rw [matchAll_shift hS]
    cases L1.matchAll inp' ls p <;> rfl
  cases e with
  | str x => dsimp only [leafAct]; rw [startsWithAt_shift hS, apply_ite (LeafAct.shift k), adv]; rfl
  | ci x => dsimp only [leafAct]; rw [startsWithAtCI_shift hS, apply_ite (LeafAct.shift k), adv]; rfl
  | range a b =>
    dsimp only [leafAct]
    rw [hS.get]
    cases inp'[p]? with
    | none => rfl
    | some x => dsimp only []; rw [apply_ite (LeafAct.shift k), adv]; rfl
  | uprop nm =>
    dsimp only [leafAct]
    rw [hS.get]
    cases inp'[p]? with
    | none => rfl
    | some x => dsimp only []; rw [apply_ite (LeafAct.shift k), adv]; rfl
  | peek | pop =>
    dsimp only [leafAct]
    cases st.head? with
    | none => rfl
    | some v => dsimp only []; rw [startsWithAt_shift hS, apply_ite (LeafAct.shift k), adv]; rfl
  | peekAll | popAll | peekSlice => exact ma _ _
  | drop => cases st <;> rfl
  | anyB =>
    dsimp only [leafAct]
    rw [apply_ite (LeafAct.shift k), adv, hS.size]
    simp only [Nat.add_lt_add_iff_right]
    rfl
  | soiB =>
    -- by `simp only`, which also leaves the equation lemmas of `soiFree` here for the importers
    simp only [soiFree, Bool.false_eq_true] at hf
  | eoiB =>
    dsimp only [leafAct]
    have : (p + k == inp.size) = (p == inp'.size) := by
      rw [hS.size, Bool.eq_iff_iff]; simp only [beq_iff_eq]; exact Nat.add_right_cancel_iff
    rw [this, apply_ite (LeafAct.shift k)]
    rfl
  | skipUntil subs => dsimp only [leafAct]; rw [skipUntilPos_shift hS]; rfl
  | optChoice alts star =>
    dsimp only [leafAct]
    rw [optMatch_shift hS]
    cases L1.optMatch g inp' alts star p <;> rfl
  | _ => rfl

theorem LeafAct.run1_shift (act : LeafAct) (c : PState) :
    (act.shift k).run1 (c.shift k) = (act.run1 c).shift k := by
  cases act with
  | fail => exact failT_shift c
  | no => rfl
  | ok q op =>
    cases op with
    | pop =>
      dsimp only [LeafAct.shift, LeafAct.run1]
      rw [show (c.shift k).ustack = c.ustack from rfl]
      cases c.ustack.pop <;> rfl
    | _ => rfl

theorem leafRun_shift (hS : Shifted k inp inp') {e : Expr} (hf : soiFree e = true) (c : PState) :
    (leafAct g inp e (c.shift k).pos (c.shift k).ustack.items).run1 (c.shift k)
      = ((leafAct g inp' e c.pos c.ustack.items).run1 c).shift k := by
  rw [← LeafAct.run1_shift]
  exact congrArg (LeafAct.run1 (c.shift k)) (leafAct_shift g hS hf c.pos c.ustack.items)

theorem step_leaf_shift (hS : Shifted k inp inp') {e : Expr} (he : e.isLeaf = true)
    (hp : e ≠ .popAll) (hf : soiFree e = true) (n : Nat) (r r' : Sem1) (c : PState) :
    L1.step g inp n r e (c.shift k) = (L1.step g inp' n r' e c).shift k := by
  rw [L1.step_leaf_eq he hp, L1.step_leaf_eq he hp, leafRun_shift g hS hf]

theorem step_shift {r r' : Sem1} (hS : Shifted k inp inp') (hg : SOIFree g) (n : Nat)
    (h : ShiftGood k r r') : ShiftGood k (L1.step g inp n r) (L1.step g inp' n r') := by
  intro e c hf
  cases e with
  | ident name tag => exact withTag_shift tag c _ _ (fun d => callRule_shift g hg h name d)
  | rule name mod sm body => exact ruleParse_shift h name mod body hf c
  | seq es => exact seqParse_shift g hg h n es c [] ((soiFreeL_iff es).1 hf)
  | choice es => exact choiceParse_shift h es c ((soiFreeL_iff es).1 hf)
  | opt e =>
    dsimp only [L1.step]
    rw [PState.shift_checkpoint, h e _ hf]
    cases r' e c.checkpoint with
    | oof => rfl
    | exc x => rfl
    | done m c1 ps =>
      cases m with
      | true => simp only [R1.shift, PState.shift_ok]
      | false => simp only [R1.shift, PState.shift_restore]; rfl
  | rep e => exact repLoop_shift g hg h e hf n n true c []
  | rep1 e | repExact e m | repMin e m | repMax e m | repMinMax e m m2 =>
    exact seqParse_shift g hg h n _ c [] (soiFree_unrolled rfl hf)
  | andP e =>
    dsimp only [L1.step]
    rw [PState.shift_checkpoint, h e _ hf]
    cases r' e c.checkpoint with
    | oof => rfl
    | exc x => rfl
    | done m c1 ps => simp only [R1.shift, PState.shift_restore]; rfl
  | notP e =>
    dsimp only [L1.step]
    rw [PState.shift_checkpoint, PState.shift_incNeg, h e _ hf]
    cases r' e { c.checkpoint with negDepth := c.checkpoint.negDepth + 1 } with
    | oof => rfl
    | exc x => rfl
    | done m c1 ps =>
      simp only [R1.shift, PState.shift_restore]
      cases m with
      | false => rfl
      | true =>
        simp only [↓reduceIte, fail_shift]
        cases c1.restore.fail (L1.failedName e) true <;> rfl
  | group e tag => exact withTag_shift tag c _ _ (fun d => h e d hf)
  | push e =>
    dsimp only [L1.step]
    rw [h e c hf]
    cases r' e c with
    | oof => rfl
    | exc x => rfl
    | done m c1 ps =>
      cases m with
      | false => rfl
      | true =>
        simp only [R1.shift]
        rw [show slice inp (c.shift k).pos (c1.shift k).pos = slice inp' c.pos c1.pos from
          slice_shift hS c.pos c1.pos]
        rfl
  | popAll =>
    dsimp only [L1.step]
    rw [PState.shift_checkpoint]
    exact popAllLoop_shift hS _ _ c.pos
  | _ => exact step_leaf_shift g hS rfl (by nofun) hf n r r' c

theorem run_shift (hS : Shifted k inp inp') (hg : SOIFree g) :
    ∀ n, ShiftGood k (L1.run g inp n) (L1.run g inp' n) := by
  intro n
  induction n with
  | zero => intro e c _; rfl
  | succ n ih => exact step_shift g hS hg n ih

theorem parse_shifted (hS : Shifted k inp inp') (hg : SOIFree g) (fuel : Nat) (start : String) (j : Nat) :
    L1.parse g inp fuel start (j + k) = (L1.parse g inp' fuel start j).shift k := by
  show L1.callRule g _ start ((PState.init j).shift k) = _
  exact callRule_shift g hg (run_shift g hS hg fuel) start (.init j)

end l1

/-! ### LG: the same for the generated-code model (the caller's list is threaded) -/

def RG.shift (k : Nat) : RG → RG
  | .done m c ps => .done m (c.shift k) (shiftL k ps)
  | .oof => .oof
  | .exc e => .exc e

def ShiftGoodG (k : Nat) (r r' : SemG) : Prop :=
  ∀ e c ps, soiFree e = true → r e (c.shift k) (shiftL k ps) = (r' e c ps).shift k

theorem ShiftGoodG.nil {k : Nat} {r r' : SemG} (h : ShiftGoodG k r r') (e : Expr) (c : PState)
    (he : soiFree e = true) : r e (c.shift k) [] = (r' e c []).shift k := h e c [] he

section lg
variable {k : Nat} {inp inp' : Input} (g : Grammar)

theorem R1.shift_thread (ps : List Pair) (r : R1) :
    (r.shift k).thread (shiftL k ps) = (r.thread ps).shift k := by
  cases r with
  | done m c out => simp only [R1.shift, R1.thread, RG.shift, shiftL_append]
  | oof => rfl
  | exc e => rfl

theorem RG.shift_mapState_popTag (tag : Option String) (r : RG) :
    (r.shift k).mapState (PState.popTag tag) = (r.mapState (PState.popTag tag)).shift k := by
  cases r <;> cases tag <;> rfl

theorem ruleExitG_shift (name : String) (mod start : Nat) (matched : Bool) (c2 : PState)
    (children ps : List Pair) :
    LG.ruleExitG name mod (start + k) matched (c2.shift k) (shiftL k children) (shiftL k ps)
      = (LG.ruleExitG name mod start matched c2 children ps).shift k := by
  rw [LG.ruleExitG_eq, LG.ruleExitG_eq, ruleExit_shift, R1.shift_thread]

theorem ruleG_shift {r r' : SemG} (h : ShiftGoodG k r r') (name : String) (mod : Nat)
    (body : Expr) (hb : soiFree body = true) (c : PState) (ps : List Pair) :
    LG.ruleG r name mod body (c.shift k) (shiftL k ps) = (LG.ruleG r' name mod body c ps).shift k := by
  unfold LG.ruleG
  rw [ruleEnter_shift, h.nil body _ hb]
  cases r' body (L1.ruleEnter name mod { c with rstack := c.rstack.push name }) [] with
  | oof => rfl
  | exc e => rfl
  | done m c2 ch => exact ruleExitG_shift name mod c.pos m c2 ch ps

theorem callRuleG_shift {r r' : SemG} (hg : SOIFree g) (h : ShiftGoodG k r r') (name : String)
    (c : PState) (ps : List Pair) :
    LG.callRuleG g r name (c.shift k) (shiftL k ps) = (LG.callRuleG g r' name c ps).shift k := by
  unfold LG.callRuleG
  cases hl : g.lookup name with
  | none => rfl
  | some rl =>
    simp only []
    split
    · rfl
    · exact ruleG_shift h rl.name rl.mod rl.body (hg rl (Prim.lookup_mem hl)) c ps

theorem withTagG_shift (tag : Option String) (c : PState) (body body' : PState → RG)
    (hb : ∀ d, body (d.shift k) = (body' d).shift k) :
    LG.withTagG tag (c.shift k) body = (LG.withTagG tag c body').shift k := by
  rw [LG.withTagG_eq, LG.withTagG_eq, PState.shift_pushTag, hb, RG.shift_mapState_popTag]

def LG.TryG.shift (k : Nat) : LG.TryG → LG.TryG
  | .matched c ps => .matched (c.shift k) (shiftL k ps)
  | .no c ps => .no (c.shift k) (shiftL k ps)
  | .stop r => .stop (r.shift k)

theorem tryTriviaG_shift {r r' : SemG} (hg : SOIFree g) (h : ShiftGoodG k r r') (on : Bool)
    (name : String) (c : PState) (ps : List Pair) :
    LG.tryTriviaG g r on name (c.shift k) (shiftL k ps) = (LG.tryTriviaG g r' on name c ps).shift k := by
  unfold LG.tryTriviaG
  cases on with
  | false => rfl
  | true =>
    simp only [Bool.not_true, Bool.false_eq_true, ↓reduceIte]
    rw [PState.shift_checkpoint, callRuleG_shift g hg h]
    cases LG.callRuleG g r' name c.checkpoint ps with
    | oof => rfl
    | exc e => rfl
    | done m d ps2 =>
      cases m with
      | true => simp only [RG.shift, PState.shift_ok]; rfl
      | false => simp only [RG.shift, PState.shift_restore]; rfl

theorem triviaLoopG_shift {r r' : SemG} (hg : SOIFree g) (h : ShiftGoodG k r r') (hasWs hasCm : Bool) :
    ∀ (n : Nat) (c : PState) (ps : List Pair),
      LG.triviaLoopG g r hasWs hasCm n (c.shift k) (shiftL k ps)
        = (LG.triviaLoopG g r' hasWs hasCm n c ps).shift k := by
  intro n
  induction n with
  | zero => intro c ps; rfl
  | succ n ih =>
    intro c ps
    dsimp only [LG.triviaLoopG]
    rw [tryTriviaG_shift g hg h]
    cases LG.tryTriviaG g r' hasWs "WHITESPACE" c ps with
    | matched d ps2 => exact ih d ps2
    | stop x => rfl
    | no c1 ps1 =>
      simp only [LG.TryG.shift]
      rw [tryTriviaG_shift g hg h]
      cases LG.tryTriviaG g r' hasCm "COMMENT" c1 ps1 with
      | matched d ps2 => exact ih d ps2
      | stop x => rfl
      | no c2 ps2 => rfl

theorem parseTriviaG_shift {r r' : SemG} (hg : SOIFree g) (h : ShiftGoodG k r r') (n : Nat)
    (c : PState) (ps : List Pair) :
    LG.parseTriviaG g r n (c.shift k) (shiftL k ps) = (LG.parseTriviaG g r' n c ps).shift k := by
  unfold LG.parseTriviaG
  by_cases h1 : (!(g.fusedSkip.isSome || g.defines "WHITESPACE" || g.defines "COMMENT")) = true
  · rw [if_pos h1, if_pos h1]; rfl
  · rw [if_neg h1, if_neg h1]
    by_cases ha : c.adepth.val > 0
    · rw [if_pos ha, if_pos (show (c.shift k).adepth.val > 0 from ha)]; rfl
    · rw [if_neg ha, if_neg (show ¬ (c.shift k).adepth.val > 0 from ha)]
      by_cases h2 : g.fusedSkip.isSome = true
      · rw [if_pos h2, if_pos h2]; exact callRuleG_shift g hg h "SKIP" c ps
      · rw [if_neg h2, if_neg h2]
        have hl : LG.triviaLoopG g r (g.defines "WHITESPACE") (g.defines "COMMENT") n
            { c.shift k with suppress := true } (shiftL k ps) = _ :=
          triviaLoopG_shift g hg h (g.defines "WHITESPACE") (g.defines "COMMENT") n
            { c with suppress := true } ps
        simp only [hl]
        cases LG.triviaLoopG g r' (g.defines "WHITESPACE") (g.defines "COMMENT") n
          { c with suppress := true } ps <;> rfl

theorem seqG_shift {r r' : SemG} (hg : SOIFree g) (h : ShiftGoodG k r r') (n : Nat) :
    ∀ (es : List Expr) (c : PState) (ps : List Pair), (∀ e ∈ es, soiFree e = true) →
      LG.seqG g r n es (c.shift k) (shiftL k ps) = (LG.seqG g r' n es c ps).shift k := by
  intro es
  induction es with
  | nil => intro c ps _; rfl
  | cons e rest ih =>
    intro c ps hes
    dsimp only [LG.seqG]
    rw [h e c ps (hes e (by simp))]
    cases r' e c ps with
    | oof => rfl
    | exc x => rfl
    | done m c1 ps1 =>
      cases m with
      | false => rfl
      | true =>
        simp only [RG.shift]
        by_cases hr : rest.isEmpty = true
        · rw [if_pos hr, if_pos hr]
        · rw [if_neg hr, if_neg hr, parseTriviaG_shift g hg h n c1]
          cases LG.parseTriviaG g r' n c1 ps1 with
          | oof => rfl
          | exc x => rfl
          | done m2 c2 ps2 => exact ih c2 ps2 (fun x hx => hes x (by simp [hx]))

theorem choiceG_shift {r r' : SemG} (h : ShiftGoodG k r r') :
    ∀ (es : List Expr) (c : PState) (ps : List Pair), (∀ e ∈ es, soiFree e = true) →
      LG.choiceG r es (c.shift k) (shiftL k ps) = (LG.choiceG r' es c ps).shift k := by
  intro es
  induction es with
  | nil => intro c ps _; rfl
  | cons e rest ih =>
    intro c ps hes
    dsimp only [LG.choiceG]
    rw [PState.shift_checkpoint, h.nil e _ (hes e (by simp))]
    cases r' e c.checkpoint [] with
    | oof => rfl
    | exc x => rfl
    | done m c1 tmp =>
      cases m with
      | true => simp only [RG.shift, PState.shift_ok, shiftL_append]
      | false =>
        simp only [RG.shift, PState.shift_restore]
        exact ih _ ps (fun x hx => hes x (by simp [hx]))

theorem repLoopG_shift {r r' : SemG} (hg : SOIFree g) (h : ShiftGoodG k r r') (e : Expr)
    (he : soiFree e = true) (kk : Nat) :
    ∀ (n : Nat) (first : Bool) (c : PState) (ps : List Pair),
      LG.repLoopG g r e n kk first (c.shift k) (shiftL k ps)
        = (LG.repLoopG g r' e n kk first c ps).shift k := by
  intro n
  induction n with
  | zero => intro first c ps; rfl
  | succ n ih =>
    intro first c ps
    dsimp only [LG.repLoopG]
    have hT : (if first = true then RG.done true (c.shift k).checkpoint []
          else LG.parseTriviaG g r kk (c.shift k).checkpoint [])
        = (if first = true then RG.done true c.checkpoint []
            else LG.parseTriviaG g r' kk c.checkpoint []).shift k := by
      rw [apply_ite (RG.shift k), PState.shift_checkpoint]
      exact congrArg _ (parseTriviaG_shift g hg h kk c.checkpoint [])
    rw [hT]
    cases (if first = true then RG.done true c.checkpoint [] else LG.parseTriviaG g r' kk c.checkpoint []) with
    | oof => rfl
    | exc x => rfl
    | done m c1 tmp =>
      simp only [RG.shift]
      rw [h e c1 tmp he]
      cases r' e c1 tmp with
      | oof => rfl
      | exc x => rfl
      | done m2 c2 tmp2 =>
        cases m2 with
        | true =>
          simp only [RG.shift, PState.shift_ok, ← shiftL_append]
          exact ih false c2.ok _
        | false => simp only [RG.shift, PState.shift_restore]

theorem stepG_leaf_shift (hS : Shifted k inp inp') {e : Expr} (he : e.isLeaf = true)
    (hf : soiFree e = true) (n : Nat) (r r' : SemG) (c : PState) (ps : List Pair) :
    LG.step g inp n r e (c.shift k) (shiftL k ps) = (LG.step g inp' n r' e c ps).shift k := by
  rw [LG.step_act he, LG.step_act he, leafRun_shift g hS hf, R1.shift_thread]

theorem stepG_shift {r r' : SemG} (hS : Shifted k inp inp') (hg : SOIFree g) (n : Nat)
    (h : ShiftGoodG k r r') : ShiftGoodG k (LG.step g inp n r) (LG.step g inp' n r') := by
  intro e c ps hf
  cases e with
  | ident name tag =>
    exact withTagG_shift tag c (LG.callRuleG g r name · (shiftL k ps)) (LG.callRuleG g r' name · ps)
      (fun d => callRuleG_shift g hg h name d ps)
  | rule name mod sm body =>
    dsimp only [LG.step]
    split
    · rfl
    · exact h body c ps hf
  | seq es => exact seqG_shift g hg h n es c ps ((soiFreeL_iff es).1 hf)
  | choice es => exact choiceG_shift h es c ps ((soiFreeL_iff es).1 hf)
  | opt e =>
    dsimp only [LG.step]
    rw [PState.shift_checkpoint, h.nil e _ hf]
    cases r' e c.checkpoint [] with
    | oof => rfl
    | exc x => rfl
    | done m c1 tmp =>
      cases m with
      | true => simp only [RG.shift, PState.shift_ok, shiftL_append]
      | false => simp only [RG.shift, PState.shift_restore]
  | rep e => exact repLoopG_shift g hg h e hf n n true c ps
  | rep1 e | repExact e m | repMin e m | repMax e m | repMinMax e m m2 =>
    exact seqG_shift g hg h n _ c ps (soiFree_unrolled rfl hf)
  | andP e =>
    dsimp only [LG.step]
    rw [PState.shift_checkpoint, h.nil e _ hf]
    cases r' e c.checkpoint [] with
    | oof => rfl
    | exc x => rfl
    | done m c1 tmp => simp only [RG.shift, PState.shift_restore]
  | notP e =>
    dsimp only [LG.step]
    rw [PState.shift_checkpoint, PState.shift_incNeg, h.nil e _ hf]
    cases r' e { c.checkpoint with negDepth := c.checkpoint.negDepth + 1 } [] with
    | oof => rfl
    | exc x => rfl
    | done m c1 tmp =>
      simp only [RG.shift, PState.shift_restore]
      cases m with
      | false => rfl
      | true =>
        simp only [↓reduceIte, fail_shift]
        cases c1.restore.fail (L1.failedName e) true <;> rfl
  | group e tag =>
    exact withTagG_shift tag c (r e · (shiftL k ps)) (r' e · ps) (fun d => h e d ps hf)
  | push e =>
    dsimp only [LG.step]
    rw [h e c ps hf]
    cases r' e c ps with
    | oof => rfl
    | exc x => rfl
    | done m c1 ps1 =>
      cases m with
      | false => rfl
      | true =>
        simp only [RG.shift]
        rw [show slice inp (c.shift k).pos (c1.shift k).pos = slice inp' c.pos c1.pos from
          slice_shift hS c.pos c1.pos]
        rfl
  | _ => exact stepG_leaf_shift g hS rfl hf n r r' c ps

theorem runG_shift (hS : Shifted k inp inp') (hg : SOIFree g) :
    ∀ n, ShiftGoodG k (LG.run g inp n) (LG.run g inp' n) := by
  intro n
  induction n with
  | zero => intro e c ps _; rfl
  | succ n ih => exact stepG_shift g hS hg n ih

theorem gen_parse_shifted (hS : Shifted k inp inp') (hg : SOIFree g) (fuel : Nat) (start : String)
    (j : Nat) : LG.parse g inp fuel start (j + k) = (LG.parse g inp' fuel start j).shift k := by
  unfold LG.parse
  cases hl : g.lookup start with
  | none => rfl
  | some r =>
    simp only []
    split
    · rfl
    · rw [← PState.shift_init]
      exact ruleG_shift (runG_shift g hS hg fuel) r.name r.mod r.body (hg r (Prim.lookup_mem hl)) _ []

end lg

/-! ### the relations in which C16 is stated

    Everything above runs on the equations `c = c'.shift k`, `r = r'.shift k`.  Props/C16.lean
    states shift invariance without `shift`, through relations that spell the equations out field
    by field; they are read off the equations here (`shiftRel_iff`, `eq_shift`, `of_shift`), and
    nothing above uses them.  They say one thing more: the unshifted furthest-failure position is not
    below the sentinel `-1` (`shift` leaves every negative value alone, the relation admits
    `-1` only). -/

def FposRel (k : Nat) (f f' : Int) : Prop := (f = -1 ∧ f' = -1) ∨ (0 ≤ f' ∧ f = f' + k)

structure ShiftRel (k : Nat) (c c' : PState) : Prop where
  pos : c.pos = c'.pos + k
  ph : c.posHist = c'.posHist.map (· + k)
  fp : FposRel k c.fpos c'.fpos
  us : c.ustack = c'.ustack
  rs : c.rstack = c'.rstack
  ad : c.adepth = c'.adepth
  tg : c.tagStack = c'.tagStack ∧ c.tagHist = c'.tagHist
  nd : c.negDepth = c'.negDepth
  sp : c.suppress = c'.suppress
  fe : c.fexp = c'.fexp
  fu : c.funexp = c'.funexp
  fs : c.fstack = c'.fstack

namespace ShiftRel
variable {k : Nat} {c c' : PState}

theorem fpos_ge (s : ShiftRel k c c') : -1 ≤ c'.fpos := by
  rcases s.fp with ⟨_, b⟩ | ⟨b, _⟩
  · exact b ▸ Int.le_refl _
  · exact Int.le_trans (by decide) b

theorem eq_shift (s : ShiftRel k c c') : c = c'.shift k := by
  have hf : c.fpos = if c'.fpos < 0 then c'.fpos else c'.fpos + k := by
    rcases s.fp with ⟨a, b⟩ | ⟨a, b⟩
    · rw [a, b]; rfl
    · rw [b, if_neg (Int.not_lt.2 a)]
  cases c
  cases c'
  simp only [PState.shift, PState.mk.injEq]
  exact ⟨s.pos, s.us, s.rs, s.ad, s.ph, s.tg.1, s.tg.2, s.nd, s.sp, hf, s.fe, s.fu, s.fs⟩

end ShiftRel

theorem shiftRel_shift {k : Nat} {c : PState} (h : -1 ≤ c.fpos) : ShiftRel k (c.shift k) c := by
  refine ⟨rfl, rfl, ?_, rfl, rfl, rfl, ⟨rfl, rfl⟩, rfl, rfl, rfl, rfl, rfl⟩
  show FposRel k (if c.fpos < 0 then c.fpos else c.fpos + k) c.fpos
  by_cases h0 : c.fpos < 0
  · have e : c.fpos = -1 := Int.le_antisymm (Int.le_of_lt_add_one h0) h
    rw [if_pos h0]; exact .inl ⟨e, e⟩
  · rw [if_neg h0]; exact .inr ⟨Int.not_lt.1 h0, rfl⟩

theorem shiftRel_iff {k : Nat} {c c' : PState} : ShiftRel k c c' ↔ c = c'.shift k ∧ -1 ≤ c'.fpos :=
  ⟨fun s => ⟨s.eq_shift, s.fpos_ge⟩, fun ⟨e, h⟩ => e ▸ shiftRel_shift h⟩

namespace ShiftRel
variable {k : Nat} {c c' : PState}

theorem checkpoint (s : ShiftRel k c c') : ShiftRel k c.checkpoint c'.checkpoint := by
  rw [s.eq_shift, PState.shift_checkpoint]
  exact shiftRel_shift s.fpos_ge

theorem restore (s : ShiftRel k c c') : ShiftRel k c.restore c'.restore := by
  rw [s.eq_shift, PState.shift_restore]
  exact shiftRel_shift s.fpos_ge

end ShiftRel

def ResRel (k : Nat) : R1 → R1 → Prop
  | .oof, r' => r' = .oof
  | .exc e, r' => r' = .exc e
  | .done m c ps, r' => ∃ c' ps', r' = .done m c' ps' ∧ ShiftRel k c c' ∧ ps = shiftL k ps'

theorem ResRel.eq_shift {k : Nat} {r r' : R1} (h : ResRel k r r') : r = r'.shift k := by
  cases r with
  | oof => rw [show r' = .oof from h]; rfl
  | exc e => rw [show r' = .exc e from h]; rfl
  | done m c ps =>
    obtain ⟨c', ps', e, s, hps⟩ := h
    rw [e, s.eq_shift, hps]; rfl

theorem ResRel.of_shift {k : Nat} {r : R1} (h : ∀ m c ps, r = .done m c ps → -1 ≤ c.fpos) :
    ResRel k (r.shift k) r := by
  cases r with
  | oof => rfl
  | exc e => rfl
  | done m c ps => exact ⟨c, ps, rfl, shiftRel_shift (h m c ps rfl), rfl⟩

def ResRelG (k : Nat) : RG → RG → Prop
  | .oof, r' => r' = .oof
  | .exc e, r' => r' = .exc e
  | .done m c ps, r' => ∃ c' ps', r' = .done m c' ps' ∧ ShiftRel k c c' ∧ ps = shiftL k ps'

theorem ResRelG.eq_shift {k : Nat} {r r' : RG} (h : ResRelG k r r') : r = r'.shift k := by
  cases r with
  | oof => rw [show r' = .oof from h]; rfl
  | exc e => rw [show r' = .exc e from h]; rfl
  | done m c ps =>
    obtain ⟨c', ps', e, s, hps⟩ := h
    rw [e, s.eq_shift, hps]; rfl

theorem ResRelG.of_shift {k : Nat} {r : RG} (h : ∀ m c ps, r = .done m c ps → -1 ≤ c.fpos) :
    ResRelG k (r.shift k) r := by
  cases r with
  | oof => rfl
  | exc e => rfl
  | done m c ps => exact ⟨c, ps, rfl, shiftRel_shift (h m c ps rfl), rfl⟩

end Pest
