/-
  Lemmas/JsonPrefixLex.lean — the tokens on a truncated input.  `number` answers and stays inside the input (`NumTotal`,
  true of every rule of a well-formed grammar that is not silent), so on a truncated number it fails or stops inside
  it, before a number character (`num_trunc`).
  `string` fails on a proper prefix of a string: the lexers of Lemmas/Json.lean, followed by the end of the input or
  by an incomplete escape (`StopAt`), stop where no closing quote stands.
-/
import PestModel.Lemmas.JsonPrefix

namespace Pest
namespace Json
open L0

variable {g : Grammar} {inp : Input}

/-- what the truncation lemmas need of `number`: from any state inside the input it answers, and a match yields one
    pair and ends inside the input, not before where it began, in the atomicity it was entered in.  Word for word the
    conclusion of `C07.spec_rule_total`, which holds of every rule of a well-formed grammar that is not silent;
    Props/C17.lean takes it from there for the two regenerated tables. -/
def NumTotal (g : Grammar) (inp : Input) : Prop :=
  ∀ s : S0, s.pos ≤ inp.size → ∃ r, Big g inp (.expr (.ident "number" none)) s r ∧
    (r = .fail ∨ ∃ s2 p, r = .ok s2 [p] ∧ s2.atomic = s.atomic ∧ s.pos ≤ s2.pos ∧ s2.pos ≤ inp.size)

def NumCh (c : CP) : Prop := IsDigit c ∨ c = 45 ∨ c = 43 ∨ c = 46 ∨ c = 101 ∨ c = 69

theorem NumCh.junk {c : CP} (h : NumCh c) : JunkCh c := by
  unfold NumCh IsDigit at h
  unfold JunkCh IsWs
  cp_omega

theorem digitsText_numCh (ds : List Digit) : ∀ c ∈ digitsText ds, NumCh c := by
  intro c hc
  simp only [digitsText, List.mem_map] at hc
  obtain ⟨d, _, rfl⟩ := hc
  exact Or.inl (isDigit_digit d)

theorem numText_numCh (n : Num) : ∀ c ∈ numText n, NumCh c := by
  have nil : ∀ c ∈ ([] : Str), NumCh c := fun _ h => nomatch h
  rw [numText_eq]
  refine List.forall_mem_append.mpr ⟨?_, List.forall_mem_append.mpr ⟨?_, List.forall_mem_append.mpr ⟨?_, ?_⟩⟩⟩
  · cases n.neg
    · exact nil
    · exact List.forall_mem_cons.mpr ⟨Or.inr (Or.inl rfl), nil⟩
  · cases n.int with
    | zero => exact List.forall_mem_cons.mpr ⟨Or.inl (by unfold IsDigit; decide), nil⟩
    | nonzero d ds =>
      exact List.forall_mem_cons.mpr ⟨Or.inl (isDigit_nonzero d), digitsText_numCh ds⟩
  · cases n.frac with
    | none => exact nil
    | some f =>
      obtain ⟨d, ds⟩ := f
      exact List.forall_mem_cons.mpr ⟨Or.inr (Or.inr (Or.inr (Or.inl rfl))), digitsText_numCh (d :: ds)⟩
  · cases n.exp with
    | none => exact nil
    | some e =>
      rw [expOptText, expText_eq]
      refine List.forall_mem_cons.mpr
        ⟨by cases e.upper <;> simp [NumCh], List.forall_mem_append.mpr ⟨?_, digitsText_numCh _⟩⟩
      cases e.sign
      · exact nil
      · exact List.forall_mem_cons.mpr ⟨Or.inr (Or.inr (Or.inl rfl)), nil⟩
      · exact List.forall_mem_cons.mpr ⟨Or.inr (Or.inl rfl), nil⟩

theorem RestAt.size_eq {p : Nat} {rem : Str} (h : RestAt inp p rem) (hp : p ≤ inp.size) :
    inp.size = p + rem.length := by
  unfold RestAt at h
  have := congrArg List.length h
  simp at this
  omega

/-- **`number` on a truncated number**: it fails, or it stops somewhere in the truncated text
    and what is left (number characters, or nothing) is junk -/
theorem num_trunc (hn : NumTotal g inp) (n : Num) {s : S0} {rem : Str} (hr : RestAt inp s.pos rem)
    (hne : rem ≠ []) (hp : rem <+: numText n) :
    Big g inp (.expr (.ident "number" none)) s .fail
    ∨ ∃ s2 p, Big g inp (.expr (.ident "number" none)) s (.ok s2 [p]) ∧ s2.atomic = s.atomic ∧ JunkAt inp s2 := by
  have hs := hr.le hne
  obtain ⟨r, h1, h2⟩ := hn s hs
  rcases h2 with rfl | ⟨s2, p, rfl, hat, hlo, hhi⟩
  · exact Or.inl h1
  · obtain ⟨k, hk⟩ : ∃ k, s2.pos = s.pos + k := ⟨s2.pos - s.pos, by omega⟩
    refine Or.inr ⟨s2, p, h1, hat, rem.drop k, ?_, ?_⟩
    · have hsz := hr.size_eq hs
      have : RestAt inp s.pos (rem.take k ++ rem.drop k) := by rw [List.take_append_drop]; exact hr
      have := this.advance
      have hl : (rem.take k).length = k := by simp; omega
      rw [hl] at this
      rw [hk]
      exact this
    · cases hd : rem.drop k with
      | nil => trivial
      | cons c L =>
        have hc : c ∈ rem := List.mem_of_mem_drop (by rw [hd]; simp)
        exact (numText_numCh n c (hp.subset hc)).junk

theorem lxS_hex_short : ∀ (xs : List Hex) (m : Nat), xs.length < m →
    LxS g inp (List.replicate m HEX) (xs.map Hex.cp) (fun r => r = []) false
  | [], m + 1, _ => by
    have hnil : ∀ a b, Rej g inp (.range a b) (fun r => r = []) := fun a b =>
      (rej_range a b).mono fun _ h => h ▸ trivial
    exact ((hnil _ _).choice ((hnil _ _).choice ((hnil _ _).choice rej_choice_nil))).rule.lx.first_fail
  | x :: xs, m + 2, hm => (lex_hex x).consT (lxS_hex_short xs (m + 1) (Nat.lt_of_succ_lt_succ hm))

theorem hexes_prefix {p : Str} {xs : List Hex} (h : p <+: xs.map Hex.cp) :
    ∃ ys : List Hex, p = ys.map Hex.cp ∧ ys.length = p.length := by
  refine ⟨xs.take p.length, ?_, ?_⟩
  · have := List.prefix_iff_eq_take.mp h
    rw [this]; simp [List.map_take]
  · have := h.length_le
    simp at this ⊢; omega

/-- the tail of an escape after its backslash: a proper prefix of it, at the end of the input -/
inductive EscCut : Str → Prop where
  | nil : EscCut []
  | u (ys : List Hex) (h : ys.length < 4) : EscCut (117 :: ys.map Hex.cp)

theorem EscCut.not_esc {p : Str} (h : EscCut p) : HeadIs (fun c => c ∉ escChars) p := by
  cases h with
  | nil => trivial
  | u ys _ => show (117 : CP) ∉ escChars; decide

theorem lx_unicodeBody_cut : Lx g inp (.seq [(.str [117]), (.repExact HEX 4)]) [] EscCut false :=
  fun s r ha hr hcut => by
    cases hcut with
    | nil => exact (rej_str 117 []).seq.lx s [] ha hr trivial
    | u ys hlen =>
      exact ((lex_str 117 []).consT (lxS_hex_short ys 4 hlen).repExact.last).seq s [] ha (by simpa using hr) rfl

theorem escCut_of_prefix (c : SChar) (hc : c.isRaw = false) {p : Str} (hp : p <+: c.text) (hne : p ≠ c.text)
    (hp0 : p ≠ []) : ∃ p', p = 92 :: p' ∧ EscCut p' := by
  cases c with
  | raw c h => simp [SChar.isRaw] at hc
  | esc e =>
    cases p with
    | nil => exact absurd rfl hp0
    | cons a p' =>
      obtain ⟨ha, hp'⟩ := List.cons_prefix_cons.mp (show a :: p' <+: 92 :: [e.cp] from hp)
      subst ha
      refine ⟨p', rfl, ?_⟩
      cases p' with
      | nil => exact .nil
      | cons b p'' =>
        obtain ⟨hb, hp''⟩ := List.cons_prefix_cons.mp hp'
        have : p'' = [] := List.prefix_nil.mp hp''
        subst this; subst hb
        exact absurd rfl hne
  | u a b c d =>
    cases p with
    | nil => exact absurd rfl hp0
    | cons x p' =>
      obtain ⟨hx, hp'⟩ := List.cons_prefix_cons.mp
        (show x :: p' <+: 92 :: (117 :: [a, b, c, d].map Hex.cp) from hp)
      subst hx
      refine ⟨p', rfl, ?_⟩
      cases p' with
      | nil => exact .nil
      | cons y p'' =>
        obtain ⟨hy, hp''⟩ := List.cons_prefix_cons.mp hp'
        subst hy
        obtain ⟨ys, hys, hlen⟩ := hexes_prefix hp''
        subst hys
        have hle := hp''.length_le
        have : ys.length < 4 := by
          by_cases h4 : ys.length = 4
          · exfalso
            apply hne
            have := hp''.eq_of_length (by simp [h4])
            show 92 :: 117 :: List.map Hex.cp ys = 92 :: 117 :: [a, b, c, d].map Hex.cp
            rw [this]
          · simp at hle hlen; omega
        exact .u ys this

theorem nonraw_of_short {c : SChar} {p : Str} (hp0 : p ≠ []) (hlt : p.length < c.text.length) : c.isRaw = false := by
  cases c with
  | raw c h =>
    exfalso
    have h1 : p.length < 1 := hlt
    exact hp0 (List.eq_nil_of_length_eq_zero (by omega))
  | esc e => rfl
  | u a b c d => rfl

/-- where a truncated input can end inside a string body: between two characters, or inside an escape.  Written as the
    follow set that the rules of the calculus produce for `char`/`escape` there: `Lx.or` of the failure at the end of the
    input and `Lx.at_nil` of the failure behind the backslash (`lx_exCharBody_stop`, `lx_tEscape_stop`). -/
def StopAt (L : Str) : Prop := L = [] ∨ ∃ p', L = 92 :: p' ∧ EscCut p'

theorem StopAt.head {L : Str} (h : StopAt L) : HeadIs (fun c => c = 92) L := by
  rcases h with rfl | ⟨p', rfl, _⟩
  · trivial
  · exact rfl

theorem sstr_prefix_split : ∀ (cs : SStr) {p : Str}, p <+: sstrText cs → ∃ cs' L, p = sstrText cs' ++ L ∧ StopAt L
  | [], p, hp => ⟨[], [], by simpa [sstrText] using hp, Or.inl rfl⟩
  | c :: cs, p, hp => by
    rcases prefix_append_cases (show p <+: c.text ++ sstrText cs from hp) with ⟨h1, h2⟩ | ⟨p2, rfl, h2⟩
    · refine ⟨[], p, rfl, ?_⟩
      by_cases hp0 : p = []
      · exact Or.inl hp0
      · exact Or.inr (escCut_of_prefix c (nonraw_of_short hp0 h2) h1 (fun e => by rw [e] at h2; exact Nat.lt_irrefl _ h2) hp0)
    · obtain ⟨cs', L, e, hL⟩ := sstr_prefix_split cs h2
      exact ⟨c :: cs', L, by simp [sstrText, e, List.append_assoc], hL⟩

/-- `inner` takes the characters, and no closing quote stands where it stops.  The body of `string` is this term in both
    grammars (`tStringBody_eq`), what differs is the rule `inner`: hence the hypothesis. -/
theorem lx_stringBody_stop (hin : ∀ cs' : SStr, Lx g inp (.ident "inner" none) (sstrText cs') StopAt true)
    (cs' : SStr) : Lx g inp exStringBody (34 :: sstrText cs') StopAt false := by
  have := ((lex_str 34 []).consT ((hin cs').cons
    ((rej_str 34 []).lx.mono fun _ (h : StopAt _) => h.head.mono fun c hc => by subst hc; decide).last
    fun _ h => h)).seq
  rwa [List.append_nil] at this

theorem lx_stringBody_trunc (hin : ∀ cs' : SStr, Lx g inp (.ident "inner" none) (sstrText cs') StopAt true)
    (cs : SStr) : Lx g inp exStringBody [] (fun p => p <+: strText cs ∧ p ≠ strText cs) false :=
  fun s p hat hr ⟨hp, hne⟩ => by
    cases p with
    | nil => exact (rej_str 34 []).seq.lx s [] hat hr trivial
    | cons a p1 =>
      obtain ⟨ha, hp1⟩ := List.cons_prefix_cons.mp (show a :: p1 <+: 34 :: (sstrText cs ++ [34]) from hp)
      subst ha
      obtain ⟨cs', L, rfl, hL⟩ := sstr_prefix_split cs (prefix_of_proper_snoc hp1 fun e => hne (by rw [e]; rfl))
      exact (lx_stringBody_stop hin cs').at_nil s _ hat hr ⟨L, rfl, hL⟩

/-- `char` where a truncated string body can stop: the second and third alternative match the backslash and fail in
    what is left of the escape -/
theorem lx_exCharBody_stop : Lx g inp exCharBody [] StopAt false :=
  have hcut : Lx g inp exCharBody [92] EscCut false :=
    .alt_next (lx_rawSeq_fail.fail_at fun _ _ => Or.inr rfl)
      (.alt_next ((lex_str 92 []).consT ((rej_strs' escChars).group.lx.mono fun _ h => h.not_esc).last).seq
        (.alt_next ((lex_str 92 []).consT lx_unicodeBody_cut.group.last).seq lx_choice_nil))
  (lx_exCharBody_fail.mono fun r (h : r = []) => h ▸ trivial).or hcut.at_nil

/-- **`string` of examples/json/json.pest fails on a proper prefix of a string** -/
theorem ex_string_trunc (hg : ExStringRules g) (cs : SStr) {s : S0} {p : Str} (hp : p <+: strText cs)
    (hne : p ≠ strText cs) (hr : RestAt inp s.pos p) : Ev g inp (.ident "string" none) s .fail :=
  have hin (cs' : SStr) : Lx g inp (.ident "inner" none) (sstrText cs') StopAt true :=
    (lexR_exChars hg lx_exCharBody_stop cs').rep.ident hg.inner rfl rfl
  ((lx_stringBody_trunc hin cs).token_rej hg.string rfl s p hr ⟨hp, hne⟩).ev

theorem lx_tEscape_stop (hg : TStringRules g) : Lx g inp (.ident "escape" none) [] StopAt false := by
  have hcut : Lx g inp tEscapeBody [92] EscCut false :=
    ((lex_str 92 []).consT ((rej_strs ((lx_unicodeBody_cut.token_rej (tag := none) hg.unicode rfl).choice rej_choice_nil)
      escChars).group.lx.mono fun _ h => ⟨h.not_esc, h⟩).last).seq
  exact (((rej_str 92 []).seq.lx.mono fun r (h : r = []) => h ▸ trivial).or hcut.at_nil).ident hg.escape rfl rfl

/-- **`string` of tests/grammars/json.pest fails on a proper prefix of a string** -/
theorem t_string_trunc (hg : TStringRules g) (cs : SStr) {s : S0} {p : Str} (hp : p <+: strText cs)
    (hne : p ≠ strText cs) (hr : RestAt inp s.pos p) : Ev g inp (.ident "string" none) s .fail :=
  have hin : ∀ cs' : SStr, Lx g inp (.ident "inner" none) (sstrText cs') StopAt true :=
    lex_tInner hg (lx_rawSeq_fail.group.mono fun _ h => h.head.mono fun _ => Or.inr) (lx_tEscape_stop hg)
  ((lx_stringBody_trunc hin cs).token_rej (tStringBody_eq ▸ hg.string) rfl s p hr ⟨hp, hne⟩).ev

end Json
end Pest
