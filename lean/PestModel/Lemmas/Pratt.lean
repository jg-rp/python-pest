/-
  Lemmas/Pratt.lean — proofs about the model of `PrattParser.parse_expr` (`Pratt.lean`): what a
  successful call guarantees (`Post`, `expr_post`); with fuel above the length of the stream a
  call never runs out of it and accepts a well-formed stream (`expr_progress`, `expr_wf`); every
  tree with the guaranteed properties is what the call returns on its yield (`expr_complete`,
  `expr_spec`).  Each is proved of `loop`/`exprStep` under a hypothesis on the recursive call,
  then by a three-line induction on the fuel; the first two share one traversal (`Fwd`, `expr_fwd`).
-/
import PestModel.Pratt

namespace Pest
namespace Pratt
variable {α : Type} {tbl : Table α} {rec : List α → Nat → Res α} {N : Nat}

theorem table_ext {a b : Table α}
    (h : ∀ t, a.pre t = b.pre t ∧ a.post t = b.post t ∧ a.inf t = b.inf t) : a = b := by
  cases a; cases b
  congr 1 <;> funext t
  · exact (h t).1
  · exact (h t).2.1
  · exact (h t).2.2

theorem flatten_post_append (l : Tree α) (o : α) (ts : List α) :
    (Tree.post l o).flatten ++ ts = l.flatten ++ o :: ts :=
  List.append_assoc ..

theorem flatten_bin_append (l r : Tree α) (o : α) (ts : List α) :
    (Tree.bin l o r).flatten ++ ts = l.flatten ++ o :: (r.flatten ++ ts) :=
  List.append_assoc ..

theorem flatten_ne_nil (t : Tree α) : t.flatten ≠ [] := by
  cases t <;> simp [Tree.flatten]

theorem flatten_length_pos (t : Tree α) : 0 < t.flatten.length :=
  List.length_pos_iff.mpr (flatten_ne_nil t)

theorem length_lt_flatten_append (t : Tree α) (ts : List α) : ts.length < (t.flatten ++ ts).length := by
  have := flatten_length_pos t
  rw [List.length_append]; omega

section
variable {o : α} {p : Nat} {ra : Bool}

theorem preR_of (h : tbl.pre o = some p) : tbl.preR o = 2 * p := by
  simp [Table.preR, h]

theorem postL_of (h : tbl.post o = some p) : tbl.postL o = 2 * p + 1 := by
  simp [Table.postL, h]

theorem infL_of (h : tbl.inf o = some (p, ra)) : tbl.infL o = 2 * p + 1 := by
  simp [Table.infL, h]

/-- the right power of an infix operator is twice the `min_prec` its right operand is parsed with -/
theorem infR_of (h : tbl.inf o = some (p, ra)) : tbl.infR o = 2 * (p + if ra = true then 0 else 1) := by
  cases ra <;> simp [Table.infR, h] <;> omega

variable {ts : List α}

theorem wf_pre (h : tbl.pre o = some p) : wf tbl true (o :: ts) = wf tbl true ts :=
  if_pos (h ▸ rfl)

theorem wf_leaf (h : tbl.pre o = none) : wf tbl true (o :: ts) = wf tbl false ts :=
  if_neg (h ▸ Bool.false_ne_true)

theorem wf_post (h : tbl.post o = some p) : wf tbl false (o :: ts) = wf tbl false ts :=
  if_pos (h ▸ rfl)

theorem wf_inf (hp : tbl.post o = none) (hi : tbl.inf o = some (p, ra)) :
    wf tbl false (o :: ts) = wf tbl true ts :=
  (if_neg (hp ▸ Bool.false_ne_true)).trans (if_pos (hi ▸ rfl))

theorem wf_other (hp : tbl.post o = none) (hi : tbl.inf o = none) : wf tbl false (o :: ts) = false :=
  (if_neg (hp ▸ Bool.false_ne_true)).trans (if_neg (hi ▸ Bool.false_ne_true))

end

theorem wf_flatten : ∀ (t : Tree α) (rest : List α), Lex tbl t →
    wf tbl true (t.flatten ++ rest) = wf tbl false rest := by
  intro t
  induction t with
  | leaf n => intro rest h; exact wf_leaf h
  | pre o r ih =>
    intro rest ⟨h1, h2⟩
    obtain ⟨p, hp⟩ := Option.isSome_iff_exists.mp h1
    exact (wf_pre hp).trans (ih rest h2)
  | post l o ih =>
    intro rest ⟨h1, h2⟩
    obtain ⟨p, hp⟩ := Option.isSome_iff_exists.mp h1
    rw [flatten_post_append, ih _ h2, wf_post hp]
  | bin l o r ihl ihr =>
    intro rest ⟨h1, h2, h3, h4⟩
    obtain ⟨⟨p, ra⟩, hi⟩ := Option.isSome_iff_exists.mp h2
    rw [flatten_bin_append, ihl _ h3, wf_inf h1 hi, ihr _ h4]

/-- left power of the token the stream stands at, read as an operator (postfix before infix) -/
def nextL (tbl : Table α) : List α → Option Nat
  | [] => none
  | tok :: _ =>
    match tbl.post tok with
    | some p => some (2 * p + 1)
    | none =>
      match tbl.inf tok with
      | some (p, _) => some (2 * p + 1)
      | none => none

/-- "the call stopped rightly": the operator the stream stands at (if any) is weaker than
    `minPrec` and than every operator exposed on the right edge of the result -/
def Stops (tbl : Table α) (minPrec : Nat) (t : Tree α) (rest : List α) : Prop :=
  ∀ L, nextL tbl rest = some L → L < 2 * minPrec ∧ ∀ x ∈ redge tbl t, L < x

/-- what a successful `parse_expr(stream, minPrec)` guarantees -/
structure Post (tbl : Table α) (minPrec : Nat) (ts : List α) (t : Tree α) (rest : List α) : Prop where
  yield : t.flatten ++ rest = ts
  lex : Lex tbl t
  good : Good tbl t
  lpow : ∀ x ∈ ledge tbl t, 2 * minPrec ≤ x
  stop : Stops tbl minPrec t rest

structure LoopInv (tbl : Table α) (minPrec : Nat) (left : Tree α) (ts : List α) : Prop where
  lex : Lex tbl left
  good : Good tbl left
  lpow : ∀ x ∈ ledge tbl left, 2 * minPrec ≤ x
  rpow : ∀ L, nextL tbl ts = some L → ∀ x ∈ redge tbl left, L < x

/-! ### the code, case by case

  The three ways of leaving the loop normally (end of stream, not an operator, an operator
  weaker than `min_prec`) are one case: `nextL` is not a power `≥ 2·min_prec`. -/

section
variable {mp g prec : Nat} {ra : Bool} {left : Tree α}
  {tok : α} {ts ts' : List α}

theorem nextL_post (hp : tbl.post tok = some prec) : nextL tbl (tok :: ts') = some (2 * prec + 1) := by
  simp [nextL, hp]

theorem nextL_inf (hp : tbl.post tok = none) (hi : tbl.inf tok = some (prec, ra)) :
    nextL tbl (tok :: ts') = some (2 * prec + 1) := by
  simp [nextL, hp, hi]

theorem next_cases (tbl : Table α) (mp : Nat) (ts : List α) :
    (∀ L, nextL tbl ts = some L → L < 2 * mp) ∨
    (∃ tok ts' prec, ts = tok :: ts' ∧ tbl.post tok = some prec ∧ mp ≤ prec) ∨
    (∃ tok ts' prec ra, ts = tok :: ts' ∧ tbl.post tok = none ∧ tbl.inf tok = some (prec, ra) ∧ mp ≤ prec) := by
  cases ts with
  | nil => exact .inl nofun
  | cons tok ts' =>
    cases hp : tbl.post tok with
    | some prec =>
      by_cases hlt : prec < mp
      · refine .inl fun L hL => ?_
        rw [nextL_post hp] at hL
        injection hL with hL
        omega
      · exact .inr (.inl ⟨tok, ts', prec, rfl, hp, Nat.le_of_not_lt hlt⟩)
    | none =>
      cases hi : tbl.inf tok with
      | none => exact .inl fun L hL => by simp [nextL, hp, hi] at hL
      | some pa =>
        obtain ⟨prec, ra⟩ := pa
        by_cases hlt : prec < mp
        · refine .inl fun L hL => ?_
          rw [nextL_inf hp hi] at hL
          injection hL with hL
          omega
        · exact .inr (.inr ⟨tok, ts', prec, ra, rfl, hp, hi, Nat.le_of_not_lt hlt⟩)

theorem loop_halt (h : ∀ L, nextL tbl ts = some L → L < 2 * mp) :
    loop tbl rec mp (g + 1) left ts = .ok left ts := by
  cases ts with
  | nil => rfl
  | cons tok ts' =>
    dsimp only [loop]
    cases hp : tbl.post tok with
    | some prec =>
      have := h _ (nextL_post hp)
      exact if_pos (by omega)
    | none =>
      cases hi : tbl.inf tok with
      | none => rfl
      | some pa =>
        have := h _ (nextL_inf hp hi)
        exact if_pos (by omega)

theorem loop_post_step (hp : tbl.post tok = some prec) (hle : mp ≤ prec) :
    loop tbl rec mp (g + 1) left (tok :: ts') = loop tbl rec mp g (.post left tok) ts' := by
  simp [loop, hp, Nat.not_lt.mpr hle]

theorem loop_inf_ok {rhs : Tree α} {ts'' : List α} (hp : tbl.post tok = none)
    (hi : tbl.inf tok = some (prec, ra)) (hle : mp ≤ prec)
    (hr : rec ts' (prec + if ra = true then 0 else 1) = .ok rhs ts'') :
    loop tbl rec mp (g + 1) left (tok :: ts') = loop tbl rec mp g (.bin left tok rhs) ts'' := by
  simp [loop, hp, hi, Nat.not_lt.mpr hle, hr]

theorem loop_inf_err {e : Res α} (hp : tbl.post tok = none) (hi : tbl.inf tok = some (prec, ra))
    (hle : mp ≤ prec) (hr : rec ts' (prec + if ra = true then 0 else 1) = e)
    (he : ∀ rhs ts'', e ≠ .ok rhs ts'') : loop tbl rec mp (g + 1) left (tok :: ts') = e := by
  subst hr
  simp only [loop, hp, hi, Nat.not_lt.mpr hle, if_false]
  split
  · next h => exact absurd h (he _ _)
  · next h => exact h.symm
  · next h => exact h.symm

theorem exprStep_leaf (hp : tbl.pre tok = none) :
    exprStep tbl rec g (tok :: ts') mp = loop tbl rec mp g (.leaf tok) ts' := by
  simp [exprStep, hp]

theorem exprStep_pre_ok {rhs : Tree α} {ts'' : List α} (hp : tbl.pre tok = some prec)
    (hr : rec ts' prec = .ok rhs ts'') :
    exprStep tbl rec g (tok :: ts') mp = loop tbl rec mp g (.pre tok rhs) ts'' := by
  simp [exprStep, hp, hr]

theorem exprStep_pre_err {e : Res α} (hp : tbl.pre tok = some prec) (hr : rec ts' prec = e)
    (he : ∀ rhs ts'', e ≠ .ok rhs ts'') : exprStep tbl rec g (tok :: ts') mp = e := by
  subst hr
  simp only [exprStep, hp]
  split
  · next h => exact absurd h (he _ _)
  · next h => exact h.symm
  · next h => exact h.symm

end

/-! ### soundness; the fuel is never the limit, and a well-formed stream does not end early -/

theorem Post.wf_rest {mp : Nat} {ts rest : List α} {t : Tree α}
    (h : Post tbl mp ts t rest) : wf tbl false rest = wf tbl true ts := by
  rw [← h.yield, wf_flatten t rest h.lex]

theorem post_shorter {mp : Nat} {ts rest : List α} {t : Tree α}
    (h : Post tbl mp ts t rest) : rest.length < ts.length :=
  h.yield ▸ length_lt_flatten_append t rest

/-- what a call guarantees going forward: a returned tree satisfies `Post` (any fuel); on a stream shorter than `N` the
    fuel is not the limit, and a well-formed one does not end early -/
def Fwd (tbl : Table α) (rec : List α → Nat → Res α) (N : Nat) : Prop :=
  ∀ ts mp, (∀ t rest, rec ts mp = .ok t rest → Post tbl mp ts t rest) ∧
    (ts.length < N → rec ts mp ≠ .fuel ∧ (wf tbl true ts = true → rec ts mp ≠ .eof))

theorem loop_fwd (hrec : Fwd tbl rec N) {mp : Nat} :
    ∀ (g : Nat) (left : Tree α) (ts : List α), LoopInv tbl mp left ts →
      (∀ t rest, loop tbl rec mp g left ts = .ok t rest → Post tbl mp (left.flatten ++ ts) t rest) ∧
      (ts.length ≤ N → ts.length < g →
        loop tbl rec mp g left ts ≠ .fuel ∧ (wf tbl false ts = true → loop tbl rec mp g left ts ≠ .eof)) := by
  intro g
  induction g with
  | zero => exact fun left ts _ => ⟨nofun, fun _ h => absurd h (Nat.not_lt_zero _)⟩
  | succ g ih =>
    intro left ts inv
    rcases next_cases tbl mp ts with hh | ⟨tok, ts', prec, rfl, hp, hle⟩ | ⟨tok, ts', prec, ra, rfl, hp, hi, hle⟩
    · rw [loop_halt hh]
      refine ⟨fun t rest h => ?_, fun _ _ => ⟨nofun, fun _ => nofun⟩⟩
      injection h with h1 h2
      subst h1 h2
      exact ⟨rfl, inv.lex, inv.good, inv.lpow, fun L hL => ⟨hh L hL, inv.rpow L hL⟩⟩
    · have inv' : LoopInv tbl mp (.post left tok) ts' := by
        refine ⟨⟨by rw [hp]; rfl, inv.lex⟩, ⟨inv.good, fun x hx => ?_⟩, fun x hx => ?_,
          fun _ _ _ hx => (nomatch hx)⟩
        · rw [postL_of hp]; exact inv.rpow _ (nextL_post hp) x hx
        · rcases List.mem_cons.mp hx with rfl | hx
          · rw [postL_of hp]; omega
          · exact inv.lpow x hx
      obtain ⟨ih1, ih2⟩ := ih (.post left tok) ts' inv'
      rw [loop_post_step hp hle, ← flatten_post_append]
      refine ⟨ih1, fun hN hg => ?_⟩
      obtain ⟨h1, h2⟩ := ih2 (Nat.le_of_succ_le hN) (Nat.lt_of_succ_lt_succ hg)
      exact ⟨h1, fun hw => h2 ((wf_post hp).symm.trans hw)⟩
    · obtain ⟨rpost, rprog⟩ := hrec ts' (prec + if ra = true then 0 else 1)
      have hwf : wf tbl false (tok :: ts') = wf tbl true ts' := wf_inf hp hi
      cases hr : rec ts' (prec + if ra = true then 0 else 1) with
      | ok rhs ts'' =>
        have post := rpost _ _ hr
        have inv' : LoopInv tbl mp (.bin left tok rhs) ts'' := by
          refine ⟨⟨hp, by rw [hi]; rfl, inv.lex, post.lex⟩,
            ⟨inv.good, post.good, fun x hx => ?_, fun x hx => ?_⟩, fun x hx => ?_, fun L hL x hx => ?_⟩
          · rw [infL_of hi]; exact inv.rpow _ (nextL_inf hp hi) x hx
          · rw [infR_of hi]; exact post.lpow x hx
          · rcases List.mem_cons.mp hx with rfl | hx
            · rw [infL_of hi]; omega
            · exact inv.lpow x hx
          · rcases List.mem_cons.mp hx with rfl | hx
            · rw [infR_of hi]; exact (post.stop L hL).1
            · exact (post.stop L hL).2 x hx
        obtain ⟨ih1, ih2⟩ := ih (.bin left tok rhs) ts'' inv'
        have hlen := post_shorter post
        rw [loop_inf_ok hp hi hle hr]
        refine ⟨fun t rest h => by rw [← post.yield, ← flatten_bin_append]; exact ih1 t rest h, fun hN hg => ?_⟩
        rw [List.length_cons] at hN hg
        obtain ⟨h1, h2⟩ := ih2 (Nat.le_of_lt (Nat.lt_trans hlen hN)) (Nat.lt_trans hlen (Nat.lt_of_succ_lt_succ hg))
        exact ⟨h1, fun hw => h2 (by rw [post.wf_rest, ← hwf]; exact hw)⟩
      | eof =>
        rw [loop_inf_err hp hi hle hr nofun]
        exact ⟨nofun, fun hN _ => ⟨nofun, fun hw _ => (rprog hN).2 (by rw [← hwf]; exact hw) hr⟩⟩
      | fuel =>
        rw [loop_inf_err hp hi hle hr nofun]
        exact ⟨nofun, fun hN _ => absurd hr (rprog hN).1⟩

theorem exprStep_fwd (hrec : Fwd tbl rec N) : Fwd tbl (exprStep tbl rec N) (N + 1) := by
  intro ts mp
  cases ts with
  | nil => exact ⟨nofun, fun _ => ⟨nofun, nofun⟩⟩
  | cons tok ts' =>
    cases hp : tbl.pre tok with
    | none =>
      have inv : LoopInv tbl mp (.leaf tok) ts' :=
        ⟨hp, trivial, fun _ hx => (nomatch hx), fun _ _ _ hx => (nomatch hx)⟩
      obtain ⟨h1, h2⟩ := loop_fwd hrec N _ ts' inv
      rw [exprStep_leaf hp]
      refine ⟨h1, fun hN => ?_⟩
      have hN' : ts'.length < N := Nat.lt_of_succ_lt_succ hN
      obtain ⟨a, b⟩ := h2 (Nat.le_of_lt hN') hN'
      exact ⟨a, fun hw => b ((wf_leaf hp).symm.trans hw)⟩
    | some prec =>
      obtain ⟨rpost, rprog⟩ := hrec ts' prec
      have hwf : wf tbl true (tok :: ts') = wf tbl true ts' := wf_pre hp
      cases hr : rec ts' prec with
      | ok rhs ts'' =>
        have post := rpost _ _ hr
        have inv : LoopInv tbl mp (.pre tok rhs) ts'' := by
          refine ⟨⟨by rw [hp]; rfl, post.lex⟩, ⟨post.good, fun x hx => ?_⟩, fun _ hx => (nomatch hx),
            fun L hL x hx => ?_⟩
          · rw [preR_of hp]; exact post.lpow x hx
          · rcases List.mem_cons.mp hx with rfl | hx
            · rw [preR_of hp]; exact (post.stop L hL).1
            · exact (post.stop L hL).2 x hx
        obtain ⟨h1, h2⟩ := loop_fwd hrec N _ ts'' inv
        rw [exprStep_pre_ok hp hr]
        refine ⟨fun t rest h => by rw [← post.yield]; exact h1 t rest h, fun hN => ?_⟩
        have hlen := Nat.lt_trans (post_shorter post) (Nat.lt_of_succ_lt_succ hN)
        obtain ⟨a, b⟩ := h2 (Nat.le_of_lt hlen) hlen
        exact ⟨a, fun hw => b (by rw [post.wf_rest, ← hwf]; exact hw)⟩
      | eof =>
        rw [exprStep_pre_err hp hr nofun]
        exact ⟨nofun, fun hN => ⟨nofun, fun hw _ => (rprog (Nat.lt_of_succ_lt_succ hN)).2 (by rw [← hwf]; exact hw) hr⟩⟩
      | fuel =>
        rw [exprStep_pre_err hp hr nofun]
        exact ⟨nofun, fun hN => absurd hr (rprog (Nat.lt_of_succ_lt_succ hN)).1⟩

theorem expr_fwd (tbl : Table α) : ∀ f : Nat, Fwd tbl (expr tbl f) f
  | 0 => fun _ _ => ⟨nofun, fun h => absurd h (Nat.not_lt_zero _)⟩
  | f + 1 => exprStep_fwd (expr_fwd tbl f)

theorem expr_post (tbl : Table α) (f : Nat) (ts : List α) (mp : Nat) (t : Tree α) (rest : List α)
    (h : expr tbl f ts mp = .ok t rest) : Post tbl mp ts t rest :=
  (expr_fwd tbl f ts mp).1 t rest h

theorem expr_progress (tbl : Table α) (f : Nat) (ts : List α) (mp : Nat) (h : ts.length < f) :
    expr tbl f ts mp ≠ .fuel ∧ (wf tbl true ts = true → expr tbl f ts mp ≠ .eof) :=
  (expr_fwd tbl f ts mp).2 h

theorem expr_no_fuel (tbl : Table α) :
    ∀ (f : Nat) (ts : List α) (mp : Nat), ts.length < f → expr tbl f ts mp ≠ .fuel :=
  fun f ts mp h => (expr_progress tbl f ts mp h).1

/-! ### well-formed streams are accepted, and consumed entirely at `min_prec = 0` -/

/-- with `min_prec = 0` no operator is weak enough to stop at -/
theorem Post.rest_nil {ts rest : List α} {t : Tree α} (h : Post tbl 0 ts t rest)
    (hw : wf tbl false rest = true) : rest = [] := by
  cases rest with
  | nil => rfl
  | cons n r =>
    have hnone : nextL tbl (n :: r) = none := by
      cases hL : nextL tbl (n :: r) with
      | none => rfl
      | some L => exact absurd (h.stop L hL).1 (Nat.not_lt_zero _)
    cases hp : tbl.post n with
    | some q => rw [nextL_post hp] at hnone; cases hnone
    | none =>
      cases hi : tbl.inf n with
      | some pa => rw [nextL_inf hp hi] at hnone; cases hnone
      | none => rw [wf_other hp hi] at hw; cases hw

theorem expr_wf (tbl : Table α) :
    ∀ (f : Nat) (ts : List α) (mp : Nat), wf tbl true ts = true → ts.length < f →
      ∃ t rest, expr tbl f ts mp = .ok t rest ∧ wf tbl false rest = true ∧
        rest.length < ts.length ∧ (mp = 0 → rest = []) := by
  intro f ts mp hw hlen
  obtain ⟨h1, h2⟩ := expr_progress tbl f ts mp hlen
  cases h : expr tbl f ts mp with
  | fuel => exact absurd h h1
  | eof => exact absurd h (h2 hw)
  | ok t rest =>
    have hp := expr_post tbl f ts mp t rest h
    have hwr : wf tbl false rest = true := by rw [hp.wf_rest]; exact hw
    exact ⟨t, rest, rfl, hwr, post_shorter hp, fun h0 => by subst h0; exact hp.rest_nil hwr⟩

/-! ### completeness: a tree with the guaranteed properties is the one that is returned

  A tree is its *head* (the primary or prefix node at the bottom of its left spine) with the
  postfix/infix nodes of the left spine applied on top, innermost first — exactly the
  order in which the loop builds it. -/

inductive Frame (α : Type) where
  | post (o : α)
  | bin (o : α) (r : Tree α)

def Frame.apply : Frame α → Tree α → Tree α
  | .post o, l => .post l o
  | .bin o r, l => .bin l o r

def Frame.toks : Frame α → List α
  | .post o => [o]
  | .bin o r => o :: r.flatten

def plug (left : Tree α) : List (Frame α) → Tree α
  | [] => left
  | fr :: ctx => plug (fr.apply left) ctx

def ctxToks : List (Frame α) → List α
  | [] => []
  | fr :: ctx => fr.toks ++ ctxToks ctx

theorem ctxToks_post (o : α) (ctx : List (Frame α)) (rest : List α) :
    ctxToks (.post o :: ctx) ++ rest = o :: (ctxToks ctx ++ rest) := rfl

theorem ctxToks_bin (o : α) (r : Tree α) (ctx : List (Frame α)) (rest : List α) :
    ctxToks (.bin o r :: ctx) ++ rest = o :: (r.flatten ++ (ctxToks ctx ++ rest)) :=
  congrArg (o :: ·) (List.append_assoc ..)

theorem plug_append (left : Tree α) (ctx : List (Frame α)) (fr : Frame α) :
    plug left (ctx ++ [fr]) = fr.apply (plug left ctx) := by
  induction ctx generalizing left with
  | nil => rfl
  | cons fr' ctx ih => simp [plug, ih]

theorem Frame.flatten_apply (fr : Frame α) (l : Tree α) : (fr.apply l).flatten = l.flatten ++ fr.toks := by
  cases fr <;> rfl

theorem flatten_plug (h : Tree α) (ctx : List (Frame α)) : (plug h ctx).flatten = h.flatten ++ ctxToks ctx := by
  induction ctx generalizing h with
  | nil => exact (List.append_nil _).symm
  | cons fr ctx ih => rw [plug, ih, fr.flatten_apply, List.append_assoc]; rfl

theorem exists_spine (t : Tree α) :
    ∃ h ctx, t = plug h ctx ∧ ((∃ n, h = .leaf n) ∨ (∃ o r, h = .pre o r)) := by
  induction t with
  | leaf n => exact ⟨.leaf n, [], rfl, .inl ⟨n, rfl⟩⟩
  | pre o r _ => exact ⟨.pre o r, [], rfl, .inr ⟨o, r, rfl⟩⟩
  | post l o ih =>
    obtain ⟨h, ctx, h1, h3⟩ := ih
    exact ⟨h, ctx ++ [.post o], by rw [plug_append, ← h1]; rfl, h3⟩
  | bin l o r ih _ =>
    obtain ⟨h, ctx, h1, h3⟩ := ih
    exact ⟨h, ctx ++ [.bin o r], by rw [plug_append, ← h1]; rfl, h3⟩

theorem of_plug (ctx : List (Frame α)) (x : Tree α) (hl : Lex tbl (plug x ctx))
    (hg : Good tbl (plug x ctx)) : Lex tbl x ∧ Good tbl x := by
  induction ctx generalizing x with
  | nil => exact ⟨hl, hg⟩
  | cons fr ctx ih =>
    obtain ⟨hl', hg'⟩ := ih _ hl hg
    cases fr with
    | post o => exact ⟨hl'.2, hg'.1⟩
    | bin o r => exact ⟨hl'.2.2.1, hg'.1⟩

theorem ledge_plug (ctx : List (Frame α)) (x : Tree α) (y : Nat)
    (h : y ∈ ledge tbl x) : y ∈ ledge tbl (plug x ctx) := by
  induction ctx generalizing x with
  | nil => exact h
  | cons fr ctx ih => exact ih _ (by cases fr <;> exact List.mem_cons_of_mem _ h)

/-- the operator that follows a left operand `x` inside a `Good` tree (or after it) is weaker
    than everything exposed on the right edge of `x` -/
theorem next_weaker (ctx : List (Frame α)) (x : Tree α) (rest : List α) (mp L : Nat)
    (hl : Lex tbl (plug x ctx)) (hg : Good tbl (plug x ctx)) (hs : Stops tbl mp (plug x ctx) rest)
    (hL : nextL tbl (ctxToks ctx ++ rest) = some L) : ∀ y ∈ redge tbl x, L < y := by
  cases ctx with
  | nil => exact (hs L hL).2
  | cons fr ctx' =>
    obtain ⟨hl', hg'⟩ := of_plug ctx' _ hl hg
    cases fr with
    | post o =>
      obtain ⟨q, hq⟩ := Option.isSome_iff_exists.mp hl'.1
      rw [ctxToks_post, nextL_post hq] at hL
      injection hL with hL
      subst hL
      exact fun y hy => postL_of hq ▸ hg'.2 y hy
    | bin o r =>
      obtain ⟨⟨q, ra⟩, hq⟩ := Option.isSome_iff_exists.mp hl'.2.1
      rw [ctxToks_bin, nextL_inf hl'.1 hq] at hL
      injection hL with hL
      subst hL
      exact fun y hy => infL_of hq ▸ hg'.2.2.1 y hy

/-- "the recursive call returns every admissible tree on its yield" (streams shorter than `N`) -/
def Complete (tbl : Table α) (rec : List α → Nat → Res α) (N : Nat) : Prop :=
  ∀ (r : Tree α) (mp : Nat) (rest : List α), Lex tbl r → Good tbl r →
    (∀ x ∈ ledge tbl r, 2 * mp ≤ x) → Stops tbl mp r rest →
    (r.flatten ++ rest).length < N → rec (r.flatten ++ rest) mp = .ok r rest

/-- the recursive call for the right operand `r` of an operator with right power `2 * q`, met
    inside the admissible tree `plug x ctx` whose operand `x` ends with `r` on the right -/
theorem Complete.operand (hrec : Complete tbl rec N) {ctx : List (Frame α)} {x r : Tree α} {rest : List α} {mp q R : Nat}
    (hl : Lex tbl (plug x ctx)) (hg : Good tbl (plug x ctx)) (hs : Stops tbl mp (plug x ctx) rest)
    (hx : redge tbl x = R :: redge tbl r) (hR : R = 2 * q) (hlr : Lex tbl r) (hgr : Good tbl r)
    (hle : ∀ y ∈ ledge tbl r, R ≤ y) (hN : (r.flatten ++ (ctxToks ctx ++ rest)).length < N) :
    rec (r.flatten ++ (ctxToks ctx ++ rest)) q = .ok r (ctxToks ctx ++ rest) := by
  refine hrec r q _ hlr hgr (fun y hy => hR ▸ hle y hy) (fun L hL => ?_) hN
  have hw := next_weaker ctx x rest mp L hl hg hs hL
  rw [hx] at hw
  exact ⟨hR ▸ hw R (List.mem_cons_self ..), fun y hy => hw y (List.mem_cons_of_mem _ hy)⟩

theorem loop_complete (hrec : Complete tbl rec N) :
    ∀ (ctx : List (Frame α)) (left : Tree α) (mp : Nat) (rest : List α) (g : Nat),
      Lex tbl (plug left ctx) → Good tbl (plug left ctx) →
      (∀ x ∈ ledge tbl (plug left ctx), 2 * mp ≤ x) → Stops tbl mp (plug left ctx) rest →
      (ctxToks ctx ++ rest).length ≤ N → (ctxToks ctx ++ rest).length < g →
      loop tbl rec mp g left (ctxToks ctx ++ rest) = .ok (plug left ctx) rest := by
  intro ctx
  induction ctx with
  | nil =>
    intro left mp rest g _ _ _ hs _ hg
    cases g with
    | zero => exact absurd hg (Nat.not_lt_zero _)
    | succ g => exact loop_halt fun L hL => (hs L hL).1
  | cons fr ctx' ih =>
    intro left mp rest g hl hgd hle hs hN hg
    cases g with
    | zero => exact absurd hg (Nat.not_lt_zero _)
    | succ g =>
      obtain ⟨hl', hg'⟩ := of_plug ctx' _ hl hgd
      cases fr with
      | post o =>
        obtain ⟨q, hq⟩ := Option.isSome_iff_exists.mp hl'.1
        have hb := hle _ (ledge_plug ctx' (.post left o) _ (List.mem_cons_self ..))
        rw [postL_of hq] at hb
        rw [ctxToks_post, List.length_cons] at hN hg
        rw [ctxToks_post, loop_post_step hq (by omega)]
        exact ih (.post left o) mp rest g hl hgd hle hs (Nat.le_of_succ_le hN) (Nat.lt_of_succ_lt_succ hg)
      | bin o r =>
        obtain ⟨⟨q, ra⟩, hq⟩ := Option.isSome_iff_exists.mp hl'.2.1
        have hb := hle _ (ledge_plug ctx' (.bin left o r) _ (List.mem_cons_self ..))
        rw [infL_of hq] at hb
        rw [ctxToks_bin, List.length_cons] at hN hg
        have hlen := length_lt_flatten_append r (ctxToks ctx' ++ rest)
        rw [ctxToks_bin, loop_inf_ok hl'.1 hq (by omega)
          (hrec.operand (x := .bin left o r) hl hgd hs rfl (infR_of hq) hl'.2.2.2 hg'.2.1 hg'.2.2.2 hN)]
        exact ih (.bin left o r) mp rest g hl hgd hle hs (Nat.le_of_lt (Nat.lt_trans hlen hN))
          (Nat.lt_trans hlen (Nat.lt_of_succ_lt_succ hg))

theorem exprStep_complete (hrec : Complete tbl rec N) : Complete tbl (exprStep tbl rec N) (N + 1) := by
  intro t mp rest hl hg hle hs hlen
  obtain ⟨h, ctx, rfl, hh⟩ := exists_spine t
  rw [flatten_plug, List.append_assoc] at hlen ⊢
  obtain ⟨hlh, hgh⟩ := of_plug ctx _ hl hg
  rcases hh with ⟨n, rfl⟩ | ⟨o, r, rfl⟩
  · simp only [Tree.flatten, List.cons_append, List.nil_append, List.length_cons] at hlen ⊢
    have hN := Nat.lt_of_succ_lt_succ hlen
    rw [exprStep_leaf hlh]
    exact loop_complete hrec ctx _ mp rest N hl hg hle hs (Nat.le_of_lt hN) hN
  · obtain ⟨p, hp⟩ := Option.isSome_iff_exists.mp hlh.1
    simp only [Tree.flatten, List.cons_append, List.length_cons] at hlen ⊢
    have hr := Nat.lt_of_succ_lt_succ hlen
    have hN := Nat.lt_trans (length_lt_flatten_append r (ctxToks ctx ++ rest)) hr
    rw [exprStep_pre_ok hp (hrec.operand (x := .pre o r) hl hg hs rfl (preR_of hp) hlh.2 hgh.1 hgh.2 hr)]
    exact loop_complete hrec ctx _ mp rest N hl hg hle hs (Nat.le_of_lt hN) hN

theorem expr_complete (tbl : Table α) : ∀ f : Nat, Complete tbl (expr tbl f) f
  | 0 => fun _ _ _ _ _ _ _ h => absurd h (Nat.not_lt_zero _)
  | f + 1 => exprStep_complete (expr_complete tbl f)

theorem expr_spec (tbl : Table α) {f : Nat} {ts : List α} {mp : Nat} {t : Tree α} {rest : List α}
    (hf : ts.length < f) : expr tbl f ts mp = .ok t rest ↔ Post tbl mp ts t rest := by
  refine ⟨expr_post tbl f ts mp t rest, fun h => ?_⟩
  have := expr_complete tbl f t mp rest h.lex h.good h.lpow h.stop (h.yield ▸ hf)
  rwa [h.yield] at this

/-- at the end of the stream there is no operator to stop at -/
theorem expr_of_good (tbl : Table α) {ts : List α} {t : Tree α} {mp : Nat} (hy : t.flatten = ts)
    (hl : Lex tbl t) (hg : Good tbl t) (hle : ∀ x ∈ ledge tbl t, 2 * mp ≤ x) :
    expr tbl (ts.length + 1) ts mp = .ok t [] :=
  (expr_spec tbl (Nat.lt_succ_self _)).mpr ⟨(List.append_nil _).trans hy, hl, hg, hle, fun _ hL => nomatch hL⟩

theorem expr_fuel_irrelevant (tbl : Table α) {f f' : Nat} {ts : List α} {mp : Nat} {t : Tree α}
    {rest : List α} (h : expr tbl f ts mp = .ok t rest) (hf : ts.length < f') :
    expr tbl f' ts mp = .ok t rest :=
  (expr_spec tbl hf).mpr (expr_post tbl f ts mp t rest h)

/-! ### the enumeration behind `reference` -/

theorem splits_sound : ∀ (ts l : List α) (o : α) (r : List α),
    (l, o, r) ∈ splits ts → ts = l ++ o :: r := by
  intro ts
  induction ts with
  | nil => intro l o r h; simp [splits] at h
  | cons x xs ih =>
    intro l o r h
    simp only [splits, List.mem_cons, List.mem_map, Prod.mk.injEq, Prod.exists] at h
    rcases h with ⟨rfl, rfl, rfl⟩ | ⟨l', o', r', hm, rfl, rfl, rfl⟩
    · rfl
    · simp [ih _ _ _ hm]

theorem mem_splits : ∀ (l : List α) (o : α) (r : List α), (l, o, r) ∈ splits (l ++ o :: r) := by
  intro l
  induction l with
  | nil => intro o r; simp [splits]
  | cons x l ih =>
    intro o r
    simp only [List.cons_append, splits, List.mem_cons, List.mem_map, Prod.mk.injEq, Prod.exists]
    exact .inr ⟨l, o, r, ih o r, rfl, rfl, rfl⟩

theorem allTrees_sound : ∀ (f : Nat) (ts : List α) (t : Tree α),
    t ∈ allTrees f ts → t.flatten = ts := by
  intro f
  induction f with
  | zero => intro ts t h; cases h
  | succ f ih =>
    intro ts t h
    simp only [allTrees, List.mem_append, List.mem_flatMap, Prod.exists] at h
    rcases h with h | ⟨l, o, r, hs, h⟩
    · match ts, h with
      | [n], h => cases List.mem_singleton.mp h; rfl
      | [], h => cases h
      | _ :: _ :: _, h => cases h
    · cases splits_sound _ _ _ _ hs
      rcases h with (h | h) | h
      · cases l with
        | nil =>
          obtain ⟨t', ht', rfl⟩ := List.mem_map.mp h
          exact congrArg (o :: ·) (ih _ _ ht')
        | cons _ _ => cases h
      · cases r with
        | nil =>
          obtain ⟨t', ht', rfl⟩ := List.mem_map.mp h
          exact congrArg (· ++ [o]) (ih _ _ ht')
        | cons _ _ => cases h
      · obtain ⟨tl, htl, h⟩ := h
        obtain ⟨tr, htr, rfl⟩ := List.mem_map.mp h
        rw [Tree.flatten, ih _ _ htl, ih _ _ htr]

theorem allTrees_complete : ∀ (f : Nat) (t : Tree α),
    t.flatten.length ≤ f → t ∈ allTrees f t.flatten := by
  intro f
  induction f with
  | zero => intro t h; exact absurd (flatten_length_pos t) (Nat.not_lt.mpr h)
  | succ f ih =>
    intro t h
    simp only [allTrees, List.mem_append, List.mem_flatMap, Prod.exists]
    cases t with
    | leaf n => exact .inl (List.mem_singleton_self _)
    | pre o r =>
      refine .inr ⟨[], o, r.flatten, mem_splits [] o _, .inl (.inl ?_)⟩
      exact List.mem_map.mpr ⟨r, ih r (Nat.le_of_succ_le_succ h), rfl⟩
    | post l o =>
      rw [Tree.flatten, List.length_append] at h
      refine .inr ⟨l.flatten, o, [], mem_splits _ o [], .inl (.inr ?_)⟩
      exact List.mem_map.mpr ⟨l, ih l (Nat.le_of_succ_le_succ h), rfl⟩
    | bin l o r =>
      rw [Tree.flatten, List.length_append, List.length_cons] at h
      refine .inr ⟨l.flatten, o, r.flatten, mem_splits _ o _, .inr ?_⟩
      exact ⟨l, ih l (by omega), List.mem_map.mpr ⟨r, ih r (by omega), rfl⟩⟩
end Pratt
end Pest
