/-
  Lemmas/JsonPrefixDoc.lean — values, containers and documents on a truncated input, for both bundled grammars.
  `TruncVal v`: where the text of `v` is expected but the input ends inside it, `value` fails — or, for a number,
  succeeds on a shorter text after which junk follows (`val_trunc`, by structural recursion).  `TruncIface fl` is the
  hypothesis of that recursion, in `Ev` form: acceptance of every value, the truncated tokens, and that `array`,
  `object`, `value` fail where their parts do.  It is built in one way for both rule tables, from `ValueRules fl`
  (which has absorbed what differs between them) and the two facts `ValueRules` does not carry, `StrTrunc` and
  `NumTotal` (`truncIface_of`); its fields are `Ev` facts while the derivations are on `Big`, hence the `.ev` where a
  field is filled and the `.big nofun` where one is read.  Then every proper prefix of a rendered document with a
  container at top level and no trailing whitespace is rejected, given `NumTotal` of the table
  (`ex_parse_prefix_fail`, `t_parse_prefix_fail`).
-/
import PestModel.Lemmas.JsonPrefixLex

namespace Pest
namespace Json
open L0

variable {g : Grammar} {inp : Input}

def TruncVal (g : Grammar) (inp : Input) (v : Val) : Prop :=
  ∀ (s : S0) (rem : Str), s.atomic = false → rem <+: v.text → rem ≠ v.text → RestAt inp s.pos rem →
    Ev g inp valueE s .fail ∨ ∃ s2 ps, Ev g inp valueE s (.ok s2 ps) ∧ s2.atomic = false ∧ JunkAt inp s2

theorem itemOut_value {fl : Flavour} {v : Val} (hok : ValOk g inp fl v) (htr : TruncVal g inp v) :
    ItemOut g inp valueE v.text := by
  intro s rem T hna hT hr hp
  rcases prefix_append_cases hp with ⟨h1, h2⟩ | ⟨rem', h1, h2⟩
  · rcases htr s rem hna h1 (fun e => by rw [e] at h2; exact Nat.lt_irrefl _ h2) hr with h | ⟨s2, ps, h, hj⟩
    · exact Or.inl (h.big nofun)
    · exact Or.inr (Or.inl ⟨s2, ps, h.big nofun, hj⟩)
  · subst h1
    exact Or.inr (Or.inr ⟨_, rem', (hok s rem' hna hr (headIs_of_prefix h2 hT)).big nofun, hr.advance, h2,
      by simp⟩)

theorem goodItem_value {fl : Flavour} {v : Val} (hok : ValOk g inp fl v) (htr : TruncVal g inp v) (w1 w2 : Ws) :
    GoodItem g inp valueE (w1, v.text, w2) :=
  ⟨itemOut_value hok htr, val_text_nonWs v⟩

/-- what the generic container lemmas need to know about `string` on a truncated input -/
def StrTrunc (g : Grammar) (inp : Input) : Prop :=
  ∀ (cs : SStr) (s : S0) (p : Str), p <+: strText cs → p ≠ strText cs → RestAt inp s.pos p →
    Ev g inp (.ident "string" none) s .fail

theorem itemOut_pair {fl : Flavour} (hk : CoreRules g inp fl) (hst : StrTrunc g inp) {v : Val}
    (hv : ItemOut g inp valueE v.text) (k : SStr) (w2 w3 : Ws) :
    ItemOut g inp pairE (memberText k w2 w3 v) := by
  intro s rem T hna hT hr hp
  obtain ⟨c, t, hcv, hvs⟩ := val_text_start v
  have pair_fail : Big g inp (.seq [.ident "string" none, .str [58], .ident "value" none] []) s .fail →
      Big g inp (.expr pairE) s .fail := fun h =>
    big_plain_fail hk.pair (Or.inl rfl) pair_not_trivia (.seqE rfl h)
  have hp' : rem <+: strText k ++ (wsText w2 ++ 58 :: (wsText w3 ++ (v.text ++ T))) := by
    simpa [memberText, List.append_assoc] using hp
  rcases prefix_append_cases hp' with ⟨h1, h2⟩ | ⟨rem1, h1, h2⟩
  · exact Or.inl (pair_fail (.seqStop
      ((hst k s rem h1 (fun e => by rw [e] at h2; exact Nat.lt_irrefl _ h2) hr).big nofun) rfl))
  · subst h1
    have hstr := (hk.str s k rem1 hr).big nofun
    have hr1 : RestAt inp (adv s (strText k).length).pos rem1 := hr.advance
    obtain ⟨k2, rem2, _, hsk1, hr2, hp2, hk2, hl2⟩ :=
      skip_prefix hk.ws (s := adv s (strText k).length) hna w2
        (T := 58 :: (wsText w3 ++ (v.text ++ T)))
        (show ¬ IsWs 58 from not_ws_struct (Or.inr (Or.inr (Or.inr rfl)))) hr1 h2
    cases rem2 with
    | nil =>
      exact Or.inl (pair_fail (.seqMore hstr hsk1 (.seqStop (rej_str _ _ _ [] hr2 trivial) rfl)))
    | cons d rem3 =>
      obtain ⟨hd, hp3⟩ := List.cons_prefix_cons.mp hp2
      subst hd
      have hk2' : k2 = w2.length := hk2 (by simp)
      subst hk2'
      have hcolon := big_str1_ok (g := g) (s := adv (adv s (strText k).length) w2.length) hr2
      obtain ⟨k3, rem4, _, hsk2, hr4, hp4, hk3, hl4⟩ :=
        skip_prefix hk.ws (s := adv (adv (adv s (strText k).length) w2.length) 1) hna w3
          (T := v.text ++ T) (by rw [hcv]; exact hvs.not_ws) hr2.tail hp3
      rcases hv (adv (adv (adv (adv s (strText k).length) w2.length) 1) k3) rem4 T hna hT
          hr4 hp4 with hF | ⟨s2, ps, hS, hna2, hJ⟩ | ⟨ps, rem', hC, hr', hp', hlen⟩
      · exact Or.inl (pair_fail (.seqMore hstr hsk1 (.seqMore hcolon hsk2 (.seqStop hF rfl))))
      · have hb : Big g inp (.expr exPairBody) s _ := .seqE rfl (.seqMore hstr hsk1 (.seqMore hcolon hsk2 (.seqLast hS)))
        have := big_plain_ok (s := s) hk.pair pair_not_trivia hb (by rw [hna2, hna])
        exact Or.inr (Or.inl ⟨s2, _, this, hna2, hJ⟩)
      · have hne4 : rem4 ≠ [] := by
          intro e; rw [e] at hlen
          simp [hcv] at hlen
          omega
        have hk3' : k3 = w3.length := hk3 hne4
        subst hk3'
        have hb : Big g inp (.expr exPairBody) s _ := .seqE rfl (.seqMore hstr hsk1 (.seqMore hcolon hsk2 (.seqLast hC)))
        have := big_plain_ok (s := s) hk.pair pair_not_trivia hb rfl
        have hr'' : RestAt inp (adv (adv (adv (adv (adv s (strText k).length) w2.length) 1) w3.length)
            v.text.length).pos rem' := hr'
        rw [adv_member] at this hr''
        refine Or.inr (Or.inr ⟨_, rem', this, hr'', hp', ?_⟩)
        rw [List.length_append, hl2, List.length_cons, hl4, hlen, memberText_length]
        omega

theorem goodItem_pair {fl : Flavour} (hk : CoreRules g inp fl) (hst : StrTrunc g inp) {v : Val}
    (hv : ItemOut g inp valueE v.text) (w1 : Ws) (k : SStr) (w2 w3 w4 : Ws) :
    GoodItem g inp pairE (w1, memberText k w2 w3 v, w4) :=
  ⟨itemOut_pair hk hst hv k w2 w3, memberText_nonWs k w2 w3 v⟩

def arrEmptyAlt : Expr := .seq [(.str [91]), (.str [93])]
def arrFullAlt : Expr := .seq [(.str [91]), valueE, (.rep (commaOf valueE)), (.str [93])]
def objEmptyAlt : Expr := .seq [(.str [123]), (.str [125])]
def objFullAlt : Expr := .seq [(.str [123]), pairE, (.rep (commaOf pairE)), (.str [125])]

/-- the bodies of `array`, `object` in `ValueRules` are the choice of these alternatives, in the order of the flavour -/
theorem bracketsBody_arr (fl : Flavour) : bracketsBody fl 91 93 valueE = .choice (altsOf fl arrEmptyAlt arrFullAlt) := rfl
theorem bracketsBody_obj (fl : Flavour) : bracketsBody fl 123 125 pairE = .choice (altsOf fl objEmptyAlt objFullAlt) := rfl

structure TruncIface (g : Grammar) (inp : Input) (fl : Flavour) : Prop where
  core : CoreRules g inp fl
  valOk : ∀ v, ValOk g inp fl v
  strTrunc : StrTrunc g inp
  valNil : ∀ s : S0, RestAt inp s.pos [] → Ev g inp valueE s .fail
  litTrunc : ∀ v, (v = .null ∨ v = .tt ∨ v = .ff) → TruncVal g inp v
  numTrunc : ∀ n, TruncVal g inp (.num n)
  strValTrunc : ∀ cs, TruncVal g inp (.str cs)
  /-- the rule `array` fails when both its alternatives do (they stand in either order) -/
  arrRule : ∀ s : S0, Ev g inp arrEmptyAlt s .fail → Ev g inp arrFullAlt s .fail →
    Ev g inp (.ident "array" none) s .fail
  objRule : ∀ s : S0, Ev g inp objEmptyAlt s .fail → Ev g inp objFullAlt s .fail →
    Ev g inp (.ident "object" none) s .fail
  /-- at `[` (resp. `{`) `value` is `array` (resp. `object`) or nothing -/
  valOfArr : ∀ (s : S0) (r : Str), RestAt inp s.pos (91 :: r) → Ev g inp (.ident "array" none) s .fail →
    Ev g inp valueE s .fail
  valOfObj : ∀ (s : S0) (r : Str), RestAt inp s.pos (123 :: r) → Ev g inp (.ident "object" none) s .fail →
    Ev g inp valueE s .fail

theorem full_alt_fail_nil (hg : WsRules g) (e : Expr) (o c : CP)
    (he : ∀ s : S0, RestAt inp s.pos [] → Big g inp (.expr e) s .fail)
    (w : Ws) {s : S0} (hna : s.atomic = false) {rem : Str} (hr : RestAt inp s.pos (o :: rem)) (hp : rem <+: wsText w) :
    Big g inp (.expr (.seq [(.str [o]), e, (.rep (commaOf e)), (.str [c])])) s .fail := by
  have hopen := big_str1_ok (g := g) hr
  obtain ⟨k, rem1, _, hsk, hr1, hp1, _, _⟩ :=
    skip_prefix hg (s := adv s 1) hna w (T := []) trivial hr.tail (by simpa using hp)
  have : rem1 = [] := List.prefix_nil.mp hp1
  subst this
  exact .seqE rfl (.seqMore hopen hsk (.seqStop (he _ hr1) rfl))

theorem pair_fail_nil {fl : Flavour} (hk : CoreRules g inp fl) (hst : StrTrunc g inp) (s : S0)
    (h : RestAt inp s.pos []) : Big g inp (.expr pairE) s .fail :=
  big_plain_fail hk.pair (Or.inl rfl) pair_not_trivia
    (.seqE rfl (.seqStop ((hst [] s [] List.nil_prefix (by simp [strText]) h).big nofun) rfl))

theorem container_cases {o c : CP} {body rem : Str} (hp : rem <+: o :: (body ++ [c])) (hne : rem ≠ o :: (body ++ [c])) :
    rem = [] ∨ ∃ rem1, rem = o :: rem1 ∧ rem1 <+: body := by
  cases rem with
  | nil => exact Or.inl rfl
  | cons a rem1 =>
    obtain ⟨ha, hp1⟩ := List.cons_prefix_cons.mp hp
    subst ha
    exact Or.inr ⟨rem1, rfl, prefix_of_proper_snoc hp1 (fun e => hne (by rw [e]))⟩

theorem arr0_rule_fail {fl : Flavour} (hi : TruncIface g inp fl) (w : Ws) {s : S0} (hna : s.atomic = false)
    {rem1 : Str} (hr : RestAt inp s.pos (91 :: rem1)) (hp1 : rem1 <+: wsText w) :
    Ev g inp (.ident "array" none) s .fail :=
  hi.arrRule s (empty_alt_fail hi.core.ws 91 93 w (T := []) trivial hna hr (by simpa using hp1)).ev
    (full_alt_fail_nil hi.core.ws valueE 91 93 (fun s h => (hi.valNil s h).big nofun) w hna hr hp1).ev

theorem obj0_rule_fail {fl : Flavour} (hi : TruncIface g inp fl) (w : Ws) {s : S0} (hna : s.atomic = false)
    {rem1 : Str} (hr : RestAt inp s.pos (123 :: rem1)) (hp1 : rem1 <+: wsText w) :
    Ev g inp (.ident "object" none) s .fail :=
  hi.objRule s (empty_alt_fail hi.core.ws 123 125 w (T := []) trivial hna hr (by simpa using hp1)).ev
    (full_alt_fail_nil hi.core.ws pairE 123 125 (pair_fail_nil hi.core hi.strTrunc) w hna hr hp1).ev

theorem Elems.items_head (es : Elems) :
    ∃ (w1 : Ws) (v : Val) (w2 : Ws) (rest : List Item), es.items = (w1, v.text, w2) :: rest := by
  cases es with
  | one a v b => exact ⟨a, v, b, [], rfl⟩
  | cons a v b r => exact ⟨a, v, b, r.items, rfl⟩

theorem Members.items_head (ms : Members) :
    ∃ (w1 : Ws) (k : SStr) (w2 w3 : Ws) (v : Val) (w4 : Ws) (rest : List Item),
      ms.items = (w1, memberText k w2 w3 v, w4) :: rest := by
  cases ms with
  | one a k b c v d => exact ⟨a, k, b, c, v, d, [], rfl⟩
  | cons a k b c v d r => exact ⟨a, k, b, c, v, d, r.items, rfl⟩

theorem arr_rule_fail {fl : Flavour} (hi : TruncIface g inp fl) (es : Elems)
    (hgood : ∀ it ∈ es.items, GoodItem g inp valueE it) {s : S0} (hna : s.atomic = false)
    {rem1 : Str} (hr : RestAt inp s.pos (91 :: rem1)) (hp1 : rem1 <+: es.text) :
    Ev g inp (.ident "array" none) s .fail := by
  obtain ⟨w1, v, w2, rest, hitems⟩ := es.items_head
  rw [Elems.text_items, hitems] at hp1
  rw [hitems] at hgood
  obtain ⟨c, t, hc, hst⟩ := val_text_start v
  exact hi.arrRule s
    (empty_alt_fail hi.core.ws 91 93 w1 (T := v.text ++ tailText w2 rest)
      (by rw [hc]; exact ⟨hst.not_ws, hst.not_close.1⟩) hna hr (by simpa [itemsText] using hp1)).ev
    (chain_fail hi.core.ws valueE 91 93 (Or.inl rfl) w1 v.text w2 rest hgood hna hr (by simpa [itemsText] using hp1)).ev

theorem obj_rule_fail {fl : Flavour} (hi : TruncIface g inp fl) (ms : Members)
    (hgood : ∀ it ∈ ms.items, GoodItem g inp pairE it) {s : S0} (hna : s.atomic = false)
    {rem1 : Str} (hr : RestAt inp s.pos (123 :: rem1)) (hp1 : rem1 <+: ms.text) :
    Ev g inp (.ident "object" none) s .fail := by
  obtain ⟨w1, k, w2, w3, v, w4, rest, hitems⟩ := ms.items_head
  rw [Members.text_items, hitems] at hp1
  rw [hitems] at hgood
  obtain ⟨t, ht⟩ := memberText_head k w2 w3 v
  exact hi.objRule s
    (empty_alt_fail hi.core.ws 123 125 w1 (T := memberText k w2 w3 v ++ tailText w4 rest)
      (by rw [ht]; exact ⟨by unfold IsWs; decide, by decide⟩) hna hr (by simpa [itemsText] using hp1)).ev
    (chain_fail hi.core.ws pairE 123 125 (Or.inr rfl) w1 _ w4 rest hgood hna hr (by simpa [itemsText] using hp1)).ev

def ItemsGood (g : Grammar) (inp : Input) : Val → Prop
  | .arr es => ∀ it ∈ es.items, GoodItem g inp valueE it
  | .obj ms => ∀ it ∈ ms.items, GoodItem g inp pairE it
  | _ => True

theorem container_trunc {fl : Flavour} (hi : TruncIface g inp fl) (v : Val) (hc : v.isContainer = true)
    (hgood : ItemsGood g inp v) {s : S0} (hna : s.atomic = false) {rem : Str} (hp : rem <+: v.text)
    (hne : rem ≠ v.text) (hr : RestAt inp s.pos rem) :
    rem = [] ∨ (∃ rem1, rem = 91 :: rem1 ∧ Ev g inp (.ident "array" none) s .fail) ∨
      (∃ rem1, rem = 123 :: rem1 ∧ Ev g inp (.ident "object" none) s .fail) := by
  cases v with
  | arr0 w =>
    exact (container_cases (body := wsText w) hp hne).imp_right fun ⟨rem1, e, hp1⟩ =>
      Or.inl ⟨rem1, e, arr0_rule_fail hi w hna (e ▸ hr) hp1⟩
  | arr es =>
    exact (container_cases (body := es.text) hp hne).imp_right fun ⟨rem1, e, hp1⟩ =>
      Or.inl ⟨rem1, e, arr_rule_fail hi es hgood hna (e ▸ hr) hp1⟩
  | obj0 w =>
    exact (container_cases (body := wsText w) hp hne).imp_right fun ⟨rem1, e, hp1⟩ =>
      Or.inr ⟨rem1, e, obj0_rule_fail hi w hna (e ▸ hr) hp1⟩
  | obj ms =>
    exact (container_cases (body := ms.text) hp hne).imp_right fun ⟨rem1, e, hp1⟩ =>
      Or.inr ⟨rem1, e, obj_rule_fail hi ms hgood hna (e ▸ hr) hp1⟩
  | _ => cases hc

theorem container_val_fail {fl : Flavour} (hi : TruncIface g inp fl) (v : Val) (hc : v.isContainer = true)
    (hgood : ItemsGood g inp v) {s : S0} (hna : s.atomic = false) {rem : Str} (hp : rem <+: v.text)
    (hne : rem ≠ v.text) (hr : RestAt inp s.pos rem) : Ev g inp valueE s .fail := by
  rcases container_trunc hi v hc hgood hna hp hne hr with rfl | ⟨rem1, rfl, h⟩ | ⟨rem1, rfl, h⟩
  · exact hi.valNil s hr
  · exact hi.valOfArr s rem1 hr h
  · exact hi.valOfObj s rem1 hr h

mutual
theorem val_trunc {fl : Flavour} (hi : TruncIface g inp fl) : ∀ v : Val, TruncVal g inp v
  | .null => hi.litTrunc _ (Or.inl rfl)
  | .tt => hi.litTrunc _ (Or.inr (Or.inl rfl))
  | .ff => hi.litTrunc _ (Or.inr (Or.inr rfl))
  | .num n => hi.numTrunc n
  | .str cs => hi.strValTrunc cs
  | .arr0 w => fun _ _ hna hp hne hr => Or.inl (container_val_fail hi (.arr0 w) rfl trivial hna hp hne hr)
  | .arr es => fun _ _ hna hp hne hr => Or.inl (container_val_fail hi (.arr es) rfl (elems_good hi es) hna hp hne hr)
  | .obj0 w => fun _ _ hna hp hne hr => Or.inl (container_val_fail hi (.obj0 w) rfl trivial hna hp hne hr)
  | .obj ms => fun _ _ hna hp hne hr => Or.inl (container_val_fail hi (.obj ms) rfl (members_good hi ms) hna hp hne hr)
theorem elems_good {fl : Flavour} (hi : TruncIface g inp fl) : ∀ es : Elems, ∀ it ∈ es.items, GoodItem g inp valueE it
  | .one w1 v w2 =>
    List.forall_mem_cons.mpr ⟨goodItem_value (hi.valOk v) (val_trunc hi v) w1 w2, fun _ h => nomatch h⟩
  | .cons w1 v w2 rest =>
    List.forall_mem_cons.mpr ⟨goodItem_value (hi.valOk v) (val_trunc hi v) w1 w2, elems_good hi rest⟩
theorem members_good {fl : Flavour} (hi : TruncIface g inp fl) :
    ∀ ms : Members, ∀ it ∈ ms.items, GoodItem g inp pairE it
  | .one w1 k w2 w3 v w4 =>
    List.forall_mem_cons.mpr
      ⟨goodItem_pair hi.core hi.strTrunc (itemOut_value (hi.valOk v) (val_trunc hi v)) w1 k w2 w3 w4, fun _ h => nomatch h⟩
  | .cons w1 k w2 w3 v w4 rest =>
    List.forall_mem_cons.mpr
      ⟨goodItem_pair hi.core hi.strTrunc (itemOut_value (hi.valOk v) (val_trunc hi v)) w1 k w2 w3 w4, members_good hi rest⟩
end

theorem itemsGood {fl : Flavour} (hi : TruncIface g inp fl) : ∀ v : Val, ItemsGood g inp v
  | .arr es => elems_good hi es
  | .obj ms => members_good hi ms
  | .null | .tt | .ff | .num _ | .str _ | .arr0 _ | .obj0 _ => trivial

section iface
variable {fl : Flavour} (hv : ValueRules g inp fl)
include hv

theorem litTrunc_of (v : Val) (hlit : v = .null ∨ v = .tt ∨ v = .ff) : TruncVal g inp v := by
  intro s rem hna hp hne hr
  refine Or.inl ?_
  cases rem with
  | nil => exact (value_fail_none hv hr trivial).ev
  | cons c rem' =>
    have hshort : ∀ x : Str, c :: rem' <+: x → c :: rem' ≠ x → Big g inp (.expr (.str x)) s .fail :=
      fun x h1 h2 => big_lit_short hr h1 h2
    rcases hlit with rfl | rfl | rfl
    · obtain ⟨rfl, _⟩ := List.cons_prefix_cons.mp (show c :: rem' <+: 110 :: [117, 108, 108] from hp)
      exact (value_fail_kind hv (k := .null) hr (by decide)
        (big_plain_fail hv.null (Or.inl rfl) (rule_not_trivia fl .null) (hshort _ hp hne))).ev
    · obtain ⟨rfl, _⟩ := List.cons_prefix_cons.mp (show c :: rem' <+: 116 :: [114, 117, 101] from hp)
      exact (value_fail_kind hv (k := .boolean) hr (by decide)
        (big_plain_fail hv.bool (Or.inl rfl) (rule_not_trivia fl .boolean) (.choiceE (.choiceNext (hshort _ hp hne)
          (.choiceNext (rej_str 102 _ s _ hr (show (116 : CP) ≠ 102 by decide)) .choiceNil))))).ev
    · obtain ⟨rfl, _⟩ := List.cons_prefix_cons.mp (show c :: rem' <+: 102 :: [97, 108, 115, 101] from hp)
      exact (value_fail_kind hv (k := .boolean) hr (by decide)
        (big_plain_fail hv.bool (Or.inl rfl) (rule_not_trivia fl .boolean)
          (.choiceE (.choiceNext (rej_str 116 _ s _ hr (show (102 : CP) ≠ 116 by decide))
            (.choiceNext (hshort _ hp hne) .choiceNil))))).ev

theorem numTrunc_of (hnt : NumTotal g inp) (n : Num) : TruncVal g inp (.num n) := by
  intro s rem hna hp hne hr
  cases rem with
  | nil => exact Or.inl (value_fail_none hv hr trivial).ev
  | cons c r =>
    obtain ⟨c', t, hc', hk⟩ := val_text_kind (.num n)
    have hcc : c = c' := (List.cons_prefix_cons.mp (hc' ▸ hp)).1
    subst hcc
    rcases num_trunc hnt n hr (by simp) hp with hF | ⟨s2, p, hS, hat, hJ⟩
    · exact Or.inl (value_fail_kind hv hr hk hF).ev
    · exact Or.inr ⟨s2, _, (big_value_kind hv hr hk hS hat).ev, hat.trans hna, hJ⟩

theorem truncIface_of (hst : StrTrunc g inp) (hnt : NumTotal g inp) : TruncIface g inp fl where
  core := hv.core
  valOk := value_ok hv
  strTrunc := hst
  valNil := fun s h => (value_fail_none hv h trivial).ev
  litTrunc := litTrunc_of hv
  numTrunc := numTrunc_of hv hnt
  strValTrunc := fun cs s rem hna hp hne hr => by
    cases rem with
    | nil => exact Or.inl (value_fail_none hv hr trivial).ev
    | cons c r =>
      have hc : c = 34 := (List.cons_prefix_cons.mp (show c :: r <+: 34 :: (sstrText cs ++ [34]) from hp)).1
      subst hc
      exact Or.inl (value_fail_kind hv (k := .string) hr rfl ((hst cs s _ hp hne hr).big nofun)).ev
  arrRule := fun s he hf => (big_plain_fail hv.array (Or.inl rfl) (rule_not_trivia fl .array)
    (bracketsBody_arr fl ▸ alts_fail (he.big nofun) (hf.big nofun))).ev
  objRule := fun s he hf => (big_plain_fail hv.object (Or.inl rfl) (rule_not_trivia fl .object)
    (bracketsBody_obj fl ▸ alts_fail (he.big nofun) (hf.big nofun))).ev
  valOfArr := fun s r hr ha => (value_fail_kind hv (k := .array) hr rfl (ha.big nofun)).ev
  valOfObj := fun s r hr ho => (value_fail_kind hv (k := .object) hr rfl (ho.big nofun)).ev

end iface

theorem exIface (hg : ExDocRules g) (hnt : NumTotal g inp) : TruncIface g inp .examples :=
  truncIface_of (exRules hg) (fun cs _ _ hp hne hr => ex_string_trunc hg.strs cs hp hne hr) hnt

theorem tIface (hg : TDocRules g) (hnt : NumTotal g inp) : TruncIface g inp .tests :=
  truncIface_of (tRules hg) (fun cs _ _ hp hne hr => t_string_trunc hg.strs cs hp hne hr) hnt

theorem doc_prefix_split (d : Doc) (hw : d.w2 = []) {q : Str} (hq : q <+: render d) (hne : q ≠ render d) :
    q <+: wsText d.w1 ++ d.v.text ∧ q.length < d.w1.length + d.v.text.length := by
  have hrd : render d = wsText d.w1 ++ d.v.text := by simp [render, hw, wsText]
  rw [hrd] at hq hne
  exact ⟨hq, by have := proper_prefix_length hq hne; simpa using this⟩

theorem doc_prefix_at (hws : WsRules g) (d : Doc) (hw : d.w2 = []) {q : Str} (hq : q <+: render d) (hne : q ≠ render d) :
    ∃ k rem1, Big g q.toArray .skip (⟨0, [], false⟩ : S0) (.ok (adv ⟨0, [], false⟩ k) []) ∧
      RestAt q.toArray (adv (⟨0, [], false⟩ : S0) k).pos rem1 ∧ rem1 <+: d.v.text ∧ rem1 ≠ d.v.text := by
  obtain ⟨hq', hlen⟩ := doc_prefix_split d hw hq hne
  obtain ⟨c, t, hcv, hst⟩ := val_text_start d.v
  obtain ⟨k, rem1, hk, hsk, hr1, hp1, hkfull, hl1⟩ :=
    skip_prefix hws (s := (⟨0, [], false⟩ : S0)) rfl d.w1 (T := d.v.text) (by rw [hcv]; exact hst.not_ws)
      (restAt_zero q) hq'
  refine ⟨k, rem1, hsk, hr1, hp1, fun e => ?_⟩
  rw [e] at hl1
  have : k = d.w1.length := hkfull (by rw [e, hcv]; simp)
  omega

/-- **every proper prefix of a rendered document (container at top level, no trailing whitespace) is rejected**
    (examples/json/json.pest) -/
theorem ex_parse_prefix_fail (hg : ExDocRules g) (d : Doc) (hc : d.topLevelIsContainer) (hw : d.w2 = []) (q : Str)
    (hnt : NumTotal g q.toArray) (hq : q <+: render d) (hne : q ≠ render d) :
    ∃ N, ∀ n, N ≤ n → L0.parse g q.toArray n "json" 0 = .fail := by
  obtain ⟨k, rem1, hsk, hr1, hp1, hne1⟩ := doc_prefix_at hg.ws d hw hq hne
  have hv : ValueRules g q.toArray .examples := exRules hg
  have hi : TruncIface g q.toArray .examples := exIface hg hnt
  have hboth : Big g q.toArray (.expr (.ident "object" none)) (adv ⟨0, [], false⟩ k) .fail ∧
      Big g q.toArray (.expr (.ident "array" none)) (adv ⟨0, [], false⟩ k) .fail := by
    rcases container_trunc hi d.v hc (itemsGood hi d.v) rfl hp1 hne1 hr1 with rfl | ⟨rem3, rfl, h⟩ | ⟨rem3, rfl, h⟩
    · exact ⟨rejKind hv .object _ _ hr1 trivial, rejKind hv .array _ _ hr1 trivial⟩
    · exact ⟨rejKind hv .object _ _ hr1 (show startKind 91 ≠ some .object by decide), h.big nofun⟩
    · exact ⟨h.big nofun, rejKind hv .array _ _ hr1 (show startKind 123 ≠ some .array by decide)⟩
  have hbody : Big g q.toArray (.expr exJsonBody) ⟨0, [], false⟩ .fail :=
    .seqE rfl (.seqMore soi_ok hsk (.seqStop
      (.group (.choiceE (.choiceNext hboth.1 (.choiceNext hboth.2 .choiceNil)))) rfl))
  exact parse_of_big (big_plain_fail hg.json (Or.inr rfl) json_not_trivia hbody)

/-- the same for tests/grammars/json.pest -/
theorem t_parse_prefix_fail (hg : TDocRules g) (d : Doc) (hc : d.topLevelIsContainer) (hw : d.w2 = []) (q : Str)
    (hnt : NumTotal g q.toArray) (hq : q <+: render d) (hne : q ≠ render d) :
    ∃ N, ∀ n, N ≤ n → L0.parse g q.toArray n "json" 0 = .fail := by
  obtain ⟨k, rem1, hsk, hr1, hp1, hne1⟩ := doc_prefix_at hg.ws d hw hq hne
  have hi : TruncIface g q.toArray .tests := tIface hg hnt
  have hbody : Big g q.toArray (.expr tJsonBody) ⟨0, [], false⟩ .fail :=
    .seqE rfl (.seqMore soi_ok hsk (.seqStop
      ((container_val_fail hi d.v hc (itemsGood hi d.v) (s := adv ⟨0, [], false⟩ k) rfl hp1 hne1 hr1).big nofun) rfl))
  exact parse_of_big (big_plain_fail hg.json (Or.inl rfl) json_not_trivia hbody)

/-! Not used: the proofs above say the following as `startKind c = none` (`value_fail_none`). -/

def NoStart (c : CP) : Prop :=
  c ≠ 123 ∧ c ≠ 91 ∧ c ≠ 34 ∧ c ≠ 45 ∧ ¬ IsDigit c ∧ c ≠ 116 ∧ c ≠ 102 ∧ c ≠ 110

end Json
end Pest
