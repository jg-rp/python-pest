/-
  Lemmas/AllN.lean — a predicate at every node of an expression.

  `AllN P e`: `P` holds of `e` and of every node below it, children in the sense of `Opt.children`
  (`AllN_iff`); induction on the children (`Expr.children_ind`); the Boolean counterpart `allC`.
  The optimizer files state well-formedness of rule bodies (`NodeOK`), the absence of `SKIP`
  references (`NSR`) and the predicates the rewrites keep in this form.
-/
import PestModel.Opt

namespace Pest
namespace OptS

mutual
def AllN (P : Expr → Prop) : Expr → Prop
  | .rule n m sm b => P (.rule n m sm b) ∧ AllN P b
  | .seq es => P (.seq es) ∧ AllNL P es
  | .choice es => P (.choice es) ∧ AllNL P es
  | .opt e => P (.opt e) ∧ AllN P e
  | .rep e => P (.rep e) ∧ AllN P e
  | .rep1 e => P (.rep1 e) ∧ AllN P e
  | .repExact e n => P (.repExact e n) ∧ AllN P e
  | .repMin e n => P (.repMin e n) ∧ AllN P e
  | .repMax e n => P (.repMax e n) ∧ AllN P e
  | .repMinMax e m n => P (.repMinMax e m n) ∧ AllN P e
  | .andP e => P (.andP e) ∧ AllN P e
  | .notP e => P (.notP e) ∧ AllN P e
  | .group e t => P (.group e t) ∧ AllN P e
  | .push e => P (.push e) ∧ AllN P e
  | e => P e
def AllNL (P : Expr → Prop) : List Expr → Prop
  | [] => True
  | e :: es => AllN P e ∧ AllNL P es
end

theorem AllNL_iff {P : Expr → Prop} : ∀ {es : List Expr}, AllNL P es ↔ ∀ c ∈ es, AllN P c
  | [] => by simp [AllNL]
  | e :: es => by simp [AllNL, AllNL_iff (es := es)]

theorem AllN_iff {P : Expr → Prop} (e : Expr) : AllN P e ↔ P e ∧ ∀ c ∈ Opt.children e, AllN P c := by
  cases e
  case seq | choice => exact and_congr_right' AllNL_iff
  case rule | opt | rep | rep1 | repExact | repMin | repMax | repMinMax | andP | notP | group | push =>
    exact and_congr_right' List.forall_mem_singleton.symm
  all_goals exact (and_iff_left fun _ hc => (List.not_mem_nil hc).elim).symm

theorem AllN.root {P : Expr → Prop} {e : Expr} (h : AllN P e) : P e :=
  ((AllN_iff e).1 h).1

theorem AllNL.index {P : Expr → Prop} {es : List Expr} (h : AllNL P es) (i : Nat) (hi : i < es.length) :
    AllN P es[i] :=
  AllNL_iff.1 h _ (List.getElem_mem hi)

theorem children_sizeOf {e c : Expr} (hc : c ∈ Opt.children e) : sizeOf c < sizeOf e := by
  cases e
  case seq es =>
    have := List.sizeOf_lt_of_mem (as := es) hc
    simp only [Expr.seq.sizeOf_spec]; omega
  case choice es =>
    have := List.sizeOf_lt_of_mem (as := es) hc
    simp only [Expr.choice.sizeOf_spec]; omega
  case rule | opt | rep | rep1 | repExact | repMin | repMax | repMinMax | andP | notP | group | push =>
    cases List.mem_singleton.1 hc
    simp only [Expr.rule.sizeOf_spec, Expr.opt.sizeOf_spec, Expr.rep.sizeOf_spec,
      Expr.rep1.sizeOf_spec, Expr.repExact.sizeOf_spec, Expr.repMin.sizeOf_spec, Expr.repMax.sizeOf_spec,
      Expr.repMinMax.sizeOf_spec, Expr.andP.sizeOf_spec, Expr.notP.sizeOf_spec, Expr.group.sizeOf_spec,
      Expr.push.sizeOf_spec]
    omega
  all_goals exact absurd hc List.not_mem_nil

theorem Expr.children_ind {motive : Expr → Prop} (h : ∀ e, (∀ c ∈ Opt.children e, motive c) → motive e)
    (e : Expr) : motive e :=
  h e fun c _ => Expr.children_ind h c
termination_by sizeOf e
decreasing_by exact children_sizeOf ‹_›

/-- `List.all` with `allC f [x] = f x` by definition, so that a recursive Boolean check (`soiFree`,
    `shapeOk`, `allNb`) is "node check and `allC` of the children" by `rfl` at the one-child nodes -/
def allC (f : Expr → Bool) : List Expr → Bool
  | [] => true
  | [x] => f x
  | x :: xs => f x && allC f xs

theorem allC_iff {f : Expr → Bool} : ∀ {l : List Expr}, allC f l = true ↔ ∀ c ∈ l, f c = true
  | [] => by simp [allC]
  | [x] => by simp [allC]
  | x :: y :: l => by
    show (f x && allC f (y :: l)) = true ↔ _
    rw [Bool.and_eq_true, allC_iff (l := y :: l), List.forall_mem_cons (a := x)]

theorem eq_allC {f : Expr → Bool} {fL : List Expr → Bool} (hnil : fL [] = true)
    (hcons : ∀ e es, fL (e :: es) = (f e && fL es)) : ∀ es, fL es = allC f es
  | [] => hnil
  | [x] => by rw [hcons, hnil]; exact Bool.and_true _
  | x :: y :: es => by rw [hcons]; exact congrArg (f x && ·) (eq_allC hnil hcons (y :: es))

theorem iff_children_of_eq {p q : Expr → Bool} (h : ∀ e, p e = (q e && allC p (Opt.children e))) (e : Expr) :
    p e = true ↔ q e = true ∧ ∀ c ∈ Opt.children e, p c = true := by
  rw [h e, Bool.and_eq_true, allC_iff]

theorem AllN.children {P : Expr → Prop} {x : Expr} (h : AllN P x) : ∀ c ∈ Opt.children x, AllN P c :=
  ((AllN_iff x).1 h).2

theorem allN_of_closed {S Q : Expr → Prop} (hS : ∀ x, S x → ∀ c ∈ Opt.children x, S c)
    (hQ : ∀ x, S x → Q x) (e : Expr) : S e → AllN Q e := by
  induction e using Expr.children_ind with
  | _ e ih => exact fun h => (AllN_iff e).2 ⟨hQ e h, fun c hc => ih c hc (hS e h c hc)⟩

theorem allNL_of_closed {S Q : Expr → Prop} (hS : ∀ x, S x → ∀ c ∈ Opt.children x, S c)
    (hQ : ∀ x, S x → Q x) : ∀ (es : List Expr), (∀ c ∈ es, S c) → AllNL Q es :=
  fun _ h => AllNL_iff.2 fun c hc => allN_of_closed hS hQ c (h c hc)

theorem AllN.imp2 {P Q : Expr → Prop} (h : ∀ x, AllN P x → Q x) (e : Expr) : AllN P e → AllN Q e :=
  allN_of_closed (fun _ hx => hx.children) h e

theorem AllNL.imp2 {P Q : Expr → Prop} (h : ∀ x, AllN P x → Q x) (es : List Expr) (he : AllNL P es) :
    AllNL Q es :=
  AllNL_iff.2 fun c hc => AllN.imp2 h c (AllNL_iff.1 he c hc)

theorem AllN.imp3 {P Q R : Expr → Prop} (h : ∀ x, AllN P x → AllN Q x → R x) (e : Expr) :
    AllN P e → AllN Q e → AllN R e :=
  fun h1 h2 => allN_of_closed (S := fun x => AllN P x ∧ AllN Q x)
    (fun _ hx c hc => ⟨hx.1.children c hc, hx.2.children c hc⟩) (fun x hx => h x hx.1 hx.2) e ⟨h1, h2⟩

theorem AllNL.imp3 {P Q R : Expr → Prop} (h : ∀ x, AllN P x → AllN Q x → R x) :
    ∀ (es : List Expr), AllNL P es → AllNL Q es → AllNL R es :=
  fun _ h1 h2 => AllNL_iff.2 fun c hc => AllN.imp3 h c (AllNL_iff.1 h1 c hc) (AllNL_iff.1 h2 c hc)

theorem AllN.imp {P Q : Expr → Prop} (h : ∀ x, P x → Q x) {e : Expr} (he : AllN P e) : AllN Q e :=
  AllN.imp2 (fun x hx => h x hx.root) e he

theorem AllNL.replicate {P : Expr → Prop} {e : Expr} (h : AllN P e) : ∀ n, AllNL P (List.replicate n e)
  | 0 => trivial
  | n + 1 => ⟨h, AllNL.replicate h n⟩

theorem AllNL.append {P : Expr → Prop} : ∀ {es es' : List Expr}, AllNL P es → AllNL P es' → AllNL P (es ++ es')
  | [], _, _, h => h
  | _ :: _, _, h1, h2 => ⟨h1.1, AllNL.append h1.2 h2⟩

theorem AllNL.mem {P : Expr → Prop} {es : List Expr} (h : AllNL P es) : ∀ c ∈ es, AllN P c :=
  AllNL_iff.1 h

end OptS
end Pest
