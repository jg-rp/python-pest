/-
  Lemmas/FrontCstSep.lean — what both halves of the scanner proof need of the C-tree
  (Lemmas/FrontInvCst.lean) beyond its definition, first the one adjacency a valid C-tree can get
  wrong (`Sep`).

  The layout `ScA` allows empty trivia between two tokens.  Every pair of neighbouring lexemes of a
  valid C-tree is still told apart by the scanner (an operator or bracket stands between them),
  except two number lexemes next to each other inside `{ … }`: `{1 2}` is scanned as
  `{`, `1`, `2`, `}`, but with empty trivia the text `{12}` is another tree's.  `Sep` rules that
  out; with it the scanner accepts every layout of the tree (`scan_accept_c`, the converse of
  `IS.scan_inv` for separated trees).  The four shapes of bounds the grammar parser accepts
  (`CPost.abs`) are separated (`IG.post_g2`, Lemmas/FrontCstGlue.lean).
-/
import PestModel.Lemmas.FrontInvCst

namespace Pest
namespace Front

/-- no two number lexemes without a comma between them -/
def sepItems : List (Option Text) → Bool
  | some _ :: some _ :: _ => false
  | _ :: r => sepItems r
  | [] => true

theorem sepItems_tail {i : Option Text} {items : List (Option Text)}
    (h : sepItems (i :: items) = true) : sepItems items = true := by
  cases i <;> cases items with
  | nil => rfl
  | cons j r => cases j <;> first | exact h | cases h

def CPost.Sep : CPost → Prop
  | .braces items => sepItems items = true
  | _ => True

mutual
def CNode.Sep : CNode → Prop
  | .push _ e => e.Sep
  | .paren _ e => e.Sep
  | _ => True
def CTerm.Sep : CTerm → Prop
  | .mk _ _ node post => node.Sep ∧ ∀ p ∈ post, p.Sep
def CExpr.Sep : CExpr → Prop
  | .one t => t.Sep
  | .cons t _ rest => t.Sep ∧ rest.Sep
end

def CRule.Sep (r : CRule) : Prop := r.body.Sep

def CGrammar.Sep (g : CGrammar) : Prop := ∀ r ∈ g.rules, r.Sep

/-! ### an expression as its first term and the operator–term pairs behind it

  What `accept_expression` sees: a term, then a loop over `~`/`|` and a term.  The inversion builds
  the expression from the pairs the loop has found, the accept half takes a given one apart. -/

def mkCExpr : CTerm → List (Bool × CTerm) → CExpr
  | t, [] => .one t
  | t, (b, t') :: r => .cons t b (mkCExpr t' r)

def tailKV (ts : List (Bool × CTerm)) : List KV := (ts.map fun x => opKV x.1 :: x.2.kv).flatten

@[simp] theorem tailKV_nil : tailKV [] = [] := rfl

theorem tailKV_cons (b : Bool) (t : CTerm) (ts : List (Bool × CTerm)) :
    tailKV ((b, t) :: ts) = opKV b :: (t.kv ++ tailKV ts) := by
  simp [tailKV]

theorem exists_mkCExpr : ∀ e : CExpr, ∃ t ts, e = mkCExpr t ts
  | .one t => ⟨t, [], rfl⟩
  | .cons t b r => by
    obtain ⟨t', ts, rfl⟩ := exists_mkCExpr r
    exact ⟨t, (b, t') :: ts, rfl⟩

theorem mkCExpr_kv : ∀ (t : CTerm) (ts : List (Bool × CTerm)), (mkCExpr t ts).kv = t.kv ++ tailKV ts
  | t, [] => by dsimp only [mkCExpr, CExpr.kv]; simp
  | t, (b, t') :: r => by
    dsimp only [mkCExpr, CExpr.kv]
    rw [mkCExpr_kv t' r, tailKV_cons]
    simp

theorem mkCExpr_valid : ∀ {t : CTerm} {ts : List (Bool × CTerm)},
    (mkCExpr t ts).Valid ↔ t.Valid ∧ ∀ x ∈ ts, x.2.Valid
  | t, [] => by
    dsimp only [mkCExpr, CExpr.Valid]
    exact ⟨fun h => ⟨h, fun _ hx => nomatch hx⟩, fun h => h.1⟩
  | t, (b, t') :: r => by
    dsimp only [mkCExpr, CExpr.Valid]
    rw [mkCExpr_valid (t := t') (ts := r), List.forall_mem_cons]

theorem mkCExpr_sep : ∀ {t : CTerm} {ts : List (Bool × CTerm)},
    (mkCExpr t ts).Sep ↔ t.Sep ∧ ∀ x ∈ ts, x.2.Sep
  | t, [] => by
    dsimp only [mkCExpr, CExpr.Sep]
    exact ⟨fun h => ⟨h, fun _ hx => nomatch hx⟩, fun h => h.1⟩
  | t, (b, t') :: r => by
    dsimp only [mkCExpr, CExpr.Sep]
    rw [mkCExpr_sep (t := t') (ts := r), List.forall_mem_cons]

/-! ### the tokens of a node and of a rule, bracketed as the scanner's methods meet them -/

/-- the tokens of `[a..b]` -/
abbrev sliceTail (a b : Option Text) : List KV :=
  (.lbracket, [91]) :: (optKV .integer a ++ (.rangeOp, [46, 46]) :: (optKV .integer b ++ [(.rbracket, [93])]))

theorem slice_kv (a b : Option Text) : (CNode.slice a b).kv = (.peek, sPEEK) :: sliceTail a b := by
  dsimp only [CNode.kv]
  simp

theorem push_kv (bar : Bool) (e : CExpr) :
    (CNode.push bar e).kv =
      (.push, sPUSH) :: (.lparen, [40]) :: ((barKV bar ++ e.kv) ++ [(.rparen, [41])]) := by
  dsimp only [CNode.kv]
  simp

theorem paren_kv (b : Bool) (e : CExpr) :
    (CNode.paren b e).kv = (.lparen, [40]) :: ((barKV b ++ e.kv) ++ [(.rparen, [41])]) := by
  dsimp only [CNode.kv]
  simp

theorem headKV_cons (r : CRule) :
    r.headKV = (.identifier, r.name) :: (.assignOp, [61]) :: (modKV r.mod ++
      ((.lbrace, [123]) :: ((barKV r.bar ++ r.body.kv) ++ [(.rbrace, [125])]))) := by
  simp [CRule.headKV]

end Front
end Pest
