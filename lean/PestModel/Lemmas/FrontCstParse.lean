/-
  Lemmas/FrontCstParse.lean — the grammar parser on the tokens of a *concrete* syntax tree
  (Lemmas/FrontInvCst.lean): run on any token list whose kinds and values are those of a C-tree
  (starts arbitrary), `parseTokens` succeeds exactly when `abs` of the C-tree is defined, and then
  it returns `den` of the abstraction and has consumed every token.  No validity hypothesis on the
  C-tree: every check the parser makes is a check `abs` makes.

  The statements are `Reads eof m X L o` (Lemmas/FrontParseKit.lean, namespace `IP` as here), proved by the
  rules, one per primitive of the parser monad and one per lexeme class, except in the infix loop: how much
  the loop of `parse_expression(p)` reads depends on `p`, so there the statements are equations on `okPart`
  that carry what is left (`Reads.run`, `Reads.of_run` pass between the two forms), chained by `bind_okPart`;
  the loop is gone through once, for every precedence up to SEQUENCE (`exprBody_upto`): the first `~`-chain,
  then behind a `|` either the rest (`p` ≤ CHOICE: the whole expression) or nothing (`p` = SEQUENCE: the chain).
  Open recursion `RecOK` with a length bound.
-/
import PestModel.Lemmas.FrontInvCst
import PestModel.Lemmas.FrontParseKit

namespace Pest
namespace Front
namespace IP

open PRT (tokKV tokKV_length tokKV_inv bind_eq TermEnd Closer NoBracket IsTermDen termPart)

/-! ### one rule per lexeme class -/

theorem Reads.parseInt {eof : Token} (t : Token) {L : List KV → Prop} :
    Reads eof (Front.parseInt t) [] L (absInt t.value) := by
  intro ts K hts _
  unfold Front.parseInt absInt
  cases pyInt (intLiteral t.value) with
  | none => rfl
  | some o =>
    cases o with
    | none => rfl
    | some v => exact okPart_ok rfl hts

/-- `parse_number` returns an `Int`; its callers use `toNat` of it, which is what `absNum` gives -/
theorem Reads.parseNumber {β} {eof : Token} (t : Token) (f : Nat → P β) {X : List KV} {L : List KV → Prop}
    {g : Nat → Option β} (h : ∀ n, Reads eof (f n) X L (g n)) :
    Reads eof (Front.parseNumber t >>= fun n => f n.toNat) X L ((absNum t.value).bind g) := by
  intro ts K hts hK
  simp only [bind_eq, Front.parseNumber, absNum]
  by_cases hl : (stripZeros t.value).length > 10
  · rw [if_pos hl, if_pos hl]; rfl
  · rw [if_neg hl, if_neg hl]
    cases pyInt (stripZeros t.value) with
    | none => rfl
    | some o =>
      cases o with
      | none => rfl
      | some v =>
        by_cases hv : v > MAX_REPEAT
        · simp only [if_pos hv]; rfl
        · simp only [if_neg hv]; exact h _ ts K hts hK

theorem Reads.unescapeP {β} {eof : Token} (v : Text) (t : Token) {f : Text → P β} {X : List KV}
    {L : List KV → Prop} {g : Text → Option β} (h : ∀ w, Reads eof (f w) X L (g w)) :
    Reads eof (Front.unescapeP v t >>= f) X L ((Unescape.unescape v).toOption.bind g) := by
  intro ts K hts hK
  simp only [bind_eq, Front.unescapeP]
  cases Unescape.unescape v with
  | ok w => exact h w ts K hts hK
  | error e => rfl
  | exc n => rfl

/-! ### postfix operators -/

section Repeat
variable (e : Expr) {eof : Token} (a c v w : Text) {L : List KV → Prop}

theorem parseRepeat_exact :
    Reads eof (parseRepeat e) [(.number, a), (.rbrace, v)] L ((absNum a).bind fun n => some (.repExact e n)) := by
  unfold parseRepeat
  refine Reads.next fun s => ?_
  simp only [↓reduceIte]
  refine Reads.current fun _ => ?_
  simp only [↓reduceIte]
  exact Reads.advance <| Reads.parseNumber ⟨.number, a, s⟩ (fun n => pure (Expr.repExact e n)) fun n => Reads.pure rfl

theorem parseRepeat_min :
    Reads eof (parseRepeat e) [(.number, a), (.comma, v), (.rbrace, w)] L
      ((absNum a).bind fun n => some (.repMin e n)) := by
  unfold parseRepeat
  refine Reads.next fun s => ?_
  simp only [↓reduceIte]
  refine Reads.current fun _ => ?_
  simp only [reduceCtorEq, ↓reduceIte]
  refine Reads.eat fun _ => Reads.current fun _ => ?_
  simp only [↓reduceIte]
  exact Reads.advance <| Reads.parseNumber ⟨.number, a, s⟩ (fun n => pure (Expr.repMin e n)) fun n => Reads.pure rfl

theorem parseRepeat_minmax :
    Reads eof (parseRepeat e) [(.number, a), (.comma, v), (.number, c), (.rbrace, w)] L
      ((absNum a).bind fun m => (absNum c).bind fun n => some (.repMinMax e m n)) := by
  unfold parseRepeat
  refine Reads.next fun s => ?_
  simp only [↓reduceIte]
  refine Reads.current fun _ => ?_
  simp only [reduceCtorEq, ↓reduceIte]
  refine Reads.eat fun _ => Reads.current fun _ => ?_
  simp only [reduceCtorEq, ↓reduceIte]
  refine Reads.eat fun s' => Reads.eat fun _ => ?_
  exact Reads.parseNumber ⟨.number, a, s⟩
    (fun m => do let n ← Front.parseNumber ⟨.number, c, s'⟩; pure (Expr.repMinMax e m n.toNat))
    fun m => Reads.parseNumber ⟨.number, c, s'⟩ (fun n => pure (Expr.repMinMax e m n)) fun n => Reads.pure rfl

theorem parseRepeat_max :
    Reads eof (parseRepeat e) [(.comma, v), (.number, a), (.rbrace, w)] L
      ((absNum a).bind fun n => some (.repMax e n)) := by
  unfold parseRepeat
  refine Reads.next fun _ => ?_
  simp only [reduceCtorEq, ↓reduceIte]
  refine Reads.eat fun s => Reads.eat fun _ => ?_
  exact Reads.parseNumber ⟨.number, a, s⟩ (fun n => pure (Expr.repMax e n)) fun n => Reads.pure rfl

end Repeat

/-- `{ … }` with any sequence of commas and numbers: the parser accepts the four shapes `abs` accepts -/
theorem parseRepeat_items (e : Expr) {eof : Token} (v : Text) (items : List (Option Text)) {L : List KV → Prop} :
    Reads eof (parseRepeat e) (items.map itemKV' ++ [(.rbrace, v)]) L ((CPost.braces items).abs.map (applyPost e)) := by
  match items with
  | [] => exact Reads.next fun _ => Reads.fail
  | [some a] => exact (parseRepeat_exact e a v).cast (by dsimp only [CPost.abs]; cases absNum a <;> rfl)
  | [some a, none] => exact (parseRepeat_min e a _ v).cast (by dsimp only [CPost.abs]; cases absNum a <;> rfl)
  | [none, some a] => exact (parseRepeat_max e a _ v).cast (by dsimp only [CPost.abs]; cases absNum a <;> rfl)
  | [some a, none, some c] =>
    exact (parseRepeat_minmax e a c _ v).cast (by dsimp only [CPost.abs]; cases absNum a <;> cases absNum c <;> rfl)
  | [none] => exact Reads.next fun _ => Reads.eat_ne (by decide)
  | none :: none :: _ => exact Reads.next fun _ => Reads.eat_ne (by decide)
  | none :: some a :: z :: _ => cases z <;> exact Reads.next fun _ => Reads.eat fun _ => Reads.eat_ne (by decide)
  | some a :: some c :: _ => exact Reads.next fun _ => Reads.current fun _ => Reads.eat_ne (by decide)
  | some a :: none :: none :: _ =>
    exact Reads.next fun _ => Reads.current fun _ => Reads.eat fun _ => Reads.current fun _ => Reads.eat_ne (by decide)
  | some a :: none :: some c :: u :: _ =>
    cases u <;> exact Reads.next fun _ => Reads.current fun _ => Reads.eat fun _ => Reads.current fun _ =>
      Reads.eat fun _ => Reads.eat_ne (by decide)

theorem parsePostfix_one (e : Expr) {eof : Token} (p : CPost) {L : List KV → Prop} :
    Reads eof (parsePostfix e) p.kv L ((p.abs).map fun p' => some (applyPost e p')) := by
  cases p with
  | opt => exact Reads.current fun _ => Reads.advance (Reads.pure rfl)
  | rep => exact Reads.current fun _ => Reads.advance (Reads.pure rfl)
  | rep1 => exact Reads.current fun _ => Reads.advance (Reads.pure rfl)
  | braces items =>
    exact Reads.current fun _ => Reads.advance <|
      (Reads.map some (parseRepeat_items e _ items)).cast (Option.map_map ..)

theorem cpost_length_pos (p : CPost) : 0 < p.kv.length := by
  cases p <;> exact Nat.succ_pos _

theorem cpost_head (p : CPost) : ∃ k v rest, p.kv = (k, v) :: rest ∧ k ≠ .lbracket := by
  cases p <;> exact ⟨_, _, _, rfl, by simp⟩

theorem cposts_noBracket (posts : List CPost) {K : List KV} (hK : TermEnd K) :
    NoBracket ((posts.map CPost.kv).flatten ++ K) := by
  cases posts with
  | nil => simpa using hK.noBracket
  | cons p posts =>
    obtain ⟨k, v, rest, hp, hk⟩ := cpost_head p
    exact ⟨k, v, rest ++ ((posts.map CPost.kv).flatten ++ K), by simp [hp], hk⟩

theorem postfixes_all {eof : Token} : ∀ (posts : List CPost) (n : Nat) (e : Expr), posts.length < n →
    Reads eof (postfixes n e) (posts.map CPost.kv).flatten TermEnd ((absPosts posts).map fun ps => ps.foldl applyPost e)
  | [], n + 1, e, _ => by
    rw [postfixes]
    refine (Reads.bind (X := []) (Y := []) (PRT.parsePostfix_none e) (fun _ h => h) (g := fun _ => some e)
      fun a ha => ?_).cast rfl
    cases ha
    exact Reads.pure rfl
  | p :: posts, n + 1, e, hn => by
    rw [postfixes, List.map_cons, List.flatten_cons]
    refine (Reads.bind (parsePostfix_one e p (L := fun _ => True)) (fun _ _ => trivial)
      (g := fun a => match a with
        | some e' => (absPosts posts).map fun ps => ps.foldl applyPost e'
        | none => none) fun a ha => ?_).cast ?_
    · obtain ⟨p', -, rfl⟩ := Option.map_eq_some_iff.1 ha
      exact postfixes_all posts n _ (Nat.lt_of_succ_lt_succ hn)
    · dsimp only [absPosts]
      cases p.abs <;> cases absPosts posts <;> rfl

/-! ### the open recursion

`RecOK.chain` speaks of the first `~`-chain of an expression and of what follows the `|` that ends it. -/

/-- the denotations of the terms of the `~`-chain an expression starts with: defined iff each of
    these terms has an abstraction -/
def chainDens (b : List String) : CExpr → Option (List Expr)
  | .one t => (t.abs).map fun t' => [t'.den b]
  | .cons t true _ => (t.abs).map fun t' => [t'.den b]
  | .cons t false rest =>
    match t.abs, chainDens b rest with
    | some t', some l => some (t'.den b :: l)
    | _, _ => none

def ctail : CExpr → Option CExpr
  | .one _ => none
  | .cons _ true rest => some rest
  | .cons _ false rest => ctail rest

def ctailKV : Option CExpr → List KV
  | none => []
  | some e => opKV true :: e.kv

/-- `rec p` (= `parse_expression(p)` one level down) behaves as `abs` says on every term /
    expression with fewer than `bound` tokens.  `term` and `full` read the whole of `t.kv`, `e.kv` and are
    `Reads` statements; `chain` stops inside `e.kv`, behind the first `~`-chain, so it is an `okPart` equation
    that says what is left (`ctailKV (ctail e) ++ K`) -/
structure RecOK (b : List String) (rec : Nat → P Expr) (bound : Nat) : Prop where
  term : ∀ (t : CTerm), t.kv.length < bound → ∀ {eof : Token},
    Reads eof (rec PRECEDENCE_PREFIX) t.kv TermEnd ((t.abs).map fun t' => t'.den b)
  chain : ∀ (e : CExpr), e.kv.length < bound → ∀ (eof : Token) (ts : List Token) (K : List KV),
    tokKV ts = e.kv ++ K → Closer K →
    okPart (rec PRECEDENCE_SEQUENCE eof ts) =
      (chainDens b e).map fun l => (mkSeq l, ctailKV (ctail e) ++ K)
  full : ∀ (p : Nat), p ≤ PRECEDENCE_CHOICE → ∀ (bar : Bool) (e : CExpr),
    (barKV bar ++ e.kv).length < bound → ∀ {eof : Token},
    Reads eof (rec p) (barKV bar ++ e.kv) Closer ((e.abs).map fun e' => e'.den b)

/-! ### nodes -/

/-- a range: the two ends are decoded one after the other; `abs` asks for both at once -/
theorem parseRange_reads (b : List String) (tag : Option String) {eof : Token} (t : Token) (x y : Text)
    {v : Text} {L : List KV → Prop} :
    Reads eof (parseRange t) [(.char, x), (.rangeOp, v), (.char, y)] L
      ((CNode.range x y).abs.map fun n => n.den b tag) := by
  unfold parseRange
  -- the result is written out first: left to unification, the chain of rules below is slow to check
  refine Reads.cast (o := (Unescape.unescape (stripQuotes x)).toOption.bind fun wa =>
    (Unescape.unescape (stripQuotes y)).toOption.bind fun wc =>
      match wa, wc with
      | [a], [c] => if a > c then none else some (Expr.range a c)
      | _, _ => none) ?_ ?_
  · refine Reads.eat fun _ => Reads.unescapeP (stripQuotes x) _ fun wa => Reads.eat fun _ =>
      Reads.eat fun _ => Reads.unescapeP (stripQuotes y) _ fun wc => ?_
    rcases wa with _ | ⟨a, _ | ⟨a2, la⟩⟩
    · exact Reads.raise
    · rcases wc with _ | ⟨c, _ | ⟨c2, lc⟩⟩
      · exact Reads.raise
      · by_cases hac : a > c
        · simp only [if_pos hac]; exact Reads.fail
        · simp only [if_neg hac]; exact Reads.pure rfl
      · exact Reads.raise
    · exact Reads.raise
  · dsimp only [CNode.abs, absChar]
    cases Unescape.unescape (stripQuotes x) with
    | ok wa =>
      cases Unescape.unescape (stripQuotes y) with
      | ok wc =>
        rcases wa with _ | ⟨a, _ | ⟨a2, la⟩⟩
        · rfl
        · rcases wc with _ | ⟨c, _ | ⟨c2, lc⟩⟩
          · rfl
          · dsimp only [Unescape.Res.toOption, Option.bind_some]
            by_cases hac : a > c
            · simp only [if_pos hac, Option.map_none]
            · simp only [if_neg hac, Option.map_some, SNode.den]
          · rfl
        · rfl
      | error e => rcases wa with _ | ⟨a, _ | ⟨a2, la⟩⟩ <;> rfl
      | exc n => rcases wa with _ | ⟨a, _ | ⟨a2, la⟩⟩ <;> rfl
    | error e => rfl
    | exc n => rfl

/-- the optional `INTEGER` of `parse_peek_expression`, which `parsePeek` writes out twice -/
def optIndex : P (Option Int) := do
  if (← current).kind = .integer then do
    let t ← next
    let v ← Front.parseInt t
    pure (some v)
  else pure none

theorem optIndex_reads {eof : Token} (a : Option Text) :
    Reads eof optIndex (optKV .integer a) (fun K => nextKind eof K ≠ .integer) (absOptInt a) := by
  unfold optIndex
  cases a with
  | none => exact Reads.absent fun _ h => h
  | some w =>
    exact Reads.current fun _ => by
      rw [if_pos rfl]; exact Reads.next fun s => Reads.map some (Reads.parseInt ⟨.integer, w, s⟩)

theorem parsePeek_slice {eof : Token} (x y : Option Text) {u v w : Text} {L : List KV → Prop} :
    Reads eof parsePeek
      ((TK.lbracket, u) :: (optKV .integer x ++ (TK.rangeOp, v) :: (optKV .integer y ++ [(TK.rbracket, w)])))
      L ((absOptInt x).bind fun i => (absOptInt y).bind fun j => some (.peekSlice i j)) := by
  unfold parsePeek
  refine Reads.current fun _ => ?_
  rw [if_neg (by simp)]
  refine Reads.eat fun _ => ?_
  refine Reads.bind (m := optIndex) (optIndex_reads x) (fun K _ => ?_) fun i _ => Reads.eat fun _ => ?_
  · exact (by decide : TK.rangeOp ≠ .integer)
  refine Reads.bind (m := optIndex) (optIndex_reads y) (fun K _ => ?_) fun j _ => Reads.eat fun _ => Reads.pure rfl
  exact (by decide : TK.rbracket ≠ .integer)

theorem closer_rparen (v : Text) (K : List KV) : Closer ((TK.rparen, v) :: K) := ⟨_, _, _, rfl, Or.inr rfl⟩

theorem parenBody_reads {b : List String} {rec : Nat → P Expr} {bound : Nat} (hrec : RecOK b rec bound)
    (bar : Bool) (e : CExpr) (hlen : (barKV bar ++ e.kv).length < bound) (f : Expr → Expr)
    {v : Text} {L : List KV → Prop} {eof : Token} :
    Reads eof (do let x ← rec PRECEDENCE_LOWEST; let _ ← eat .rparen; pure (f x))
      ((barKV bar ++ e.kv) ++ [(TK.rparen, v)]) L ((e.abs).map fun e' => f (e'.den b)) :=
  (Reads.bind (hrec.full PRECEDENCE_LOWEST (by decide) bar e hlen) (fun K _ => closer_rparen v K)
    fun x _ => Reads.eat fun _ => Reads.pure (a := f x) rfl).cast (by cases e.abs <;> rfl)

theorem primary_node {b : List String} {rec : Nat → P Expr} {bound : Nat} (hrec : RecOK b rec bound)
    (node : CNode) (hlen : node.kv.length ≤ bound) (tag : Option String) {eof : Token} :
    Reads eof (parsePrimary b rec tag) node.kv NoBracket ((node.abs).map fun n => n.den b tag) := by
  cases node with
  | str s =>
    exact Reads.current fun _ => Reads.next fun _ => Reads.pure (by simp only [CNode.abs, Option.map_some, SNode.den])
  | ci s =>
    exact Reads.current fun _ => Reads.next fun _ => Reads.pure (by simp only [CNode.abs, Option.map_some, SNode.den])
  | range x y => exact Reads.current fun _ => parseRange_reads b tag _ x y
  | ident name =>
    exact (PRT.parsePrimary_keyword b rec tag name).cast (by simp only [CNode.abs, Option.map_some, SNode.den])
  | pushLit s =>
    cases s with
    | none =>
      exact Reads.current fun _ => Reads.advance <| Reads.eat fun _ => Reads.eat_ne (k := .rparen) (by decide)
    | some s =>
      exact Reads.current fun _ => Reads.advance <| Reads.eat fun _ => Reads.eat fun _ => Reads.eat fun _ =>
        Reads.pure (by simp only [CNode.abs, Option.map_some, SNode.den])
  | push bar e =>
    have hlen' : (barKV bar ++ e.kv).length < bound := by
      simp only [CNode.kv, List.length_cons, List.length_append, List.length_nil] at hlen ⊢; omega
    refine Reads.current fun _ => Reads.advance <| Reads.eat fun _ => ?_
    refine (parenBody_reads hrec bar e hlen' Expr.push).cast ?_
    dsimp only [CNode.abs]
    cases e.abs with
    | none => rfl
    | some e' => simp only [Option.map_some, SNode.den]
  | paren bar e =>
    have hlen' : (barKV bar ++ e.kv).length < bound := by
      simp only [CNode.kv, List.length_cons, List.length_append, List.length_nil] at hlen ⊢; omega
    refine Reads.current fun _ => Reads.advance ?_
    refine (parenBody_reads hrec bar e hlen' (Expr.group · tag)).cast ?_
    dsimp only [CNode.abs]
    cases e.abs with
    | none => rfl
    | some e' => simp only [Option.map_some, SNode.den]
  | slice x y =>
    dsimp only [CNode.kv]
    simp only [List.cons_append, List.nil_append, List.append_assoc]
    refine Reads.current fun _ => Reads.advance ?_
    refine (parsePeek_slice x y).cast ?_
    dsimp only [CNode.abs]
    cases absOptInt x <;> cases absOptInt y <;>
      simp only [Option.map_some, Option.map_none, Option.bind_some, Option.bind_none, SNode.den]

/-! ### terms -/

theorem abs_prefix (tag : Option Text) (pre : List Bool) (node : CNode) (post : List CPost) :
    (CTerm.mk tag pre node post).abs =
      ((CTerm.mk none [] node post).abs).map fun t' =>
        match t' with | .mk _ _ n p => .mk tag pre n p := by
  dsimp only [CTerm.abs]
  cases node.abs <;> cases absPosts post <;> simp

theorem ctermKV_tag (tag : Option Text) (pre : List Bool) (node : CNode) (post : List CPost) :
    (CTerm.mk tag pre node post).kv = tagKV tag ++ (CTerm.mk none pre node post).kv := by
  dsimp only [CTerm.kv]
  simp only [tagKV, List.nil_append, List.append_assoc]

theorem ctermKV_pre (c : Bool) (pre : List Bool) (node : CNode) (post : List CPost) :
    (CTerm.mk none (c :: pre) node post).kv = preKV c :: (CTerm.mk none pre node post).kv := by
  dsimp only [CTerm.kv]
  simp only [tagKV, List.nil_append, List.map_cons, List.cons_append]

theorem ctermKV_nil (node : CNode) (post : List CPost) :
    (CTerm.mk none [] node post).kv = node.kv ++ (post.map CPost.kv).flatten := by
  dsimp only [CTerm.kv]
  simp only [tagKV, List.map_nil, List.nil_append]

theorem cnode_head (node : CNode) : ∃ k v rest, node.kv = (k, v) :: rest ∧ k ≠ .choiceOp ∧ k ≠ .tag := by
  cases node with
  | ident name =>
    exact ⟨_, _, _, rfl, (by decide : ∀ k ∈ PRT.identKinds, k ≠ .choiceOp ∧ k ≠ .tag) _ (PRT.keywordKind_mem name)⟩
  | str s => exact ⟨_, _, _, rfl, by decide, by decide⟩
  | ci s => exact ⟨_, _, _, rfl, by decide, by decide⟩
  | range x y => exact ⟨_, _, _, rfl, by decide, by decide⟩
  | pushLit s => exact ⟨_, _, _, rfl, by decide, by decide⟩
  | push bar e => exact ⟨_, _, _, rfl, by decide, by decide⟩
  | slice x y => exact ⟨_, _, _, rfl, by decide, by decide⟩
  | paren bar e => exact ⟨_, _, _, rfl, by decide, by decide⟩

theorem cterm_head_notag (pre : List Bool) (node : CNode) (post : List CPost) :
    ∃ k v rest, (CTerm.mk none pre node post).kv = (k, v) :: rest ∧ k ≠ .choiceOp ∧ k ≠ .tag := by
  cases pre with
  | nil =>
    obtain ⟨k, v, rest, hn, h1, h2⟩ := cnode_head node
    exact ⟨k, v, rest ++ (post.map CPost.kv).flatten, by rw [ctermKV_nil, hn]; rfl, h1, h2⟩
  | cons c pre =>
    refine ⟨(preKV c).1, (preKV c).2, _, ctermKV_pre c pre node post, ?_⟩
    cases c <;> exact ⟨by decide, by decide⟩

theorem termBody_abs {b : List String} {rec : Nat → P Expr} {bound : Nat} (hrec : RecOK b rec bound)
    (tag : Option Text) (pre : List Bool) (node : CNode) (post : List CPost)
    (hlen : (CTerm.mk none pre node post).kv.length ≤ bound) {eof : Token} :
    Reads eof (do let left ← parsePrimary b rec (tag.map nameOf)
                  (fun eof ts => postfixes (ts.length + 1) left eof ts : P Expr))
      (CTerm.mk none pre node post).kv TermEnd ((CTerm.mk tag pre node post).abs.map fun t' => t'.den b) := by
  cases pre with
  | nil =>
    rw [ctermKV_nil] at hlen ⊢
    rw [List.length_append] at hlen
    refine Reads.cast (o := (node.abs.map fun n => n.den b (tag.map nameOf)).bind fun x =>
      (absPosts post).map fun ps => ps.foldl applyPost x) ?_ ?_
    · exact Reads.bind (primary_node hrec node (Nat.le_trans (Nat.le_add_right _ _) hlen) (tag.map nameOf))
        (fun K hK => cposts_noBracket post hK) fun x _ =>
        Reads.fuel fun n hn => postfixes_all post n x
          (Nat.lt_of_le_of_lt (PRT.length_le_flatten_map CPost.kv post fun p _ => cpost_length_pos p) hn)
    · dsimp only [CTerm.abs]
      cases node.abs with
      | none => rfl
      | some n =>
        cases absPosts post with
        | none => rfl
        | some ps => simp only [Option.map_some, Option.bind_some, STerm.den, List.isEmpty_nil, if_true, List.foldr_nil]
  | cons c pre =>
    rw [ctermKV_pre] at hlen ⊢
    rw [List.length_cons] at hlen
    refine Reads.cast (o := ((((CTerm.mk none pre node post).abs).map fun t' => t'.den b).map (applyPre c)).bind
      fun x => (absPosts []).map fun ps => ps.foldl applyPost x) ?_ ?_
    · -- the operand is read by `rec PREFIX`, one level down, *with* its postfix operators; behind it the
      -- loop of this level is at the end of the term and reads none (`postfixes_all []`)
      rw [← List.append_nil (preKV c :: _)]
      refine Reads.bind (L' := TermEnd) ?_ (fun K hK => hK) fun x _ =>
        Reads.fuel fun n hn => postfixes_all [] n x hn
      cases c
      · exact Reads.current fun _ => Reads.advance (Reads.map (applyPre false) (hrec.term _ hlen))
      · exact Reads.current fun _ => Reads.advance (Reads.map (applyPre true) (hrec.term _ hlen))
    · rw [abs_prefix tag (c :: pre), abs_prefix none pre]
      cases (CTerm.mk none [] node post).abs with
      | none => rfl
      | some t' =>
        obtain ⟨tg0, pre0, n, p⟩ := t'
        simp only [Option.map_some, Option.bind_some, absPosts, List.foldl_nil, PRT.den_prefix]

theorem termPart_term {b : List String} {rec : Nat → P Expr} {bound : Nat} (hrec : RecOK b rec bound)
    (lead : Bool) (t : CTerm) (hlen : t.kv.length ≤ bound) {eof : Token} :
    Reads eof (termPart b rec) (barKV lead ++ t.kv) TermEnd ((t.abs).map fun t' => t'.den b) := by
  obtain ⟨tag, pre, node, post⟩ := t
  rw [ctermKV_tag] at hlen ⊢
  rw [List.length_append] at hlen
  rw [← List.append_assoc]
  refine Reads.bind (PRT.parseHead_reads lead tag) (fun K _ => ?_)
    (g := fun _ => (CTerm.mk tag pre node post).abs.map fun t' => t'.den b) fun tg htg => ?_
  · obtain ⟨k, v, rest, h, h1, h2⟩ := cterm_head_notag pre node post
    exact ⟨k, v, rest ++ K, by rw [h]; rfl, h1, h2⟩
  · cases htg
    exact termBody_abs hrec tag pre node post (Nat.le_trans (Nat.le_add_left _ _) hlen)

/-! ### the infix loop -/

theorem chainDens_one {b : List String} {t : CTerm} {l : List Expr}
    (h : (t.abs).map (fun t' => [t'.den b]) = some l) : l ≠ [] ∧ ∀ y ∈ l, IsTermDen y := by
  cases ht : t.abs with
  | none => simp [ht] at h
  | some t' =>
    simp [ht] at h; subst h
    exact ⟨by simp, by simp; exact PRT.term_termDen b t'⟩

theorem chainDens_spec (b : List String) : ∀ (e : CExpr) (l : List Expr), chainDens b e = some l →
    l ≠ [] ∧ ∀ y ∈ l, IsTermDen y
  | .one t, l, h => chainDens_one (by dsimp only [chainDens] at h; exact h)
  | .cons t true rest, l, h => chainDens_one (by dsimp only [chainDens] at h; exact h)
  | .cons t false rest, l, h => by
    dsimp only [chainDens] at h
    cases ht : t.abs with
    | none => simp [ht] at h
    | some t' =>
      cases hr : chainDens b rest with
      | none => simp [ht, hr] at h
      | some l' =>
        simp [ht, hr] at h; subst h
        refine ⟨by simp, ?_⟩
        intro y hy
        rcases List.mem_cons.mp hy with rfl | hy
        · exact PRT.term_termDen b t'
        · exact (chainDens_spec b rest l' hr).2 y hy

theorem ctail_length : ∀ (e e' : CExpr), ctail e = some e' → e'.kv.length < e.kv.length
  | .one t, e', h => by cases h
  | .cons t true rest, e', h => by
    dsimp only [ctail] at h
    simp only [Option.some.injEq] at h
    subst h
    dsimp only [CExpr.kv]
    simp only [List.length_append, List.length_cons, List.length_nil]; omega
  | .cons t false rest, e', h => by
    dsimp only [ctail] at h
    have := ctail_length rest e' h
    dsimp only [CExpr.kv]
    simp only [List.length_append, List.length_cons, List.length_nil]; omega

theorem abs_groups (b : List String) : ∀ (e : CExpr),
    (e.abs).map (fun e' => e'.groups b) =
      (chainDens b e).bind fun l =>
        match ctail e with
        | none => some [l]
        | some e2 => (e2.abs).map fun e2' => l :: e2'.groups b
  | .one t => by
    dsimp only [CExpr.abs, chainDens, ctail]
    cases t.abs <;> simp [SExpr.groups]
  | .cons t true rest => by
    dsimp only [CExpr.abs, chainDens, ctail]
    cases t.abs with
    | none => rfl
    | some t' => cases rest.abs <;> simp [SExpr.groups]
  | .cons t false rest => by
    dsimp only [CExpr.abs, chainDens, ctail]
    cases t.abs with
    | none => rfl
    | some t' =>
      -- the groups of `t ~ rest` are those of `rest` with `t` put in front of the first
      refine Eq.trans (b := ((rest.abs).map fun r' => r'.groups b).map (consGroup (t'.den b))) ?_ ?_
      · cases rest.abs <;> simp [SExpr.groups]
      · rw [abs_groups b rest]
        cases chainDens b rest with
        | none => rfl
        | some l =>
          cases ctail rest with
          | none => rfl
          | some e2 =>
            dsimp only [Option.bind_some]
            cases e2.abs <;> rfl

/-- what `parse_expression(p)`, `p` ≤ SEQUENCE, makes of an expression whose first `~`-chain denotes `l`:
    behind the `|` that ends the chain it goes on if `p` ≤ CHOICE and reads everything, otherwise it stops there -/
def upto (b : List String) (p : Nat) (e : CExpr) (K : List KV) (l : List Expr) : Option (Expr × List KV) :=
  match ctail e with
  | none => some (mkSeq l, K)
  | some e2 =>
    if p ≤ PRECEDENCE_CHOICE then (e2.abs).map fun e2' => (mkChoice (mkSeq l :: (e2'.groups b).map mkSeq), K)
    else some (mkSeq l, opKV true :: e2.kv ++ K)

theorem abs_upto (b : List String) (e : CExpr) (K : List KV) {p : Nat} (hp : p ≤ PRECEDENCE_CHOICE) :
    (e.abs).map (fun e' => (e'.den b, K)) = (chainDens b e).bind (upto b p e K) := by
  have hd : (e.abs).map (fun e' => (e'.den b, K)) =
      ((e.abs).map fun e' => e'.groups b).map fun gs => (mkChoice (gs.map mkSeq), K) := by
    cases e.abs with
    | none => rfl
    | some e' => simp only [Option.map_some, SExpr.den]
  rw [hd, abs_groups]
  cases chainDens b e with
  | none => rfl
  | some l =>
    dsimp only [upto, Option.bind_some]
    cases ctail e with
    | none => rfl
    | some e2 =>
      dsimp only
      rw [if_pos hp]
      cases e2.abs <;> rfl

theorem exprBody_first {b : List String} {rec : Nat → P Expr} {bound : Nat} (hrec : RecOK b rec bound)
    (p : Nat) (lead : Bool) (t : CTerm) (hlen : t.kv.length ≤ bound) {eof : Token} {ts : List Token} {K : List KV}
    (h : tokKV ts = barKV lead ++ (t.kv ++ K)) (hK : TermEnd K) {R : Option (Expr × List KV)}
    (hnone : t.abs = none → R = none)
    (hsome : ∀ t' ts1, t.abs = some t' → tokKV ts1 = K →
      okPart (infixes rec p (ts1.length + 1) (t'.den b) eof ts1) = R) :
    okPart (exprBody b rec p eof ts) = R := by
  rw [PRT.exprBody_eq]
  exact bind_okPart ((termPart_term hrec lead t hlen).run (by rw [List.append_assoc]; exact h) hK) hnone hsome

theorem infixes_closer {rec : Nat → P Expr} {p n : Nat} {left : Expr} {eof : Token} {ts : List Token}
    {K : List KV} (hK : Closer K) (h : tokKV ts = K) : infixes rec p (n + 1) left eof ts = .ok left ts := by
  obtain ⟨k, v, K', rfl, hk⟩ := hK
  apply PRT.infixes_stop h
  rcases hk with rfl | rfl
  · exact Or.inl rfl
  · exact Or.inr (Or.inl rfl)

theorem closer_pos {K : List KV} (hK : Closer K) {ts : List Token} {X : List KV} (h : tokKV ts = X ++ K) :
    ∃ m, ts.length = m + 1 := by
  obtain ⟨k, v, K', rfl, -⟩ := hK
  have := congrArg List.length h
  rw [tokKV_length, List.length_append, List.length_cons] at this
  exact ⟨ts.length - 1, by omega⟩

theorem termEnd_op (bar : Bool) (K : List KV) : TermEnd (opKV bar :: K) :=
  ⟨(opKV bar).1, (opKV bar).2, K, rfl, by cases bar <;> simp [opKV]⟩

theorem exprBody_term {b : List String} {rec : Nat → P Expr} {bound : Nat} (hrec : RecOK b rec bound)
    (t : CTerm) (hlen : t.kv.length ≤ bound) {eof : Token} :
    Reads eof (exprBody b rec PRECEDENCE_PREFIX) t.kv TermEnd ((t.abs).map fun t' => t'.den b) := by
  refine Reads.of_run fun ts K h hK => ?_
  refine exprBody_first hrec PRECEDENCE_PREFIX false t hlen h hK (fun ht => by rw [ht]; rfl)
    fun t' ts1 ht hts1 => ?_
  rw [ht]
  refine okPart_ok (ts' := ts1) ?_ hts1
  obtain ⟨k, v, K', rfl, hk⟩ := hK
  apply PRT.infixes_stop hts1
  rcases hk with rfl | rfl | rfl | rfl
  · exact Or.inr (Or.inr (Or.inl ⟨rfl, by decide⟩))
  · exact Or.inr (Or.inr (Or.inr ⟨rfl, by decide⟩))
  · exact Or.inl rfl
  · exact Or.inr (Or.inl rfl)

theorem infixes_bar {b : List String} {rec : Nat → P Expr} {bound : Nat} (hrec : RecOK b rec bound)
    {p : Nat} (hp : p ≤ PRECEDENCE_CHOICE) (left : Expr) (e : CExpr) (hlen : e.kv.length < bound)
    {eof : Token} {v : Text} {s n : Nat} {ts : List Token} {K : List KV} (h : tokKV ts = e.kv ++ K)
    (hK : Closer K) :
    okPart (infixes rec p (n + 1 + 1) left eof (⟨.choiceOp, v, s⟩ :: ts)) =
      (e.abs).map fun e' => (mkChoice (left :: (e'.groups b).map mkSeq), K) := by
  rw [PRT.infixes_choice hp]
  refine bind_okPart ((hrec.full PRECEDENCE_CHOICE (Nat.le_refl _) false e hlen).run h hK)
    (fun he => by rw [he]; rfl) fun e' ts3 he hts3 => ?_
  rw [he, infixes_closer hK hts3, SExpr.den,
    PRT.joinChoice_mkChoice _ _ (by simpa using PRT.groups_ne_nil b e') (PRT.groups_mkSeq_not_choice b e')]
  exact okPart_ok rfl hts3

/-- `parse_expression(p)` for `p` ≤ SEQUENCE: behind the optional leading `|`, which every call skips, the
    first `~`-chain, and behind it what `upto` says -/
theorem exprBody_upto {b : List String} {rec : Nat → P Expr} {bound : Nat} (hrec : RecOK b rec bound)
    {p : Nat} (hp : p ≤ PRECEDENCE_SEQUENCE) (lead : Bool) (e : CExpr) (hlen : e.kv.length ≤ bound) {eof : Token}
    {ts : List Token} {K : List KV} (h : tokKV ts = barKV lead ++ (e.kv ++ K)) (hK : Closer K) :
    okPart (exprBody b rec p eof ts) = (chainDens b e).bind (upto b p e K) := by
  -- behind a chain that a `|` ends: on with the rest, or stop
  have hbar : ∀ (l : List Expr) (e2 : CExpr) (ts1 : List Token) (n : Nat), e2.kv.length < bound →
      tokKV ts1 = opKV true :: e2.kv ++ K →
      okPart (infixes rec p (n + 1 + 1) (mkSeq l) eof ts1) =
        if p ≤ PRECEDENCE_CHOICE then (e2.abs).map fun e2' => (mkChoice (mkSeq l :: (e2'.groups b).map mkSeq), K)
        else some (mkSeq l, opKV true :: e2.kv ++ K) := by
    intro l e2 ts1 n hlen2 hts1
    by_cases hc : p ≤ PRECEDENCE_CHOICE
    · obtain ⟨s2, ts2, rfl, hts2⟩ := tokKV_inv (k := .choiceOp) (v := [124]) hts1
      rw [if_pos hc, infixes_bar hrec hc _ e2 hlen2 hts2 hK]
    · rw [if_neg hc]
      exact okPart_ok (PRT.infixes_stop hts1 (Or.inr (Or.inr (Or.inr ⟨rfl, Nat.lt_of_not_le hc⟩)))) hts1
  cases e with
  | one t =>
    dsimp only [CExpr.kv] at h hlen
    dsimp only [chainDens]
    refine exprBody_first hrec p lead t hlen h hK.termEnd (fun ht => by rw [ht]; rfl) fun t' ts1 ht hts1 => ?_
    rw [ht, infixes_closer hK hts1]
    exact okPart_ok rfl hts1
  | cons t bar rest =>
    dsimp only [CExpr.kv] at h hlen
    simp only [List.append_assoc, List.cons_append, List.nil_append] at h hlen
    have hlen_t : t.kv.length ≤ bound := by rw [List.length_append] at hlen; omega
    have hlen_r : rest.kv.length < bound := by
      rw [List.length_append, List.length_cons] at hlen; omega
    refine exprBody_first hrec p lead t hlen_t h (termEnd_op bar _) (fun ht => ?_)
      fun t' ts1 ht hts1 => ?_
    · cases bar <;> dsimp only [chainDens] <;> rw [ht] <;> rfl
    cases bar with
    | true =>
      dsimp only [chainDens]
      rw [ht]
      obtain ⟨m, hm⟩ := closer_pos hK (X := opKV true :: rest.kv) hts1
      rw [hm]
      exact hbar [t'.den b] rest ts1 m hlen_r hts1
    | false =>
      obtain ⟨s2, ts2, rfl, hts2⟩ := tokKV_inv (k := .sequenceOp) (v := [126]) hts1
      obtain ⟨m, hm⟩ := closer_pos hK hts2
      rw [PRT.infixes_seq hp]
      dsimp only [chainDens, upto, ctail]
      rw [ht]
      refine bind_okPart (hrec.chain rest hlen_r eof ts2 K hts2 hK) (fun hc => by rw [hc]; rfl)
        fun l ts3 hc hts3 => ?_
      obtain ⟨hl1, hl2⟩ := chainDens_spec b rest l hc
      rw [hc, PRT.joinSeq_mkSeq _ _ hl1 hl2, List.length_cons, hm]
      show _ = upto b p (.cons t false rest) K (t'.den b :: l)
      dsimp only [upto, ctail]
      cases hct : ctail rest with
      | none =>
        rw [hct] at hts3
        rw [infixes_closer hK hts3]
        exact okPart_ok rfl hts3
      | some e2 =>
        rw [hct] at hts3
        exact hbar _ e2 ts3 m (Nat.lt_trans (ctail_length rest e2 hct) hlen_r) hts3

theorem exprBody_chain {b : List String} {rec : Nat → P Expr} {bound : Nat} (hrec : RecOK b rec bound)
    (e : CExpr) (hlen : e.kv.length ≤ bound) {eof : Token} {ts : List Token} {K : List KV}
    (h : tokKV ts = e.kv ++ K) (hK : Closer K) :
    okPart (exprBody b rec PRECEDENCE_SEQUENCE eof ts) =
      (chainDens b e).map fun l => (mkSeq l, ctailKV (ctail e) ++ K) := by
  rw [exprBody_upto hrec (Nat.le_refl _) false e hlen h hK]
  cases chainDens b e with
  | none => rfl
  | some l =>
    dsimp only [upto, Option.bind_some]
    cases ctail e <;> rfl

/-- `parse_expression(p)` for `p` ≤ CHOICE (the calls are at LOWEST and CHOICE): the whole expression -/
theorem exprBody_full {b : List String} {rec : Nat → P Expr} {bound : Nat} (hrec : RecOK b rec bound)
    (p : Nat) (hp : p ≤ PRECEDENCE_CHOICE) (bar : Bool) (e : CExpr)
    (hlen : (barKV bar ++ e.kv).length ≤ bound) {eof : Token} :
    Reads eof (exprBody b rec p) (barKV bar ++ e.kv) Closer ((e.abs).map fun e' => e'.den b) := by
  have hlen' : e.kv.length ≤ bound :=
    Nat.le_trans (by rw [List.length_append]; exact Nat.le_add_left ..) hlen
  exact Reads.of_run fun ts K h hK =>
    (exprBody_upto hrec (Nat.le_succ_of_le hp) bar e hlen' (by rw [← List.append_assoc]; exact h) hK).trans
      (abs_upto b e K hp).symm

/-- **`parse_expression` on the tokens of a concrete term / expression** (fuel above the token
    count): it succeeds exactly when the abstraction is defined, with its denotation -/
theorem recOK (b : List String) : ∀ fuel, RecOK b (parseExpression b fuel) fuel
  | 0 => ⟨fun _ h => absurd h (Nat.not_lt_zero _), fun _ h => absurd h (Nat.not_lt_zero _),
      fun _ _ _ _ h => absurd h (Nat.not_lt_zero _)⟩
  | fuel + 1 => by
    have ih := recOK b fuel
    refine ⟨?_, ?_, ?_⟩
    · intro t hlen eof
      exact exprBody_term ih t (Nat.le_of_lt_succ hlen)
    · intro e hlen eof ts K h hK
      exact exprBody_chain ih e (by omega) h hK
    · intro p hp bar e hlen eof
      exact exprBody_full ih p hp bar e (Nat.le_of_lt_succ hlen)

/-! ### rules and the grammar -/

theorem crule_kv_head (r : CRule) : ∃ k v rest, r.kv = (k, v) :: rest ∧ (k = .ruleDoc ∨ k = .identifier) := by
  rw [CRule.kv]
  cases r.docs with
  | nil => exact ⟨_, _, _, rfl, Or.inr rfl⟩
  | cons d ds => exact ⟨_, _, _, rfl, Or.inl rfl⟩

theorem crule_kv_length_pos (r : CRule) : 0 < r.kv.length := by
  obtain ⟨k, v, rest, h, -⟩ := crule_kv_head r
  rw [h]
  exact Nat.succ_pos _

theorem parseRule_one (b : List String) {eof : Token} (r : CRule) (n : Nat) (acc : List FRule) {Y : List KV}
    {L : List KV → Prop} {g : SRule → Option (List FRule)}
    (hrest : ∀ r', r.abs = some r' → Reads eof (parseRules b n (dictSet acc (r'.den b))) Y L (g r')) :
    Reads eof (parseRules b (n + 1) acc) (r.kv ++ Y) L ((r.abs).bind g) := by
  obtain ⟨k, v, rest, hhead, hk⟩ := crule_kv_head r
  have hne : k ≠ .eoi := by rcases hk with rfl | rfl <;> decide
  rw [parseRules]
  refine Reads.current_of (by rw [hhead]; rfl) fun _ => ?_
  rw [if_neg hne, CRule.kv, List.append_assoc]
  refine Reads.bind (PRT.docLines_fuel .ruleDoc sRDOC r.docs) (fun K _ => ?_) (g := fun _ => (r.abs).bind g)
    fun doc hdoc => ?_
  · exact (by decide : TK.identifier ≠ .ruleDoc)
  cases hdoc
  dsimp only [CRule.headKV]
  simp only [List.cons_append, List.nil_append, List.append_assoc]
  refine Reads.current fun _ => ?_
  rw [if_neg (by decide : TK.identifier ≠ .eoi)]
  refine Reads.eat fun _ => Reads.eat fun _ => ?_
  refine Reads.bind (PRT.parseModifier_reads r.mod) (fun K _ => ?_) (g := fun _ => (r.abs).bind g) fun m hm => ?_
  · exact (by decide : TK.lbrace ≠ .modifier)
  cases hm
  refine Reads.eat fun _ => ?_
  rw [← List.append_assoc]
  refine (Reads.bind (Reads.fuel fun fuel hfuel => (recOK b fuel).full PRECEDENCE_LOWEST (by decide) r.bar r.body hfuel)
    (fun K _ => ⟨_, _, _, rfl, Or.inl rfl⟩) (g := fun _ => (r.abs).bind g) fun e he => ?_).cast ?_
  · obtain ⟨e', he', rfl⟩ := Option.map_eq_some_iff.1 he
    have hr : r.abs = some ⟨r.docs, r.name, r.mod, r.bar, e'⟩ := by rw [CRule.abs, he']
    exact Reads.eat fun _ => (hrest _ hr).cast (by rw [hr]; rfl)
  · rw [CRule.abs]
    cases r.body.abs <;> rfl

theorem parseRules_all (b : List String) {eof : Token} (heof : eof.kind = .eoi) (trailing : List Text) :
    ∀ (rs : List CRule) (n : Nat) (acc : List FRule), rs.length < n →
    Reads eof (parseRules b n acc) ((rs.map CRule.kv).flatten ++ (trailing.map (docKV .ruleDoc sRDOC)).flatten)
      (fun K => K = []) ((absRules rs).map fun rs' => rs'.foldl (fun acc r => dictSet acc (r.den b)) acc)
  | [], n + 1, acc, _ => PRT.parseRules_end b heof trailing n acc
  | r :: rs, n + 1, acc, hn => by
    rw [List.map_cons, List.flatten_cons, List.append_assoc]
    refine (parseRule_one b r n acc fun r' _ =>
      parseRules_all b heof trailing rs n (dictSet acc (r'.den b)) (Nat.lt_of_succ_lt_succ hn)).cast ?_
    dsimp only [absRules]
    cases r.abs <;> cases absRules rs <;> rfl

theorem parseTokens_reads (b : List String) {eof : Token} (heof : eof.kind = .eoi) (c : CGrammar) :
    Reads eof (parseTokens b) c.kv (fun K => K = []) ((c.abs).map fun g => g.den b) := by
  have hK' : nextKind eof ((c.rules.map CRule.kv).flatten ++ (c.trailing.map (docKV .ruleDoc sRDOC)).flatten) ≠
      .grammarDoc := by
    cases hr : c.rules with
    | nil =>
      cases ht : c.trailing with
      | nil => rw [show nextKind eof _ = eof.kind from rfl, heof]; decide
      | cons d ds => exact (by decide : TK.ruleDoc ≠ .grammarDoc)
    | cons r rs =>
      obtain ⟨k', v', rest, hrk, hk'⟩ := crule_kv_head r
      rw [List.map_cons, List.flatten_cons, hrk]
      rcases hk' with rfl | rfl
      · exact (by decide : TK.ruleDoc ≠ .grammarDoc)
      · exact (by decide : TK.identifier ≠ .grammarDoc)
  rw [parseTokens, CGrammar.kv, List.append_assoc]
  refine Reads.bind (PRT.docLines_fuel .grammarDoc sGDOC c.gdocs) (fun K hK => ?_)
    (g := fun _ => (c.abs).map fun g => g.den b) fun gdoc hg => ?_
  · rw [hK, List.append_nil]
    exact hK'
  cases hg
  refine (Reads.map (fun rules => (⟨rules, c.gdocs⟩ : Loaded)) (Reads.fuel fun n hn =>
    parseRules_all b heof c.trailing c.rules n [] (Nat.lt_of_le_of_lt
      (Nat.le_trans (PRT.length_le_flatten_map CRule.kv c.rules fun r _ => crule_kv_length_pos r)
        (by rw [List.length_append]; exact Nat.le_add_right ..)) hn))).cast ?_
  rw [CGrammar.abs]
  cases absRules c.rules <;> rfl

/-- **the grammar parser on the tokens of a concrete syntax tree**: on any token list whose kinds
    and values are those of a C-tree, `Parser(tokens, builtins).parse()` succeeds exactly when the
    abstraction of the C-tree is defined; it then returns the rule table and the grammar doc the
    abstraction denotes, and has consumed every token -/
theorem parseTokens_ctree (b : List String) (c : CGrammar) (eof : Token) (heof : eof.kind = .eoi)
    (ts : List Token) (hts : tokKV ts = c.kv) :
    okPart (parseTokens b eof ts) = (c.abs).map (fun g => (g.den b, [])) :=
  (parseTokens_reads b heof c).run (by rw [hts, List.append_nil]) rfl

theorem parse_ok_abs {b : List String} {c : CGrammar} {eof : Token} {ts : List Token} {r : Loaded}
    {rest : List Token} (hts : tokKV ts = c.kv) (heof : eof.kind = .eoi)
    (h : parseTokens b eof ts = .ok r rest) :
    ∃ g, c.abs = some g ∧ r = g.den b ∧ rest = [] := by
  have := parseTokens_ctree b c eof heof ts hts
  rw [h] at this
  cases hc : c.abs with
  | none => rw [hc] at this; simp at this
  | some g =>
    rw [hc] at this
    simp only [okPart_ok', Option.map_some, Option.some.injEq, Prod.mk.injEq] at this
    refine ⟨g, rfl, this.1, ?_⟩
    cases rest with
    | nil => rfl
    | cons t l => simp at this

theorem parse_of_abs {b : List String} {c : CGrammar} {eof : Token} {ts : List Token} {g : SGrammar}
    (hts : tokKV ts = c.kv) (heof : eof.kind = .eoi) (hc : c.abs = some g) :
    parseTokens b eof ts = .ok (g.den b) [] := by
  have := parseTokens_ctree b c eof heof ts hts
  rw [hc] at this
  obtain ⟨ts', h, hts'⟩ := okPart_some this
  cases ts' with
  | nil => exact h
  | cons t l => simp at hts'

/-! ### an instance -/

/-- the C-tree of `a = { "x"{007} ~ 'a'..'\x62' }`: the number and the characters as spelled -/
def exC : CGrammar :=
  ⟨[], [⟨[], [97], none, false,
    .cons (.mk none [] (.str [120]) [.braces [some [48, 48, 55]]]) false
      (.one (.mk none [] (.range [39, 97, 39] [39, 92, 120, 54, 50, 39]) []))⟩], []⟩

/-- its abstraction: `{7}` and `'a'..'b'` -/
def exS : SGrammar :=
  ⟨[], [⟨[], [97], none, false,
    .cons (.mk none [] (.str [120]) [.exact 7]) false (.one (.mk none [] (.range 97 98) []))⟩], []⟩

example : exC.abs = some exS := by rfl

example (b : List String) (n s0 s1 s2 s3 s4 s5 s6 s7 s8 s9 s10 s11 : Nat) :
    parseTokens b ⟨.eoi, [], n⟩
      [⟨.identifier, [97], s0⟩, ⟨.assignOp, [61], s1⟩, ⟨.lbrace, [123], s2⟩, ⟨.string, [120], s3⟩,
        ⟨.lbrace, [123], s4⟩, ⟨.number, [48, 48, 55], s5⟩, ⟨.rbrace, [125], s6⟩, ⟨.sequenceOp, [126], s7⟩,
        ⟨.char, [39, 97, 39], s8⟩, ⟨.rangeOp, [46, 46], s9⟩, ⟨.char, [39, 92, 120, 54, 50, 39], s10⟩,
        ⟨.rbrace, [125], s11⟩] = .ok (exS.den b) [] :=
  parse_of_abs (c := exC) rfl rfl (by rfl)

example (b : List String) :
    exS.den b = ⟨[⟨nameOf [97], 0, .seq [.repExact (.str [120]) 7, .range 97 98], []⟩], []⟩ := by
  simp only [exS, SGrammar.den, SRule.den, SExpr.den, SExpr.groups, STerm.den, SNode.den, consGroup, mkSeq,
    mkChoice, applyPost, dictSet, List.foldl_cons, List.foldl_nil, List.map_cons, List.map_nil, List.isEmpty_nil,
    if_true, List.foldr_nil, Option.map_none, Option.getD_none, List.any_nil, Bool.false_eq_true, if_false,
    List.nil_append]

/-- an instance where `abs` is undefined (`{1,2,3}`): the parser does not succeed -/
example (b : List String) (eof : Token) (heof : eof.kind = .eoi) (ts : List Token)
    (hts : tokKV ts = (CGrammar.mk [] [⟨[], [97], none, false,
      .one (.mk none [] (.str [120]) [.braces [some [49], none, some [50], none, some [51]]])⟩] []).kv) :
    okPart (parseTokens b eof ts) = none := by
  rw [parseTokens_ctree b _ eof heof ts hts]; rfl

end IP
end Front
end Pest
