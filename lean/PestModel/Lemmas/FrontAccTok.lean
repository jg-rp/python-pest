/-
  Lemmas/FrontAccTok.lean — the scanner's accept half, token level: the scanner methods below
  `accept_terminal` on the layout `ScA K t tl` of Lemmas/FrontInvCst.lean: `t` is the emitted tokens
  `K`, each as spelled and followed by some trivia, then `tl`.  `Tr F t` (Lemmas/FrontSkipTrivia.lean)
  says that the text `F` in front of a method is `t` after some trivia, for the methods that skip
  trivia first.  Look-ahead is read off the first lexeme (`IsDigits`, `IsIntTok`, `IsCharLit`,
  `IsIdent` give its first character); the bound of the loops in `{ … }` and over the postfix
  operators is compared with the length of the text in front.  Read after Lemmas/FrontAccKit.lean;
  the tree level follows in Lemmas/FrontAccScan.lean.
-/
import PestModel.Lemmas.FrontAccKit

namespace Pest
namespace Front
namespace TRT
open RT

/-! ### postfix operators; in `{ … }` commas and number lexemes -/

theorem hd_afterNum {w : Text} {items : List (Option Text)} (hok : sepItems (some w :: items) = true)
    {t tl : Text} (hs : ScA (items.map itemKV') t tl) (htl : Hd (· == 125) tl) :
    Hd (fun c => c == 125 || c == 44) t := by
  cases items with
  | nil => cases scA_nil_inv hs; exact htl.mono fun c hc => by simp at hc; simp [hc]
  | cons i r =>
    cases i with
    | none => obtain ⟨_, _, _, rfl, _⟩ := scA_cons_v (k := .comma) hs; rfl
    | some k => simp [sepItems] at hok

theorem sp_boundsLoop : ∀ (items : List (Option Text)) (n : Nat) (F t tl : Text),
    F.length < n → sepItems items = true → (∀ w, some w ∈ items → IsDigits w) → Hd (· == 125) tl →
    ScA (items.map itemKV') t tl → Tr F t → Sp (boundsLoop n) F () tl (items.map itemKV') := by
  intro items
  induction items with
  | nil =>
    intro n F t tl hn _ _ htl hs hF
    cases scA_nil_inv hs
    cases n with
    | zero => exact absurd hn (Nat.not_lt_zero _)
    | succ n =>
      obtain ⟨c, r, rfl, hc⟩ := htl.dest
      cases (by simpa using hc : c = 125)
      rw [boundsLoop_succ]
      exact k_triv_tr hF (stop_tokc r (by decide)) <| k_optChar_no (by simp) <|
        k_scanEmit_no (mNumber_none r (by decide)) <| Sp.pure () _
  | cons i items ih =>
    intro n F t tl hn hok hv htl hs hF
    cases n with
    | zero => exact absurd hn (Nat.not_lt_zero _)
    | succ n =>
      have hv' : ∀ w, some w ∈ items → IsDigits w := fun w h => hv w (List.mem_cons_of_mem _ h)
      have hlen := hF.length_le
      rw [boundsLoop_succ]
      cases i with
      | none =>
        obtain ⟨ws, m, hw, rfl, hs'⟩ := scA_cons_v (k := .comma) hs
        exact k_triv_tr hF (stop_tokc (c := 44) _ (by decide)) <| k_optChar <|
          ih n (ws ++ m) m tl (by simp at hlen ⊢; omega) (sepItems_tail hok) hv' htl hs' (Tr.mk hw m)
      | some w =>
        obtain ⟨ws, m, hw, rfl, hs'⟩ := scA_cons_v (k := .number) hs
        have hd := hv w (List.mem_cons_self ..)
        obtain ⟨d, ds, rfl, hdd⟩ := isDigits_cons hd
        have hnext : Hd ndg (ws ++ m) := isTrivia_hd ndg_of_not_tokc hw
          ((hd_afterNum hok hs' htl).mono fun c hc => by
            simp only [Bool.or_eq_true, beq_iff_eq] at hc
            rcases hc with rfl | rfl <;> rfl)
        exact k_triv_tr hF (stop_tokc (c := d) _ (tokc_of (by decide) hdd)) <|
          k_optChar_no (by simpa using (ne_of_class hdd : d ≠ 44)) <|
          k_scanEmit (mNumber_of hd hnext) <|
          ih n (ws ++ m) m tl (by simp at hlen ⊢; omega) (sepItems_tail hok) hv' htl hs' (Tr.mk hw m)

/-- one postfix operator, whatever stands in front of it; the trivia behind it is left -/
theorem sp_postfixOp (p : CPost) (hv : p.Valid) (hsep : CPost.Sep p) {F t m : Text}
    (hs : ScA p.kv t m) (hF : Tr F t) :
    ∃ F', Tr F' m ∧ F'.length < F.length ∧ Sp acceptPostfixOp F true F' p.kv := by
  have hlen := hF.length_le
  rw [acceptPostfixOp_eq]
  cases p with
  | opt =>
    obtain ⟨w, X, hw, rfl, h⟩ := scA_cons_v (k := .optionOp) hs
    cases scA_nil_inv h
    exact ⟨w ++ m, Tr.mk hw m, by simp at hlen ⊢; omega,
      k_triv_tr hF (stop_tokc (c := 63) _ (by decide)) <| k_optChar <| Sp.pure true _⟩
  | rep =>
    obtain ⟨w, X, hw, rfl, h⟩ := scA_cons_v (k := .repeatOp) hs
    cases scA_nil_inv h
    exact ⟨w ++ m, Tr.mk hw m, by simp at hlen ⊢; omega,
      k_triv_tr hF (stop_tokc (c := 42) _ (by decide)) <| k_optChar_no (by simp) <| k_optChar <|
      Sp.pure true _⟩
  | rep1 =>
    obtain ⟨w, X, hw, rfl, h⟩ := scA_cons_v (k := .repeatOnceOp) hs
    cases scA_nil_inv h
    exact ⟨w ++ m, Tr.mk hw m, by simp at hlen ⊢; omega,
      k_triv_tr hF (stop_tokc (c := 43) _ (by decide)) <| k_optChar_no (by simp) <|
      k_optChar_no (by simp) <| k_optChar <| Sp.pure true _⟩
  | braces items =>
    obtain ⟨w0, t1, hw0, rfl, hs1⟩ := scA_cons_v (k := .lbrace) hs
    obtain ⟨t2, h1, h2⟩ := scA_append _ hs1
    obtain ⟨w3, m', hw3, rfl, h3⟩ := scA_cons_v (k := .rbrace) h2
    cases scA_nil_inv h3
    have hl2 := scA_length h1
    exact ⟨w3 ++ m, Tr.mk hw3 m, by simp at hlen hl2 ⊢; omega,
      k_triv_tr hF (stop_tokc (c := 123) _ (by decide)) <| k_optChar_no (by simp) <|
      k_optChar_no (by simp) <| k_optChar_no (by simp) <| k_optChar <|
      Sp.bind (Sp.sized fun n hn => sp_boundsLoop items n _ t1 _ hn hsep hv (by simp) h1 (Tr.mk hw0 t1))
        (k_triv_none (stop_tokc (c := 125) _ (by decide)) <| k_expect (c := 125) <|
          Sp.pure true _) (by simp)⟩

theorem sp_postfixOp_no {F tl : Text} (h : Tr F tl) (htl : Hd afterTerm tl) :
    Sp acceptPostfixOp F false tl [] := by
  rw [acceptPostfixOp_eq]
  exact k_triv_tr h (htl.stop @tokc_afterTerm) <| k_optChar_no (head_ne_of_hd htl (by decide)) <|
    k_optChar_no (head_ne_of_hd htl (by decide)) <| k_optChar_no (head_ne_of_hd htl (by decide)) <|
    k_optChar_no (head_ne_of_hd htl (by decide)) <| Sp.pure false _

theorem sp_postfixLoop : ∀ (posts : List CPost) (n : Nat) (F t tl : Text),
    F.length < n → (∀ p ∈ posts, p.Valid ∧ CPost.Sep p) → Hd afterTerm tl →
    ScA (posts.map CPost.kv).flatten t tl → Tr F t →
    Sp (postfixLoop n) F () tl (posts.map CPost.kv).flatten := by
  intro posts
  induction posts with
  | nil =>
    intro n F t tl hn _ htl hs hF
    cases scA_nil_inv hs
    cases n with
    | zero => exact absurd hn (Nat.not_lt_zero _)
    | succ n => exact Sp.bind (sp_postfixOp_no hF htl) (Sp.pure () _) rfl
  | cons p posts ih =>
    intro n F t tl hn hv htl hs hF
    cases n with
    | zero => exact absurd hn (Nat.not_lt_zero _)
    | succ n =>
      obtain ⟨m, h1, h2⟩ := scA_append p.kv (by simpa using hs)
      obtain ⟨F', hF', hlt, hop⟩ := sp_postfixOp p (hv p (by simp)).1 (hv p (by simp)).2 h1 hF
      exact Sp.bind hop (ih n F' m tl (by omega) (fun q hq => hv q (by simp [hq])) htl h2 hF')
        (by simp)

theorem sp_acceptPostfixOps (posts : List CPost) (hv : ∀ p ∈ posts, p.Valid ∧ CPost.Sep p)
    {F t tl : Text} (htl : Hd afterTerm tl) (hs : ScA (posts.map CPost.kv).flatten t tl)
    (hF : Tr F t) : Sp acceptPostfixOps F () tl (posts.map CPost.kv).flatten :=
  Sp.sized fun n hn => sp_postfixLoop posts n F t tl hn hv htl hs hF

/-! ### `PEEK[a..b]` -/

/-- `.` or `]` -/
abbrev sliceEnd (c : Nat) : Bool := c == 46 || c == 93

theorem sp_optInteger (a : Option Text) (hv : ∀ w, a = some w → IsIntTok w) {t tl : Text}
    (hs : ScA (optKV .integer a) t tl) (h : Hd sliceEnd tl) :
    Sp optInteger t () tl (optKV .integer a) := by
  cases a with
  | none =>
    cases scA_nil_inv hs
    obtain ⟨c, r, rfl, hc⟩ := h.dest
    have hc' : c = 46 ∨ c = 93 := by simpa using hc
    exact k_scanEmit_no (mInteger_none r (by rcases hc' with rfl | rfl <;> rfl) (by omega))
      (Sp.pure () _)
  | some w =>
    obtain ⟨ws, m, hw, rfl, h3⟩ := scA_cons_v (k := .integer) hs
    cases scA_nil_inv h3
    exact k_scanEmit (mInteger_of (hv w rfl) (isTrivia_hd ndg_of_not_tokc hw
      (h.mono fun c hc => by rcases (by simpa using hc : c = 46 ∨ c = 93) with rfl | rfl <;> rfl)))
      (sp_triv_w hw (h.stop fun _ => tokc_of (p := sliceEnd) (by decide)))

theorem hd_optInt (a : Option Text) (hv : ∀ w, a = some w → IsIntTok w) {p : Nat → Bool} {t tl : Text}
    (hs : ScA (optKV .integer a) t tl) (h : Hd p tl) :
    Hd (fun c => p c || isDigit c || c == 45) t := by
  cases a with
  | none => cases scA_nil_inv hs; exact h.mono fun c hc => by simp [hc]
  | some w =>
    obtain ⟨ws, m, _, rfl, _⟩ := scA_cons_v (k := .integer) hs
    obtain ⟨d, r, rfl, hd⟩ := isIntTok_hd (hv w rfl)
    simpa [Bool.or_assoc] using Or.inr hd

theorem sp_peekTail_slice (a b : Option Text) (ha : ∀ w, a = some w → IsIntTok w)
    (hb : ∀ w, b = some w → IsIntTok w) {F t tl : Text} (hs : ScA (sliceTail a b) t tl)
    (hF : Tr F t) : ∃ F', Tr F' tl ∧ Sp peekTail F true F' (sliceTail a b) := by
  obtain ⟨w0, t1, hw0, rfl, h1⟩ := scA_cons_v (k := .lbracket) hs
  obtain ⟨t2, hA, h2⟩ := scA_append _ h1
  obtain ⟨w1, t3, hw1, rfl, h3⟩ := scA_cons_v (k := .rangeOp) h2
  obtain ⟨t4, hB, h4⟩ := scA_append _ h3
  obtain ⟨w2, m, hw2, rfl, h5⟩ := scA_cons_v (k := .rbracket) h4
  cases scA_nil_inv h5
  have hdB : Hd sliceEnd ([93] ++ (w2 ++ tl)) := rfl
  have hdA : Hd sliceEnd ([46, 46] ++ (w1 ++ t3)) := rfl
  have tk : ∀ c, (sliceEnd c || isDigit c || c == 45) = true → tokc c = true :=
    fun _ => tokc_of (p := fun c => sliceEnd c || isDigit c || c == 45) (by decide)
  exact ⟨w2 ++ tl, Tr.mk hw2 tl,
    k_triv_tr hF (stop_tokc (c := 91) _ (by decide)) <| k_optChar <|
    k_triv hw0 ((hd_optInt a ha hA hdA).stop tk) <|
    Sp.bind (sp_optInteger a ha hA hdA) (k_scanOrError (mLit_of sDOTS _) <|
      k_triv hw1 ((hd_optInt b hb hB hdB).stop tk) <|
      Sp.bind (sp_optInteger b hb hB hdB) (k_expect <| Sp.pure true _) rfl) rfl⟩

/-- `PEEK` as a plain identifier: the trivia behind it may be eaten -/
theorem sp_peekTail_no {F tl : Text} (h : Tr F tl) (htl : Hd afterNode tl) :
    Sp peekTail F true tl [] :=
  k_triv_tr h (htl.stop @tokc_afterNode) <|
    k_optChar_no (head_ne_of_hd htl (by decide)) (Sp.pure true _)

/-! ### strings, on the shapes `SpellsA` gives -/

theorem sp_stringLoop (kind : TK) {body : Text} (h : SBody body) :
    ∀ (n : Nat) (acc : Text) (esc : Bool) (v tl : Text), body.length < n → StrVal acc esc body v →
    Sp (stringLoop kind n acc esc) (body ++ 34 :: tl) true tl [(kind, v)] := by
  induction h with
  | nil =>
    intro n acc esc v tl hn hv st hs
    cases n with
    | zero => simp at hn
    | succ n =>
      simp only [List.nil_append] at hs
      cases esc with
      | true =>
        rw [stringLoop_close_esc kind n acc hs (strVal_nil_esc.1 hv)]
        exact ⟨_, rfl, by simp [hs], by simp⟩
      | false =>
        rw [stringLoop_close_raw kind n acc hs, strVal_nil_raw.1 hv]
        exact ⟨_, rfl, by simp [hs], by simp⟩
  | @char c b h1 h2 _ ih =>
    intro n acc esc v tl hn hv st hs
    cases n with
    | zero => simp at hn
    | succ n =>
      rw [stringLoop_plain kind n acc esc (s := st) (by simpa using hs) h1 h2]
      obtain ⟨s1, e1, r1, o1⟩ := ih n (c :: acc) esc v tl (by simp at hn; omega)
        ((strVal_char h1).1 hv) (st.adv 1) (by simp [hs])
      exact ⟨s1, e1, r1, by simpa using o1⟩
  | @esc e b he _ ih =>
    intro n acc esc v tl hn hv st hs
    cases n with
    | zero => simp at hn
    | succ n =>
      have hk : mEscape (e ++ (b ++ 34 :: tl)) = some e.length := mEscape_append he _
      have hs' : st.rest = 92 :: (e ++ (b ++ 34 :: tl)) := by simpa using hs
      rw [stringLoop_esc kind n acc esc hs' hk]
      have ht : (e ++ (b ++ 34 :: tl)).take e.length = e := by simp
      rw [ht]
      obtain ⟨s1, e1, r1, o1⟩ := ih n (e.reverse ++ 92 :: acc) true v tl (by simp at hn; omega)
        (strVal_esc.1 hv) ((st.adv 1).adv e.length) (by simp [hs'])
      exact ⟨s1, e1, r1, by simpa using o1⟩

theorem sp_stringLoop_start (kind : TK) {body s : Text} (h : StrBody body s) (tl : Text) (n : Nat)
    (hn : body.length < n) :
    Sp (stringLoop kind n [] false) (body ++ 34 :: tl) true tl [(kind, s)] :=
  sp_stringLoop kind (strBody_iff.1 h).1 n [] false s tl hn (strBody_iff.1 h).2

theorem sp_acceptString {body s : Text} (h : StrBody body s) (tl : Text) :
    Sp acceptString (34 :: (body ++ 34 :: tl)) true tl [(.string, s)] := by
  intro st hs
  unfold acceptString
  simp only [peek_iff.2 ⟨_, hs⟩, ↓reduceIte]
  have := sp_stringLoop_start .string h tl ((st.adv 1).rest.length + 1) (by simp [hs]; omega)
  exact this.from st _ (by simp [hs]) (k0 := []) (by simp only [List.append_nil]; rfl)

theorem sp_acceptString_no {t : Text} (h : t.head? ≠ some 34) : Sp acceptString t false t [] := by
  intro s hs
  exact ⟨s, by simp [acceptString, St.peek, hs, h], hs, by simp⟩

theorem sp_acceptCIString_no {t : Text} (h : t.head? ≠ some 94) : Sp acceptCIString t false t [] := by
  intro s hs
  exact ⟨s, by simp [acceptCIString, St.peek, hs, h], hs, by simp⟩

theorem sp_acceptCIString {body s ws : Text} (h : StrBody body s) (hws : IsTrivia ws) (tl : Text) :
    Sp acceptCIString (94 :: (ws ++ 34 :: (body ++ 34 :: tl))) true tl [(.stringCI, s)] := by
  intro st hs
  unfold acceptCIString
  simp only [peek_iff.2 ⟨_, hs⟩, ↓reduceIte]
  obtain ⟨h1, h2⟩ := skipTrivia_tr (s := ({ (st.adv 1) with start := (st.adv 1).pos } : St))
    (tl := 34 :: (body ++ 34 :: tl)) ⟨ws, hws, by simp [hs]⟩ (stop_tokc _ (by decide))
  generalize skipTrivia ({ (st.adv 1) with start := (st.adv 1).pos } : St) = s2 at h1 h2
  simp only [peek_iff.2 ⟨_, h1⟩, ↓reduceIte]
  have := sp_stringLoop_start .stringCI h tl ((s2.adv 1).rest.length + 1) (by simp [h1]; omega)
  exact this.from st _ (by simp [h1]) (k0 := []) (by simp only [List.append_nil]; exact h2)

theorem k_acceptString {β : Type} {b : β} {tl' : Text} {K : List KV} {body s tl : Text}
    {f : Bool → M β} (h : StrBody body s) (k : Sp (f true) tl b tl' K) :
    Sp (acceptString >>= f) (34 :: (body ++ [34]) ++ tl) b tl' ((.string, s) :: K) :=
  Sp.bind ((sp_acceptString h tl).cast (by simp) rfl rfl) k rfl

theorem k_acceptCIString {β : Type} {b : β} {tl' : Text} {K : List KV} {body s ws tl : Text}
    {f : Bool → M β} (h : StrBody body s) (hws : IsTrivia ws) (k : Sp (f true) tl b tl' K) :
    Sp (acceptCIString >>= f) (94 :: (ws ++ 34 :: (body ++ [34])) ++ tl) b tl' ((.stringCI, s) :: K) :=
  Sp.bind ((sp_acceptCIString h hws tl).cast (by simp) rfl rfl) k rfl

/-! ### tag, prefix operators; what the operators in front of and behind a node start with -/

theorem sp_acceptTag_none {p : Nat → Bool} {t : Text} (h : Hd p t)
    (hp : p 35 = false := by decide) : Sp acceptTag t () t [] := by
  obtain ⟨c, r, rfl, hc⟩ := h.dest
  exact k_scanEmit_no (mTag_none r (ne_of_class hc hp)) (Sp.pure () _)

theorem sp_acceptTag (tag : Option Text)
    (hv : match tag with | some t => IsTagName t | none => True) {inp tl : Text}
    (hs : ScA (tagKV tag) inp tl) (htl : Hd preStart tl) : Sp acceptTag inp () tl (tagKV tag) := by
  cases tag with
  | none =>
    cases scA_nil_inv hs
    exact sp_acceptTag_none htl
  | some t =>
    obtain ⟨w1, m1, hw1, rfl, hs1⟩ := scA_cons_v (k := .tag) hs
    obtain ⟨w2, m2, hw2, rfl, hs2⟩ := scA_cons_v (k := .assignOp) hs1
    cases scA_nil_inv hs2
    exact k_scanEmit (mTag_of hv (hd_nic_w hw1 _ (by decide))) <|
      k_triv hw1 (stop_tokc (c := 61) _ (by decide)) <| k_expect <|
      sp_triv_w hw2 (htl.stop @tokc_preStart)

theorem hd_pre (pre : List Bool) {t m : Text} (hs : ScA (pre.map preKV) t m) (h : Hd nodeStart m) :
    Hd preStart t := by
  cases pre with
  | nil => cases scA_nil_inv hs; exact h.mono fun c hc => by simp [preStart, hc]
  | cons b pre =>
    cases b with
    | true => obtain ⟨_, _, _, rfl, _⟩ := scA_cons_v (k := .posPred) hs; rfl
    | false => obtain ⟨_, _, _, rfl, _⟩ := scA_cons_v (k := .negPred) hs; rfl

theorem sp_prefixLoop : ∀ (pre : List Bool) (n : Nat) (inp tl : Text), pre.length < n →
    ScA (pre.map preKV) inp tl → Hd nodeStart tl → Sp (prefixLoop n) inp () tl (pre.map preKV)
  | _, 0, _, _, hn, _, _ => absurd hn (Nat.not_lt_zero _)
  | [], n + 1, inp, tl, _, hs, htl => by
    cases scA_nil_inv hs
    rw [prefixLoop_succ]
    exact k_optChar_no (head_ne_of_hd htl (by decide)) <| k_optChar_no (head_ne_of_hd htl (by decide)) <|
      Sp.pure () _
  | b :: pre, n + 1, inp, tl, hn, hs, htl => by
    rw [prefixLoop_succ]
    have ih := fun m hm => sp_prefixLoop pre n m tl (Nat.lt_of_succ_lt_succ hn) hm htl
    cases b with
    | true =>
      obtain ⟨w, m, hw, rfl, hs1⟩ := scA_cons_v (k := .posPred) hs
      exact k_optChar <| k_triv hw ((hd_pre pre hs1 htl).stop @tokc_preStart) (ih m hs1)
    | false =>
      obtain ⟨w, m, hw, rfl, hs1⟩ := scA_cons_v (k := .negPred) hs
      exact k_optChar_no (by simp) <| k_optChar <|
        k_triv hw ((hd_pre pre hs1 htl).stop @tokc_preStart) (ih m hs1)

theorem pre_length_le : ∀ (pre : List Bool) {t tl : Text}, ScA (pre.map preKV) t tl →
    pre.length ≤ t.length
  | [], _, _, _ => Nat.zero_le _
  | b :: pre, t, tl, h => by
    obtain ⟨c, w, m, rfl, hr⟩ : ∃ c w m, t = [c] ++ (w ++ m) ∧ ScA (pre.map preKV) m tl := by
      cases b
      · obtain ⟨w, m, _, e, hr⟩ := scA_cons_v (k := .negPred) h; exact ⟨_, w, m, e, hr⟩
      · obtain ⟨w, m, _, e, hr⟩ := scA_cons_v (k := .posPred) h; exact ⟨_, w, m, e, hr⟩
    have := pre_length_le pre hr
    simp
    omega

/-- the prefix operators as `acceptTerm` runs them -/
theorem sp_prefixOps (pre : List Bool) {inp tl : Text} (hs : ScA (pre.map preKV) inp tl)
    (htl : Hd nodeStart tl) :
    Sp (fun s => prefixLoop (s.rest.length + 1) s) inp () tl (pre.map preKV) :=
  Sp.sized fun n hn =>
    sp_prefixLoop pre n inp tl (Nat.lt_of_le_of_lt (pre_length_le pre hs) hn) hs htl

theorem hd_posts (posts : List CPost) {t tl : Text} (hs : ScA (posts.map CPost.kv).flatten t tl)
    (h : Hd afterTerm tl) : Hd afterNode t := by
  cases posts with
  | nil => cases scA_nil_inv hs; exact h.mono @afterNode_of_afterTerm
  | cons p posts =>
    cases p with
    | opt => obtain ⟨_, _, _, rfl, _⟩ := scA_cons_v (k := .optionOp) hs; rfl
    | rep => obtain ⟨_, _, _, rfl, _⟩ := scA_cons_v (k := .repeatOp) hs; rfl
    | rep1 => obtain ⟨_, _, _, rfl, _⟩ := scA_cons_v (k := .repeatOnceOp) hs; rfl
    | braces items => obtain ⟨_, _, _, rfl, _⟩ := scA_cons_v (k := .lbrace) hs; rfl

/-! ### `'a'..'b'`, the rule's modifier, the leading `|` -/

theorem sp_charRange_no {c : Nat} (r : Text) (h : c ≠ 39) : Sp charRange (c :: r) false (c :: r) [] :=
  k_scanEmit_no (mChar_none r h) (Sp.pure false _)

theorem sp_charRange (a b : Text) (ha : IsCharLit a) (hb : IsCharLit b) {t tl : Text}
    (hs : ScA [(.char, a), (.rangeOp, [46, 46]), (.char, b)] t tl) :
    ∃ F', Tr F' tl ∧ Sp charRange t true F' [(.char, a), (.rangeOp, [46, 46]), (.char, b)] := by
  obtain ⟨w1, m1, hw1, rfl, h1⟩ := scA_cons_v (k := .char) hs
  obtain ⟨w2, m2, hw2, rfl, h2⟩ := scA_cons_v (k := .rangeOp) h1
  obtain ⟨w3, m3, hw3, rfl, h3⟩ := scA_cons_v (k := .char) h2
  cases scA_nil_inv h3
  obtain ⟨rb, rfl⟩ := isCharLit_cons hb
  exact ⟨w3 ++ tl, Tr.mk hw3 tl,
    k_scanEmit (mChar_of ha _) <| k_triv hw1 (stop_tokc (c := 46) _ (by decide)) <|
    k_scanOrError (mLit_of sDOTS _) <| k_triv hw2 (stop_tokc (c := 39) _ (by decide)) <|
    k_scanOrError (mChar_of hb _) <| Sp.pure true _⟩

theorem sp_optModifier (m : Option Nat)
    (hm : match m with | some c => c = 95 ∨ c = 64 ∨ c = 36 ∨ c = 33 | none => True)
    {t X : Text} (hs : ScA (modKV m) t (123 :: X)) : Sp optModifier t () (123 :: X) (modKV m) := by
  cases m with
  | none =>
    cases scA_nil_inv hs
    exact k_scanEmit_no (by simp [mModifier]) (Sp.pure () _)
  | some c =>
    obtain ⟨w, m', hw, rfl, h3⟩ := scA_cons_v (k := .modifier) hs
    cases scA_nil_inv h3
    exact k_scanEmit (mModifier_of hm _).1 (sp_triv_w hw (stop_tokc _ (by decide)))

theorem stop_mod (m : Option Nat)
    (hm : match m with | some c => c = 95 ∨ c = 64 ∨ c = 36 ∨ c = 33 | none => True)
    {t X : Text} (hs : ScA (modKV m) t (123 :: X)) : Stop t := by
  cases m with
  | none => cases scA_nil_inv hs; exact stop_tokc X (by decide)
  | some c =>
    obtain ⟨w, m', _, rfl, _⟩ := scA_cons_v (k := .modifier) hs
    exact stop_tokc _ (mModifier_of hm []).2

theorem sp_leadingChoice (bar : Bool) {t X : Text} (hs : ScA (barKV bar) t X) (hX : Hd termStart X) :
    Sp leadingChoice t () X (barKV bar) := by
  cases bar with
  | true =>
    obtain ⟨w, m, hw, rfl, h1⟩ := scA_cons_v (k := .choiceOp) hs
    cases scA_nil_inv h1
    exact k_optChar (sp_triv_w hw (hX.stop @tokc_termStart))
  | false =>
    cases scA_nil_inv hs
    exact k_optChar_no (head_ne_of_hd hX (by decide)) (Sp.pure () _)

/-! ### a doc line behind its marker -/

/-- the optional blank behind the marker is skipped, and nothing else: what follows is the line
    `l` (which does not start with a blank if there was none to skip) and then `X` -/
theorem docBlank_sp {sp l X : Text} {s : St} (hsp : DocSp sp l)
    (hX : X.head? ≠ some 32 ∧ X.head? ≠ some 9) (hs : s.rest = sp ++ (l ++ X)) :
    (docBlank s).rest = l ++ X ∧ out (docBlank s) = out s := by
  unfold docBlank
  rcases hsp with rfl | rfl | ⟨rfl, h1, h2⟩
  · simp only [List.cons_append, List.nil_append] at hs
    simp [hs, out, St.adv]
  · simp only [List.cons_append, List.nil_append] at hs
    simp [hs, out, St.adv]
  · simp only [List.nil_append] at hs
    cases hr : s.rest with
    | nil => simp only; exact ⟨by rw [← hs, hr], trivial⟩
    | cons c r =>
      simp only
      have hc : (c == 32 || c == 9) = false := by
        have hh : (l ++ X).head? = some c := by rw [← hs, hr]; rfl
        cases l with
        | nil =>
          simp only [List.nil_append] at hh
          have a := hX.1; have b := hX.2
          rw [hh] at a b
          simp only [ne_eq, Option.some.injEq] at a b
          simp [a, b]
        | cons d l' =>
          simp only [List.cons_append, List.head?_cons, Option.some.injEq] at hh
          subst hh
          simp only [List.head?_cons, ne_eq, Option.some.injEq] at h1 h2
          simp [h1, h2]
      rw [hc]
      simp only [Bool.false_eq_true, if_false]
      exact ⟨by rw [← hs, hr], trivial⟩

theorem docEnd_head {l rest : Text} (hd : DocEnd l rest) :
    rest.head? ≠ some 32 ∧ rest.head? ≠ some 9 := by
  rcases hd with rfl | ⟨r, rfl, _⟩ | ⟨r, rfl⟩ <;> simp

/-- `scan_grammar_doc_inner` / `scan_rule_doc_inner` on the optional blank, a doc line and what
    follows it: the blank belongs to the marker, the line is the token -/
theorem sp_docInner {sp l rest : Text} (hsp : DocSp sp l) (h : NoLF l) (hd : DocEnd l rest) :
    Sp docInner (sp ++ (l ++ rest)) () rest [(.commentText, l)] := by
  intro s hs
  obtain ⟨hr, ho⟩ := docBlank_sp hsp (docEnd_head hd) hs
  have hf := findNewline_docEnd l rest h hd
  refine ⟨((docBlank s).adv l.length).emit .commentText ((docBlank s).rest.take l.length), ?_, ?_, ?_⟩
  · unfold docInner
    simp only [hr, List.length_append, hf]
  · simp [hr]
  · simp [hr, ho]

end TRT
end Front
end Pest
