/-
  Lemmas/Json.lean — the tokens of the bundled JSON grammars under the specification L0, each a derivation in the
  calculus of Lemmas/Lx.lean along the expression of its rule.

  The sub-expressions are written out here (`exNumberBody`, `exCharBody`, …) exactly as
  `Generated/JsonGrammars.lean` has them; Props/C17.lean proves (`by rfl`) that the regenerated
  rule tables contain these very terms, so an edit of either .pest file re-opens the proofs.
  The four results Props/C17.lean takes from here, `ev_exNumber`, `ev_exString`, `ev_tNumber`, `ev_tString`, are stated on
  `Ev` (Lemmas/Ev.lean says where the line between `Ev` and `Big` runs in the JSON files).
-/
import PestModel.Lemmas.Ev
import PestModel.Lemmas.Lx
import PestModel.Json

namespace Pest
namespace Json
open L0

variable {g : Grammar} {inp : Input}

def DIGIT : Expr := .rule "ASCII_DIGIT" 2 true (.range 48 57)
def NZDIGIT : Expr := .rule "ASCII_NONZERO_DIGIT" 2 true (.range 49 57)

def IsDigit (c : CP) : Prop := 48 ≤ c ∧ c ≤ 57

theorem isDigit_digit (d : Digit) : IsDigit d.cp := in_range 48 d.isLt

theorem isDigit_nonzero (d : Fin 9) : IsDigit (49 + d.val) :=
  ⟨Nat.le_trans (show 48 ≤ 49 by decide) (Nat.le_add_right 49 d.val), (in_range 49 d.isLt).2⟩

section tokens
variable {F : Str → Prop}

theorem lex_digit (d : Digit) : Lx g inp DIGIT [d.cp] F true :=
  (lex_range (isDigit_digit d)).rule rfl rfl

theorem rej_digit : Rej g inp DIGIT (HeadIs fun c => ¬ IsDigit c) := (rej_range 48 57).rule

theorem lexR_digits : ∀ ds : List Digit, LxR g inp DIGIT (digitsText ds) (HeadIs fun c => ¬ IsDigit c)
  | [] => rej_digit.lx.rep_nil
  | d :: ds => (lex_digit d).rep_cons (lexR_digits ds)

theorem lex_digits1 (d : Digit) (ds : List Digit) :
    Lx g inp (.rep1 DIGIT) (digitsText (d :: ds)) (HeadIs fun c => ¬ IsDigit c) true :=
  ((lex_digit d).consT (lexR_digits ds).rep.last).rep1

end tokens

/-! ### `number` of examples/json/json.pest

    number = @{ "-"? ~ ("0" | ASCII_NONZERO_DIGIT ~ ASCII_DIGIT*) ~ ("." ~ ASCII_DIGIT*)?
                ~ (^"e" ~ ("+" | "-")? ~ ASCII_DIGIT+)? }

    and `number`, `int`, `exp` of tests/grammars/json.pest

    number = @{ "-"? ~ int ~ ("." ~ ASCII_DIGIT+ ~ exp? | exp)? }
    int    = @{ "0" | ASCII_NONZERO_DIGIT ~ ASCII_DIGIT* }
    exp    = @{ ("E" | "e") ~ ("+" | "-")? ~ ASCII_DIGIT+ } -/

def exIntExpr : Expr := .group (.choice [(.str [48]), (.seq [NZDIGIT, (.rep DIGIT)])]) none
def exFracExpr : Expr := .opt (.group (.seq [(.str [46]), (.rep DIGIT)]) none)
def exSignExpr : Expr := .opt (.group (.choice [(.str [43]), (.str [45])]) none)
def exExpExpr : Expr := .opt (.group (.seq [(.ci [101]), exSignExpr, (.rep1 DIGIT)]) none)
def exNumberBody : Expr := .seq [(.opt (.str [45])), exIntExpr, exFracExpr, exExpExpr]

def tIntBody : Expr := .choice [(.str [48]), (.seq [NZDIGIT, (.rep DIGIT)])]
def tExpBody : Expr := .seq [(.group (.choice [(.str [69]), (.str [101])]) none), exSignExpr, (.rep1 DIGIT)]
def tFracExpr : Expr :=
  .opt (.group (.choice [(.seq [(.str [46]), (.rep1 DIGIT), (.opt (.ident "exp" none))]), (.ident "exp" none)]) none)
def tNumberBody : Expr := .seq [(.opt (.str [45])), (.ident "int" none), tFracExpr]

structure TNumberRules (g : Grammar) : Prop where
  number : ∃ k, g.lookup "number" = some { name := "number", mod := 4, body := tNumberBody, kind := k }
  int : ∃ k, g.lookup "int" = some { name := "int", mod := 4, body := tIntBody, kind := k }
  exp : ∃ k, g.lookup "exp" = some { name := "exp", mod := 4, body := tExpBody, kind := k }

/-- what may follow a number: not something that would extend it -/
def NumFollow (c : CP) : Prop := ¬ IsDigit c ∧ c ≠ 46 ∧ c ≠ 101 ∧ c ≠ 69

def signText : Bool → Str | true => [45] | false => []
def fracText : Option (Digit × List Digit) → Str
  | none => []
  | some (d, ds) => 46 :: digitsText (d :: ds)
def expSignText : ExpSign → Str | .none => [] | .plus => [43] | .minus => [45]
def expOptText : Option Exp → Str
  | none => []
  | some e => expText e

theorem expText_eq (e : Exp) :
    expText e = (if e.upper then 69 else 101) :: (expSignText e.sign ++ digitsText (e.d :: e.ds)) := by
  cases e with
  | mk upper sign d ds => cases sign <;> rfl

theorem numText_eq (n : Num) :
    numText n = signText n.neg ++ (intText n.int ++ (fracText n.frac ++ expOptText n.exp)) := by
  obtain ⟨neg, int, frac, exp⟩ := n
  rw [numText, List.append_assoc, List.append_assoc]
  refine congr (congrArg _ ?_) (congrArg _ (congr (congrArg _ ?_) ?_))
  · cases neg <;> rfl
  · cases frac <;> rfl
  · cases exp <;> rfl

theorem headIs_expOpt {P : CP → Prop} (h69 : P 69) (h101 : P 101) (e : Option Exp) {r : Str} (hr : HeadIs P r) :
    HeadIs P (expOptText e ++ r) := by
  cases e with
  | none => exact hr
  | some e =>
    rw [expOptText, expText_eq]
    cases e.upper
    · exact h101
    · exact h69

theorem headIs_fracExp {P : CP → Prop} (h46 : P 46) (h69 : P 69) (h101 : P 101) (f : Option (Digit × List Digit))
    (e : Option Exp) {r : Str} (hr : HeadIs P r) : HeadIs P (fracText f ++ (expOptText e ++ r)) := by
  cases f with
  | none => exact headIs_expOpt h69 h101 e hr
  | some f => exact h46

theorem not_digit_46 : ¬ IsDigit 46 := by unfold IsDigit; cp_omega
theorem not_digit_69 : ¬ IsDigit 69 := by unfold IsDigit; cp_omega
theorem not_digit_101 : ¬ IsDigit 101 := by unfold IsDigit; cp_omega

theorem intText_head_ne (i : IntPart) (r : Str) : HeadIs (fun c => c ≠ 45) (intText i ++ r) := by
  cases i with
  | zero => show (48 : CP) ≠ 45; decide
  | nonzero d ds => show (49 + d.val : CP) ≠ 45; cp_omega

theorem lex_minusOpt (b : Bool) : Lx g inp (.opt (.str [45])) (signText b) (HeadIs fun c => c ≠ 45) true := by
  cases b with
  | true => exact (lex_str 45 []).opt
  | false => exact (rej_str 45 []).lx.opt_none

theorem lex_int (i : IntPart) : Lx g inp tIntBody (intText i) (HeadIs fun c => ¬ IsDigit c) true := by
  cases i with
  | zero => exact (lex_str 48 []).alt
  | nonzero d ds =>
    have hnz : Lx g inp NZDIGIT [49 + d.val] (fun _ => True) true := (lex_range (in_range 49 d.isLt)).rule rfl rfl
    exact .alt_next ((rej_str 48 []).lx.fail_at fun _ _ => by show (49 + d.val : CP) ≠ 48; cp_omega)
      (hnz.consT (lexR_digits ds).rep.last).seq.alt

theorem rej_int : Rej g inp tIntBody (HeadIs fun c => ¬ IsDigit c) :=
  ((rej_str 48 []).monoH fun c h e => h (by subst e; unfold IsDigit; decide)).choice
    (((rej_range 49 57).rule.seq.monoH fun c h e => h (by unfold IsDigit; cp_omega)).choice rej_choice_nil)

theorem lx_numberBody_fail {eInt : Expr} {rest : List Expr}
    (hint : Lx g inp eInt [] (HeadIs fun c => ¬ IsDigit c) false) :
    Lx g inp (.seq (.opt (.str [45]) :: eInt :: rest)) [] (HeadIs fun c => c ≠ 45 ∧ ¬ IsDigit c) false :=
  (((rej_str 45 []).lx.opt_none.monoH fun _ h => h.1).cons (hint.monoH fun _ h => h.2).first_fail fun _ h => h).seq

theorem lex_exFrac (f : Option (Digit × List Digit)) :
    Lx g inp exFracExpr (fracText f) (HeadIs fun c => ¬ IsDigit c ∧ c ≠ 46) true := by
  cases f with
  | none => exact ((rej_str 46 []).seq.group.lx.monoH fun _ h => h.2).opt_none
  | some f =>
    obtain ⟨d, ds⟩ := f
    exact (((lex_str 46 []).consT (lexR_digits (d :: ds)).rep.last).seq.group.opt).monoH fun _ h => h.1

theorem lex_expSign (sg : ExpSign) : Lx g inp exSignExpr (expSignText sg) (HeadIs fun c => c ≠ 43 ∧ c ≠ 45) true := by
  cases sg with
  | none => exact ((rej_strs' [43, 45]).group.lx.monoH fun c h => by simp [h.1, h.2]).opt_none
  | plus => exact (lex_strs [] [43, 45] (by simp)).group.opt
  | minus => exact (lex_strs [] [43, 45] (by simp)).group.opt

theorem lexS_expTail (e : Exp) :
    LxS g inp [exSignExpr, .rep1 DIGIT] (expSignText e.sign ++ digitsText (e.d :: e.ds)) (HeadIs fun c => ¬ IsDigit c)
      true :=
  (lex_expSign e.sign).cons (lex_digits1 e.d e.ds).last fun _ _ => by
    show e.d.cp ≠ 43 ∧ e.d.cp ≠ 45
    have := e.d.isLt
    unfold Digit.cp
    constructor <;> cp_omega

theorem startsWithAtCI_one {p : Nat} {c d : CP} {r : Str} (h : RestAt inp p (c :: r)) :
    startsWithAtCI inp [d] p = (asciiLower c == asciiLower d) := by
  simp only [startsWithAtCI, h.get]
  rw [decide_eq_true (Nat.succ_le_of_lt h.lt), Bool.and_true]

theorem asciiLower_ne_e {c : CP} (hc : c ≠ 101 ∧ c ≠ 69) : (asciiLower c == asciiLower 101) = false := by
  have h101 : asciiLower 101 = 101 := by decide
  rw [h101]
  unfold asciiLower
  by_cases h1 : (65 ≤ c && c ≤ 90) = true
  · simp only [h1, if_true]
    simp only [Bool.and_eq_true, decide_eq_true_eq] at h1
    have : c + 32 ≠ 101 := by cp_omega
    simpa using this
  · simp only [h1]
    simpa using hc.1

theorem lex_ci_e {c : CP} {F : Str → Prop} (hc : c = 101 ∨ c = 69) : Lx g inp (.ci [101]) [c] F true :=
  fun _ _ _ hr _ =>
    ⟨_, big_ci_ok ((startsWithAtCI_one hr).trans (by rcases hc with rfl | rfl <;> rfl)), [], rfl, rfl⟩

theorem rej_ci_e : Rej g inp (.ci [101]) (HeadIs fun c => c ≠ 101 ∧ c ≠ 69) := fun s r hr hh => by
  apply big_ci_fail
  cases r with
  | nil => simp [startsWithAtCI, hr.get_nil]
  | cons c r => exact (startsWithAtCI_one hr).trans (asciiLower_ne_e hh)

theorem lex_exExp (e : Option Exp) :
    Lx g inp exExpExpr (expOptText e) (HeadIs fun c => ¬ IsDigit c ∧ c ≠ 101 ∧ c ≠ 69) true := by
  cases e with
  | none => exact (rej_ci_e.seq.group.lx.monoH fun _ h => h.2).opt_none
  | some e =>
    rw [expOptText, expText_eq]
    exact (((lex_ci_e (by cases e.upper <;> simp)).consT (lexS_expTail e)).seq.group.opt).monoH fun _ h => h.1

theorem lex_exNumberBody (n : Num) : Lx g inp exNumberBody (numText n) (HeadIs NumFollow) true := by
  rw [numText_eq]
  -- from the right; at each `cons` the debt is that the text of the rest does not extend the element in front of it
  have hexp : LxS g inp [exExpExpr] (expOptText n.exp) (HeadIs NumFollow) true :=
    ((lex_exExp n.exp).monoH fun _ h => ⟨h.1, h.2.2⟩).last
  have hfrac : LxS g inp [exFracExpr, exExpExpr] (fracText n.frac ++ expOptText n.exp) (HeadIs NumFollow) true :=
    (lex_exFrac n.frac).cons hexp fun _ h =>
      headIs_expOpt ⟨not_digit_69, by decide⟩ ⟨not_digit_101, by decide⟩ n.exp (h.mono fun _ h => ⟨h.1, h.2.1⟩)
  have hint : LxS g inp [exIntExpr, exFracExpr, exExpExpr] (intText n.int ++ (fracText n.frac ++ expOptText n.exp))
      (HeadIs NumFollow) true :=
    (lex_int n.int).group.cons hfrac fun _ h => by
      rw [List.append_assoc]
      exact headIs_fracExp not_digit_46 not_digit_69 not_digit_101 n.frac n.exp (h.mono fun _ h => h.1)
  exact ((lex_minusOpt n.neg).cons hint fun _ _ => by rw [List.append_assoc]; exact intText_head_ne n.int _).seq

/-- **`number` accepts every RFC 8259 number.**  In any grammar whose rule `number` is the
    atomic rule with this body, from any state (atomic or not, any stack), on any input
    that continues with the text of a number followed by something that does not extend it:
    one childless pair `number` over exactly the text of the number. -/
theorem ev_exNumber {k : RuleKind}
    (hl : g.lookup "number" = some { name := "number", mod := 4, body := exNumberBody, kind := k })
    (s : S0) (n : Num) {post : Str}
    (hr : RestAt inp s.pos (numText n ++ post)) (hf : HeadIs NumFollow post) :
    Ev g inp (.ident "number" none) s
      (.ok (adv s (numText n).length) [mkPair "number" ATOMIC s.pos (s.pos + (numText n).length) []]) :=
  ((lex_exNumberBody n).token ⟨_, hl⟩ s hr hf).ev

theorem rej_exNumber {k : RuleKind}
    (hl : g.lookup "number" = some { name := "number", mod := 4, body := exNumberBody, kind := k }) :
    Rej g inp (.ident "number" none) (HeadIs fun c => c ≠ 45 ∧ ¬ IsDigit c) :=
  (lx_numberBody_fail rej_int.group.lx).token_rej ⟨_, hl⟩ rfl

section tnumber
variable (hg : TNumberRules g)
include hg

theorem lex_tInt (i : IntPart) : Lx g inp (.ident "int" none) (intText i) (HeadIs fun c => ¬ IsDigit c) true :=
  (lex_int i).ident hg.int rfl rfl

theorem lex_tExp (e : Exp) : Lx g inp (.ident "exp" none) (expText e) (HeadIs fun c => ¬ IsDigit c) true := by
  refine Lx.ident hg.exp rfl rfl ?_
  rw [expText_eq]
  exact ((lex_strs [] [69, 101] (by cases e.upper <;> simp)).group.consT (lexS_expTail e)).seq

theorem rej_tExp : Rej g inp (.ident "exp" none) (HeadIs fun c => c ≠ 101 ∧ c ≠ 69) :=
  ((rej_strs' [69, 101]).group.seq.ident hg.exp).monoH fun c h => by simp [h.1, h.2]

theorem lex_tExpOpt (e : Option Exp) :
    Lx g inp (.opt (.ident "exp" none)) (expOptText e) (HeadIs fun c => ¬ IsDigit c ∧ c ≠ 101 ∧ c ≠ 69) true := by
  cases e with
  | none => exact ((rej_tExp hg).lx.monoH fun _ h => h.2).opt_none
  | some e => exact ((lex_tExp hg e).monoH fun _ h => h.1).opt

/-- `("." ~ ASCII_DIGIT+ ~ exp? | exp)?`: with a fraction the first alternative takes fraction and exponent; without one
    it fails at the place of its `.`, and then either `exp` matches as the second alternative or both have failed and
    the option matches nothing -/
theorem lex_tFrac (f : Option (Digit × List Digit)) (e : Option Exp) :
    Lx g inp tFracExpr (fracText f ++ expOptText e) (HeadIs NumFollow) true := by
  have hexp := (lex_tExpOpt (inp := inp) hg e).monoH fun c (h : NumFollow c) => ⟨h.1, h.2.2⟩
  cases f with
  | some f =>
    obtain ⟨d, ds⟩ := f
    exact ((lex_str 46 []).consT ((lex_digits1 d ds).cons hexp.last
      fun _ h => headIs_expOpt not_digit_69 not_digit_101 e (h.mono fun _ h => h.1))).seq.alt.group.opt
  | none =>
    have h46 : Lx g inp (.seq [(.str [46]), (.rep1 DIGIT), (.opt (.ident "exp" none))]) [] (HeadIs fun c => c ≠ 46)
        false :=
      (rej_str 46 []).seq.lx
    cases e with
    | none =>
      exact (Lx.alt_next (h46.monoH fun c (h : NumFollow c) => h.2.1)
        (.alt_next ((rej_tExp hg).lx.monoH fun c (h : NumFollow c) => h.2.2) lx_choice_nil)).group.opt_none
    | some e =>
      exact (Lx.alt_next
        (h46.fail_at fun _ h => headIs_expOpt (by decide) (by decide) (some e) (h.mono fun _ h => h.2.1))
        ((lex_tExp hg e).monoH fun c (h : NumFollow c) => h.1).alt).group.opt

theorem lex_tNumberBody (n : Num) : Lx g inp tNumberBody (numText n) (HeadIs NumFollow) true := by
  rw [numText_eq]
  have hint : LxS g inp [.ident "int" none, tFracExpr] (intText n.int ++ (fracText n.frac ++ expOptText n.exp))
      (HeadIs NumFollow) true :=
    (lex_tInt hg n.int).cons (lex_tFrac hg n.frac n.exp).last fun _ h => by
      rw [List.append_assoc]
      exact headIs_fracExp not_digit_46 not_digit_69 not_digit_101 n.frac n.exp (h.mono fun _ h => h.1)
  exact ((lex_minusOpt n.neg).cons hint fun _ _ => by rw [List.append_assoc]; exact intText_head_ne n.int _).seq

/-- **`number` of tests/grammars/json.pest accepts every RFC 8259 number**, as one childless
    pair (the nested atomic rules `int` and `exp` are hidden by the atomic `number`). -/
theorem ev_tNumber (s : S0) (n : Num) {post : Str}
    (hr : RestAt inp s.pos (numText n ++ post)) (hf : HeadIs NumFollow post) :
    Ev g inp (.ident "number" none) s
      (.ok (adv s (numText n).length) [mkPair "number" ATOMIC s.pos (s.pos + (numText n).length) []]) :=
  ((lex_tNumberBody hg n).token hg.number s hr hf).ev

theorem rej_tNumber : Rej g inp (.ident "number" none) (HeadIs fun c => c ≠ 45 ∧ ¬ IsDigit c) :=
  (lx_numberBody_fail (rej_int.lx.token_rej hg.int rfl).lx).token_rej hg.number rfl

end tnumber

/-! ### `string`, `inner`, `char` of examples/json/json.pest

    string = ${ "\"" ~ inner ~ "\"" }     inner = @{ char* }
    char   = { !("\"" | "\\") ~ ANY | "\\" ~ ("\"" | "\\" | "/" | "b" | "f" | "n" | "r" | "t")
             | "\\" ~ ("u" ~ ASCII_HEX_DIGIT{4}) }

    and `string`, `inner`, `escape`, `unicode` of tests/grammars/json.pest

    string  = @{ "\"" ~ inner ~ "\"" }
    inner   = @{ (!("\"" | "\\") ~ ANY)* ~ (escape ~ inner)? }
    escape  = @{ "\\" ~ ("\"" | "\\" | "/" | "b" | "f" | "n" | "r" | "t" | unicode) }
    unicode = @{ "u" ~ ASCII_HEX_DIGIT{4} } -/

def HEX : Expr := .rule "ASCII_HEX_DIGIT" 2 true (.choice [(.range 48 57), (.range 97 102), (.range 65 70)])
def ANY : Expr := .rule "ANY" 2 true .anyB

def exCharBody : Expr :=
  .choice [
    (.seq [(.notP (.group (.choice [(.str [34]), (.str [92])]) none)), ANY]),
    (.seq [(.str [92]), (.group (.choice [(.str [34]), (.str [92]), (.str [47]), (.str [98]), (.str [102]),
      (.str [110]), (.str [114]), (.str [116])]) none)]),
    (.seq [(.str [92]), (.group (.seq [(.str [117]), (.repExact HEX 4)]) none)])]
def exInnerBody : Expr := .rep (.ident "char" none)
def exStringBody : Expr := .seq [(.str [34]), (.ident "inner" none), (.str [34])]

structure ExStringRules (g : Grammar) : Prop where
  string : ∃ k, g.lookup "string" = some { name := "string", mod := 8, body := exStringBody, kind := k }
  inner : ∃ k, g.lookup "inner" = some { name := "inner", mod := 4, body := exInnerBody, kind := k }
  char : ∃ k, g.lookup "char" = some { name := "char", mod := 0, body := exCharBody, kind := k }

def tRawExpr : Expr := .group (.seq [(.notP (.group (.choice [(.str [34]), (.str [92])]) none)), ANY]) none
def tInnerBody : Expr :=
  .seq [(.rep tRawExpr), (.opt (.group (.seq [(.ident "escape" none), (.ident "inner" none)]) none))]
def tEscapeBody : Expr :=
  .seq [(.str [92]), (.group (.choice [(.str [34]), (.str [92]), (.str [47]), (.str [98]), (.str [102]),
    (.str [110]), (.str [114]), (.str [116]), (.ident "unicode" none)]) none)]
def tUnicodeBody : Expr := .seq [(.str [117]), (.repExact HEX 4)]
def tStringBody : Expr := .seq [(.str [34]), (.ident "inner" none), (.str [34])]

/-- `string` has one body in both grammars; what differs is its modifier and the rule `inner` -/
theorem tStringBody_eq : tStringBody = exStringBody := rfl

structure TStringRules (g : Grammar) : Prop where
  string : ∃ k, g.lookup "string" = some { name := "string", mod := 4, body := tStringBody, kind := k }
  inner : ∃ k, g.lookup "inner" = some { name := "inner", mod := 4, body := tInnerBody, kind := k }
  escape : ∃ k, g.lookup "escape" = some { name := "escape", mod := 4, body := tEscapeBody, kind := k }
  unicode : ∃ k, g.lookup "unicode" = some { name := "unicode", mod := 4, body := tUnicodeBody, kind := k }

def escChars : List CP := [34, 92, 47, 98, 102, 110, 114, 116]

theorem esc_mem (e : Esc) : e.cp ∈ escChars := by cases e <;> decide

section chars
variable {F : Str → Prop}

theorem lex_hex (x : Hex) : Lx g inp HEX [x.cp] F true := by
  refine Lx.rule rfl rfl ?_
  cases x with
  | dig d => exact (lex_range (in_range 48 d.isLt)).alt
  | lower k =>
    exact .alt_next ((rej_range 48 57).lx.fail_at fun _ _ =>
        not_in_range_of_lt (Nat.lt_of_lt_of_le (show 57 < 97 by decide) (Nat.le_add_right 97 k.val)))
      (lex_range (in_range 97 k.isLt)).alt
  | upper k =>
    have h57 : 57 < 65 + k.val := Nat.lt_of_lt_of_le (show 57 < 65 by decide) (Nat.le_add_right 65 k.val)
    have h97 : 65 + k.val < 97 := Nat.lt_of_le_of_lt (in_range 65 k.isLt).2 (show 65 + 5 < 97 by decide)
    exact .alt_next ((rej_range 48 57).lx.fail_at fun _ _ => not_in_range_of_lt h57)
      (.alt_next ((rej_range 97 102).lx.fail_at fun _ _ => not_in_range_of_gt h97) (lex_range (in_range 65 k.isLt)).alt)

theorem lex_unicodeBody (a b c d : Hex) :
    Lx g inp (.seq [(.str [117]), (.repExact HEX 4)]) [117, a.cp, b.cp, c.cp, d.cp] F true :=
  ((lex_str 117 []).consT (LxS.repExact (k := 4) (e := HEX)
    ((lex_hex a).consT ((lex_hex b).consT ((lex_hex c).consT (lex_hex d).last)))).last).seq

theorem lex_rawSeq {c : CP} (hc : c ≠ 34 ∧ c ≠ 92) :
    Lx g inp (.seq [(.notP (.group (.choice [(.str [34]), (.str [92])]) none)), ANY]) [c] F true :=
  ((rej_strs' [34, 92]).group.lx.not.cons ((lex_any c).rule rfl rfl).last
    fun _ _ => by show c ∉ [34, 92]; simp [hc.1, hc.2]).seq

theorem rej_any_end : Rej g inp ANY (fun r => r = []) := fun s r hr hh => by
  subst hh
  exact .ruleE (.rule (big_any_fail fun hlt => by simpa [Array.getElem?_eq_getElem hlt] using hr.get_nil))

/-- `!("\"" | "\\") ~ ANY` fails at a quote and at a backslash, where the lookahead matches, and at the end of the
    input, where `ANY` has nothing to take -/
theorem lx_rawSeq_fail :
    Lx g inp (.seq [(.notP (.group (.choice [(.str [34]), (.str [92])]) none)), ANY]) []
      (HeadIs fun c => c = 34 ∨ c = 92) false := fun s r ha hr hh => by
  cases r with
  | nil =>
    exact ((rej_strs' [34, 92]).group.lx.not.cons rej_any_end.lx.last fun _ h => by subst h; exact trivial).seq
      s [] ha hr rfl
  | cons c r =>
    exact (lex_strs (F := fun _ => True) [] [34, 92]
      (show c ∈ [34, 92] by rcases hh with rfl | rfl <;> simp)).group.not_fail.first_fail.seq s r ha hr trivial

end chars

theorem lx_escSeq_fail {c : CP} {Y : Str} {F : Str → Prop} (hc : c ∉ escChars) :
    Lx g inp (.seq [(.str [92]), (.group (.choice (strs1 escChars)) none)]) (92 :: c :: Y) F false :=
  ((lex_str 92 []).consT ((rej_strs' escChars).group.lx.fail_at (X := c :: Y) fun _ _ => hc).last).seq

theorem lex_exCharBody {F : Str → Prop} (c : SChar) : Lx g inp exCharBody c.text F true := by
  have hraw {Y : Str} : Lx g inp _ (92 :: Y) F false := lx_rawSeq_fail.fail_at fun _ _ => Or.inr rfl
  cases c with
  | raw c hc => exact (lex_rawSeq ⟨hc.2.1, hc.2.2.1⟩).alt
  | esc e => exact .alt_next hraw ((lex_str 92 []).consT (lex_strs [] escChars (esc_mem e)).group.last).seq.alt
  | u a b c d =>
    exact .alt_next hraw (.alt_next (lx_escSeq_fail (show (117 : CP) ∉ escChars by decide))
      ((lex_str 92 []).consT (lex_unicodeBody a b c d).group.last).seq.alt)

theorem lx_exCharBody_fail : Lx g inp exCharBody [] (HeadIs fun c => c = 34) false :=
  have h92 {es : List Expr} : Lx g inp (.seq (.str [92] :: es)) [] (HeadIs fun c => c = 34) false :=
    (rej_str 92 []).seq.lx.monoH fun c h => by subst h; decide
  .alt_next (lx_rawSeq_fail.monoH fun _ => Or.inl) (.alt_next h92 (.alt_next h92 lx_choice_nil))

theorem strText_length (cs : SStr) : (strText cs).length = (sstrText cs).length + 2 := by
  simp [strText]

section exstring
variable (hg : ExStringRules g)
include hg

theorem lex_exChar {F : Str → Prop} (c : SChar) : Lx g inp (.ident "char" none) c.text F true :=
  (lex_exCharBody c).ident hg.char rfl rfl

theorem lexR_exChars {F : Str → Prop} (hstop : Lx g inp exCharBody [] F false) :
    ∀ cs : SStr, LxR g inp (.ident "char" none) (sstrText cs) F
  | [] => (hstop.ident hg.char rfl rfl).rep_nil
  | c :: cs => (lex_exChar hg c).rep_cons (lexR_exChars hstop cs)

/-- **`string` accepts every RFC 8259 string.**  From any state, on any input that continues
    with a quoted string as written (raw characters, two-character escapes, `\uXXXX`): the
    pair `string` over the whole token with one childless pair `inner` over the raw source
    slice between the quotes. -/
theorem ev_exString (s : S0) (cs : SStr) {r : Str}
    (h : RestAt inp s.pos (strText cs ++ r)) :
    Ev g inp (.ident "string" none) s
      (.ok (adv s (strText cs).length) [mirrorStr .examples s.pos cs]) := by
  obtain ⟨k1, hls⟩ := hg.string
  have h' : RestAt inp s.pos ([34] ++ (sstrText cs ++ ([34] ++ r))) := by
    simpa [strText, List.append_assoc] using h
  -- `string` is compound-atomic here: its pair keeps the pair of `inner` as a child, and `Out` speaks of hidden pairs
  -- only, so the body is put together by hand around the derivation of `inner`; `ruleWrap_pair` is the pair of a rule
  -- with modifier 8 (children kept), and the closing `simpa` brings the spans into the form `mirrorStr` writes them in
  let sa : S0 := { s with atomic := true }
  have hq1 : Big g inp (.expr (.str [34])) sa (.ok (adv sa 1) []) := big_str1_ok (s := sa) h'
  have hin := (lexR_exChars hg lx_exCharBody_fail cs).rep.token hg.inner (adv sa 1) h'.advance rfl
  have hq2 := big_str1_ok (g := g) (s := adv (adv sa 1) (sstrText cs).length) h'.advance.advance
  have hbody : Big g inp (.expr exStringBody) sa _ :=
    .seqE rfl (.seqMore hq1 (.skipAtomic rfl) (.seqMore hin (.skipAtomic rfl) (.seqLast hq2)))
  have := Big.ident (t := none) hls
    (.rule (n := "string") (m := 8) (s := s) (by rw [ruleAtomic_sets "string" 8 rfl]; exact hbody))
  rw [wrapK, ruleWrap_pair rfl, if_neg (show ¬ hasBit 8 ATOMIC = true from nofun)] at this
  have hev : Ev g inp (.ident "string" none) s _ := this.ev
  rw [strText_length]
  simpa [ATOMIC, COMPOUND, mirrorStr, mkPair, adv, sa, strText_length, Nat.add_assoc, Nat.add_comm 1] using hev

end exstring

def SChar.isRaw : SChar → Bool
  | .raw _ _ => true
  | _ => false

section tstring
variable (hg : TStringRules g)
include hg

theorem lex_tEscape {F : Str → Prop} (c : SChar) (hc : c.isRaw = false) :
    Lx g inp (.ident "escape" none) c.text F true := by
  refine Lx.ident hg.escape rfl rfl ?_
  cases c with
  | raw c hc' => simp [SChar.isRaw] at hc
  | esc e => exact ((lex_str 92 []).consT (lex_strs _ escChars (esc_mem e)).group.last).seq
  | u a b c d =>
    exact ((lex_str 92 []).consT
      (((lex_unicodeBody a b c d).ident hg.unicode rfl rfl).alt.skip_strs escChars (by decide)).group.last).seq

theorem rej_tEscape : Rej g inp (.ident "escape" none) (HeadIs fun c => c ≠ 92) :=
  (rej_str 92 []).seq.ident hg.escape

theorem lex_tInner_of {F : Str → Prop} {X1 X2 : Str} (h92 : HeadIs (fun c => c = 92) X2)
    (h1 : LxR g inp tRawExpr X1 (fun r => HeadIs (fun c => c = 34 ∨ c = 92) r ∨ F r))
    (h2 : Lx g inp (.opt (.group (.seq [(.ident "escape" none), (.ident "inner" none)]) none)) X2 F true) :
    Lx g inp (.ident "inner" none) (X1 ++ X2) F true := by
  refine (h1.rep.cons h2.last fun r hr => ?_).seq.ident hg.inner rfl rfl
  cases X2 with
  | nil => exact Or.inr hr
  | cons c t => exact Or.inl (Or.inr h92)

/-! `inner = raw* ~ (escape ~ inner)?` is right-recursive: the text of a string body is split at its first escape into
    `X1` (raw characters: the loop) and `X2` (empty, or that escape and a string body again: the option).
    `lex_tInnerParts` produces the split together with the two derivations, by induction on the characters: a raw
    character in front lengthens `X1`; an escape in front makes the whole text so far the new `X2`, with the rule
    `inner` (`lex_tInner_of`) closed over the old split.  `F` is where neither a raw character nor an escape starts:
    the closing quote, or where a truncated input ends (Lemmas/JsonPrefixLex.lean). -/

section inner
variable {F : Str → Prop} (hraw : Lx g inp tRawExpr [] F false) (hesc : Lx g inp (.ident "escape" none) [] F false)
include hraw hesc

theorem lex_tInnerParts : ∀ cs : SStr, ∃ X1 X2, sstrText cs = X1 ++ X2 ∧ HeadIs (fun c => c = 92) X2 ∧
    LxR g inp tRawExpr X1 (fun r => HeadIs (fun c => c = 34 ∨ c = 92) r ∨ F r) ∧
    Lx g inp (.opt (.group (.seq [(.ident "escape" none), (.ident "inner" none)]) none)) X2 F true
  | [] => ⟨[], [], rfl, trivial, (lx_rawSeq_fail.group.or hraw).rep_nil, hesc.first_fail.seq.group.opt_none⟩
  | c :: cs => by
    obtain ⟨X1, X2, e, h92, h1, h2⟩ := lex_tInnerParts cs
    cases hc : c.isRaw with
    | true =>
      cases c with
      | raw c h =>
        exact ⟨c :: X1, X2, by simp [sstrText, SChar.text, e], h92, (lex_rawSeq ⟨h.2.1, h.2.2.1⟩).group.rep_cons h1, h2⟩
      | esc x => cases hc
      | u a b c d => cases hc
    | false =>
      refine ⟨[], c.text ++ sstrText cs, rfl, ?_, (lx_rawSeq_fail.group.or hraw).rep_nil,
        ((lex_tEscape hg c hc).consT (e ▸ lex_tInner_of hg h92 h1 h2).last).seq.group.opt⟩
      cases c with
      | raw _ _ => cases hc
      | esc _ => exact rfl
      | u _ _ _ _ => exact rfl

theorem lex_tInner (cs : SStr) : Lx g inp (.ident "inner" none) (sstrText cs) F true := by
  obtain ⟨X1, X2, e, h92, h1, h2⟩ := lex_tInnerParts hg hraw hesc cs
  exact e ▸ lex_tInner_of hg h92 h1 h2

end inner

/-- **`string` of tests/grammars/json.pest accepts every RFC 8259 string**, as one childless
    pair spanning the quotes (the raw source slice is the span minus the quotes). -/
theorem ev_tString (s : S0) (cs : SStr) {r : Str}
    (h : RestAt inp s.pos (strText cs ++ r)) :
    Ev g inp (.ident "string" none) s (.ok (adv s (strText cs).length) [mirrorStr .tests s.pos cs]) := by
  have hin : Lx g inp (.ident "inner" none) (sstrText cs) (HeadIs fun c => c = 34) true :=
    lex_tInner hg (lx_rawSeq_fail.group.monoH fun _ => Or.inl)
      ((rej_tEscape hg).lx.monoH fun c h => by subst h; decide) cs
  exact (((lex_str 34 []).consT (hin.cons (lex_str 34 []).last fun _ _ => rfl)).seq.token
    (F := fun _ => True) hg.string s h trivial).ev

end tstring

/-! Not used: the choice of `escape` in the form `lex_strs`/`Lx.skip_strs` find by computation, and the split of a string
    body at its first escape as a function (`lex_tInnerParts` produces the split together with the derivation). -/

theorem escChoice_eq :
    [(Expr.str [34]), (.str [92]), (.str [47]), (.str [98]), (.str [102]), (.str [110]), (.str [114]),
      (.str [116]), (.ident "unicode" none)] = strs1 escChars ++ [.ident "unicode" none] := rfl

def spanRaw : SStr → Nat × SStr
  | .raw c h :: cs => ((spanRaw cs).1 + 1, (spanRaw cs).2)
  | cs => (0, cs)

theorem spanRaw_nonraw (c : SChar) (cs : SStr) (h : c.isRaw = false) : spanRaw (c :: cs) = (0, c :: cs) := by
  cases c with
  | raw _ _ => cases h
  | esc _ => rfl
  | u _ _ _ _ => rfl

end Json
end Pest
