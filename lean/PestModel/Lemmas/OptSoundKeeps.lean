/-
  Lemmas/OptSoundKeeps.lean — what `Opt.optimize` keeps, beyond the meaning (C02): `C07.callable`
  (no hypothesis), `C07.GenShape` and, backwards, `C06.GTagOK` (both under `OptS.WF g`).
-/
import PestModel.Lemmas.OptSoundFinal
import PestModel.Props.C07
import PestModel.Props.C06

namespace Pest
namespace OptS

open L0

theorem callable_of_sig3 {g g' : Grammar} {n : String}
    (h : (g'.lookup n).map (fun r => (r.name, r.mod, r.kind)) = (g.lookup n).map (fun r => (r.name, r.mod, r.kind))) :
    C07.callable g' n = C07.callable g n := by
  -- `callable` reads only the name and the kind of the rule looked up
  have key : ∀ g : Grammar, C07.callable g n =
      ((g.lookup n).map fun r => (r.name, r.mod, r.kind)).elim false
        fun x => !(x.2.2 == .builtin && x.1 != "EOI") := by
    intro g
    unfold C07.callable
    cases g.lookup n <;> rfl
  rw [key g', key g, h]

theorem optimizer_keeps_callable {g g' : Grammar} {passes : List Opt.Pass}
    (h : Opt.optimize g passes = some g') (n : String) (hc : C07.callable g n = true) :
    C07.callable g' n = true := by
  rcases optimize_keeps_kind h n with h1 | ⟨rfl, hns, _⟩
  · rw [callable_of_sig3 h1]; exact hc
  · unfold C07.callable at hc; rw [hns] at hc; cases hc

theorem callable_defined {g g' : Grammar} {passes : List Opt.Pass}
    (h : Opt.optimize g passes = some g') (n : String)
    (hold : (g.lookup n).isSome = true → C07.callable g n = true)
    (hd : (g'.lookup n).isSome = true) : C07.callable g' n = true := by
  rcases optimize_keeps_kind h n with h1 | ⟨rfl, hns, h1⟩
  · rw [callable_of_sig3 h1]
    apply hold
    cases h2 : g.lookup n with
    | some _ => rfl
    | none => rw [h2] at h1; cases h3 : g'.lookup n <;> rw [h3] at h1 hd <;> simp at h1 hd
  · unfold C07.callable
    cases h3 : g'.lookup "SKIP" with
    | none => rw [h3] at hd; cases hd
    | some r =>
      rw [h3] at h1
      simp only [Option.map_some, Option.some.injEq, Prod.mk.injEq] at h1
      simp [h1.2.2]

def shapeNode (g : Grammar) : Expr → Bool
  | .ident n _ => C07.callable g n
  | .rule name mod _ _ => !(name == "EOI" || !hasBit mod SILENT || L1.ruleScoped name mod)
  | _ => true

theorem shapeOkL_eq (g : Grammar) : ∀ es, C07.shapeOkL g es = allC (C07.shapeOk g) es :=
  eq_allC rfl fun _ _ => rfl

theorem shapeOk_eq (g : Grammar) (e : Expr) :
    C07.shapeOk g e = (shapeNode g e && allC (C07.shapeOk g) (Opt.children e)) := by
  cases e
  case seq es | choice es => exact shapeOkL_eq g es
  case ident => exact (Bool.and_true _).symm
  all_goals rfl

theorem shapeOk_iff (g : Grammar) (e : Expr) :
    C07.shapeOk g e = true ↔ shapeNode g e = true ∧ ∀ c ∈ Opt.children e, C07.shapeOk g c = true :=
  iff_children_of_eq (shapeOk_eq g) e

/-- `shapeOk` only reads `callable` -/
theorem shapeOk_mono {g g' : Grammar} (hc : ∀ n, C07.callable g n = true → C07.callable g' n = true)
    (e : Expr) : C07.shapeOk g e = true → C07.shapeOk g' e = true := by
  induction e using Expr.children_ind with
  | _ e ih =>
    rw [shapeOk_iff, shapeOk_iff]
    refine fun h => ⟨?_, fun c hm => ih c hm (h.2 c hm)⟩
    cases e with
    | ident n t => exact hc n h.1
    | _ => exact h.1

theorem shapeOkL_mono {g g' : Grammar} (hc : ∀ n, C07.callable g n = true → C07.callable g' n = true) :
    ∀ (es : List Expr), C07.shapeOkL g es = true → C07.shapeOkL g' es = true :=
  fun es h => (C07.shapeOkL_iff g' es).2 fun e he => shapeOk_mono hc e ((C07.shapeOkL_iff g es).1 h e he)

theorem shape_kept (F : Feat) (g : Grammar) : Kept F (fun e => C07.shapeOk g e = true) := by
  intro G a e e' h hG
  refine h.keeps (shapeOk_iff g) (fun _ _ _ h => ?_) (fun _ => rfl) (fun _ => rfl) (fun _ => rfl)
    (fun _ _ _ => rfl) (fun _ => rfl) (fun n r hl _ _ => hG n r hl)
  cases h with
  | term _ | ident | rule | ruleC _ _ => exact id
  | _ => exact fun _ => rfl

theorem optimizer_keeps_genShape {g g' : Grammar} (hwf : WF g) {passes : List Opt.Pass}
    (hp : ∀ p ∈ passes, p ∈ Opt.defaultPasses) (h : Opt.optimize g passes = some g')
    (hg : C07.GenShape g) : C07.GenShape g' := by
  have hall := (optimize_sound hwf passes hp (shape_kept Fall g)
    (fun e he => by simpa [C07.shapeOk] using he) (fun _ => rfl) hg.bodies h).2.2
  refine ⟨fun r hr => shapeOk_mono (fun n => optimizer_keeps_callable h n) _ (hall r hr), ?_⟩
  intro n hn hd
  exact callable_defined h n (hg.trivia n hn) hd

def tagNode (T : String → Prop) : Expr → Prop
  | .ident _ (some t) => T t
  | .group _ (some t) => T t
  | _ => True

theorem reach_children {g : Grammar} {e0 x : Expr} (h : Reach g e0 x) : ∀ c ∈ Opt.children x, Reach g e0 c := by
  intro c hc
  cases x <;> simp only [Opt.children, List.mem_singleton, List.not_mem_nil] at hc
  case rule => subst hc; exact .rule h
  case seq => exact .seq h hc
  case choice => exact .choice h hc
  case opt => subst hc; exact .opt h
  case rep => subst hc; exact .rep h
  case rep1 => subst hc; exact .rep1 h
  case repExact => subst hc; exact .repExact h
  case repMin => subst hc; exact .repMin h
  case repMax => subst hc; exact .repMax h
  case repMinMax => subst hc; exact .repMinMax h
  case andP => subst hc; exact .andP h
  case notP => subst hc; exact .notP h
  case group => subst hc; exact .group h
  case push => subst hc; exact .push h

theorem bodies_tagNode (g : Grammar) : ∀ r ∈ g.rules, AllN (tagNode (C06.GTagOK g)) r.body := by
  intro r hr
  refine allN_of_closed (S := Reach g (.seq [])) (fun x hx => reach_children hx) (fun x hx => ?_) r.body (.body hr)
  cases x with
  | ident n t =>
    cases t with
    | none => trivial
    | some t => exact Or.inl ⟨n, hx⟩
  | group e t =>
    cases t with
    | none => trivial
    | some t => exact Or.inr ⟨e, hx⟩
  | _ => trivial

theorem allN_sub {g : Grammar} {P : Expr → Prop} (hb : ∀ r ∈ g.rules, AllN P r.body)
    {e0 x : Expr} (hx : Sub g e0 x) (h0 : AllN P e0) : AllN P x := by
  induction hx with
  | root => exact h0
  | body hr => exact hb _ hr
  | seq _ hm ih => exact AllNL.mem ih.2 _ hm
  | choice _ hm ih => exact AllNL.mem ih.2 _ hm
  | opt _ ih => exact ih.2
  | rep _ ih => exact ih.2
  | rep1 _ ih => exact ih.2
  | repExact _ ih => exact ih.2
  | repMin _ ih => exact ih.2
  | repMax _ ih => exact ih.2
  | repMinMax _ ih => exact ih.2
  | andP _ ih => exact ih.2
  | notP _ ih => exact ih.2
  | group _ ih => exact ih.2
  | push _ ih => exact ih.2
  | rule _ ih => exact ih.2

/-- no rewrite writes a tag: `inline_silent_rules` only replaces untagged references, `unroll`
    peels untagged groups only, the other passes copy sub-trees or make tag-less leaves -/
theorem tag_kept (F : Feat) (T : String → Prop) : Kept F (AllN (tagNode T)) := by
  intro G a e e' h hG
  refine h.keeps AllN_iff (fun _ _ _ h => ?_) (fun _ => trivial) (fun _ => trivial) (fun _ => trivial)
    (fun _ _ _ => trivial) (fun _ => trivial) (fun n r hl _ _ => hG n r hl)
  cases h with
  | term _ | ident | rule => exact id
  | @group _ _ t _ => cases t <;> exact id
  | _ => exact fun _ => trivial

theorem optimizer_keeps_tags {g g' : Grammar} (hwf : WF g) {passes : List Opt.Pass}
    (hp : ∀ p ∈ passes, p ∈ Opt.defaultPasses) (h : Opt.optimize g passes = some g')
    (t : String) (ht : C06.GTagOK g' t) : C06.GTagOK g t := by
  have hall := (optimize_sound hwf passes hp (tag_kept Fall (C06.GTagOK g))
    (fun e he => ⟨trivial, he⟩) (fun _ => trivial) (bodies_tagNode g) h).2.2
  rcases ht with ⟨nm, hr⟩ | ⟨e, hr⟩
  · exact (allN_sub hall hr.ident_sub ⟨trivial, trivial⟩).root
  · exact (allN_sub hall hr.group_sub ⟨trivial, trivial⟩).1

end OptS
end Pest
