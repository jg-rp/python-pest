/-
  Lemmas/FrontParseAst.lean — the parser half of the C10 round trip: on tokens whose kinds and
  values are those of a well-formed source-level AST the grammar parser returns what the AST denotes.
  Instances of Lemmas/FrontCstParse.lean: the AST's own items are the tokens of a C-tree above it
  (a term or an expression: `IG.term_g2`, `IG.expr_g2` at the items themselves, which respell
  themselves by `IG.act_of_canon`; a grammar: the C-tree of its printed text, `IG.ctree_of_text` at
  `TRT.grammarText_pretty` of Lemmas/FrontPrintText.lean).  Neither half of the scanner
  proof (Lemmas/FrontAcc*.lean, Lemmas/FrontInvScan.lean) is in its import closure.
-/
import PestModel.Lemmas.FrontCstParse
import PestModel.Lemmas.FrontCstGlue
import PestModel.Lemmas.FrontPrintText

namespace Pest
namespace Front
namespace PRT

/-- `IP.RecOK` (Lemmas/FrontCstParse.lean) read on source-level trees: its two `Reads` fields with `abs`
    applied — a well-formed tree is the `abs` of the C-tree above its own items (`term_ctree`,
    `expr_ctree`); the third field, `chain`, serves only the proof of `IP.recOK`. -/
structure RecOK (b : List String) (rec : Nat → P Expr) (bound : Nat) : Prop where
  term : ∀ (t : STerm), t.WF → t.kv.length < bound → ∀ {eof : Token},
    IP.Reads eof (rec PRECEDENCE_PREFIX) t.kv TermEnd (some (t.den b))
  full : ∀ (p : Nat), p ≤ PRECEDENCE_CHOICE → ∀ (bar : Bool) (e : SExpr), e.WF →
    (barKV bar ++ e.kv).length < bound → ∀ {eof : Token},
    IP.Reads eof (rec p) (barKV bar ++ e.kv) Closer (some (e.den b))

theorem term_ctree (t : STerm) (h : t.WF) : ∃ ct : CTerm, ct.abs = some t ∧ ct.kv = t.kv :=
  IG.term_g2 t (IG.term_wf' t h) t.kv (IG.act_of_canon (IG.term_canon' t))

theorem expr_ctree (e : SExpr) (h : e.WF) : ∃ ce : CExpr, ce.abs = some e ∧ ce.kv = e.kv :=
  (IG.expr_g2 e (IG.expr_wf' e h) e.kv (IG.act_of_canon (IG.expr_canon' e))).imp fun _ hce => ⟨hce.1, hce.2.1⟩

/-- **`parse_expression` reads every well-formed term and expression** (fuel above the token
    count) -/
theorem recOK (b : List String) : ∀ fuel, RecOK b (parseExpression b fuel) fuel := by
  intro fuel
  refine ⟨?_, ?_⟩
  · intro t hwf hlen eof
    obtain ⟨ct, hct, hkv⟩ := term_ctree t hwf
    rw [← hkv] at hlen ⊢
    exact ((IP.recOK b fuel).term ct hlen).cast (by rw [hct]; rfl)
  · intro p hp bar e hwf hlen eof
    obtain ⟨ce, hce, hkv⟩ := expr_ctree e hwf
    rw [← hkv] at hlen ⊢
    exact ((IP.recOK b fuel).full p hp bar ce hlen).cast (by rw [hce]; rfl)

/-- **the parser half of the round trip**: on any token list whose kinds and values are those of
    a well-formed source-level grammar, `Parser(tokens, builtins).parse()` returns the rule table
    and the grammar doc the grammar denotes -/
theorem parseTokens_roundtrip (b : List String) (g : SGrammar) (hwf : g.WF) (eof : Token)
    (heof : eof.kind = .eoi) (ts : List Token) (h : tokKV ts = g.kv) :
    parseTokens b eof ts = .ok (g.den b) [] := by
  obtain ⟨c, hc, -, -, -, hkv⟩ := IG.ctree_of_text hwf (TRT.grammarText_pretty g)
  exact IP.parse_of_abs (h.trans hkv.symm) heof hc

end PRT
end Front
end Pest
