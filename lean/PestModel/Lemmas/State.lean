/-
  Lemmas/State.lean — `ParserState.checkpoint/ok/restore` act on position, user stack,
  rule stack and atomic depth in lock-step, like a stack of full copies (`RState`).
-/
import PestModel.State
import PestModel.Lemmas.Stack

namespace Pest
open DStack

def zip4 : List Nat → List (List Str) → List (List String) → List Int → List RSnap
  | p :: ps, u :: us, r :: rs, a :: as => ⟨p, u, r, a⟩ :: zip4 ps us rs as
  | _, _, _, _ => []

namespace PState

def absP (c : PState) : RState :=
  ⟨⟨c.pos, c.ustack.items, c.rstack.items, c.adepth.val⟩,
   zip4 c.posHist (snapsOf c.ustack) (snapsOf c.rstack) c.adepth.snaps⟩

structure CkInv (c : PState) : Prop where
  u : Inv c.ustack
  r : Inv c.rstack
  lu : c.ustack.lengths.length = c.posHist.length
  lr : c.rstack.lengths.length = c.posHist.length
  la : c.adepth.snaps.length = c.posHist.length

theorem ckInv_init (k : Nat) : CkInv (init k) :=
  ⟨inv_empty, inv_empty, rfl, rfl, rfl⟩

end PState

theorem SnapInt.restore_snaps (s : SnapInt) : s.restore.snaps = s.snaps.tail := by
  cases s with
  | mk v l => cases l <;> rfl

theorem SnapInt.restore_val (s : SnapInt) : s.restore.val = s.snaps.headD 0 := by
  cases s with
  | mk v l => cases l <;> rfl

namespace PState

theorem tail_length_eq {β γ : Type} {l : List β} {l' : List γ} (h : l.length = l'.length) :
    l.tail.length = l'.tail.length := by
  rw [List.length_tail, List.length_tail, h]

theorem ckInv_apply (c : PState) (op : StateOp) (h : CkInv c) : CkInv (c.applyOp op) := by
  obtain ⟨hu, hr, lu, lr, la⟩ := h
  cases op with
  | setPos p => exact ⟨hu, hr, lu, lr, la⟩
  | upush x => exact ⟨inv_push _ x hu, hr, lu, lr, la⟩
  | upop =>
    dsimp only [applyOp]
    cases hp : c.ustack.pop with
    | none => exact ⟨hu, hr, lu, lr, la⟩
    | some q =>
      have k := pop_keeps _ hu hp
      exact ⟨k.inv, hr, k.len.trans lu, lr, la⟩
  | uclear =>
    have k := clear_keeps _ hu
    exact ⟨k.inv, hr, k.len.trans lu, lr, la⟩
  | rpush x => exact ⟨hu, inv_push _ x hr, lu, lr, la⟩
  | rpop =>
    dsimp only [applyOp]
    cases hp : c.rstack.pop with
    | none => exact ⟨hu, hr, lu, lr, la⟩
    | some q =>
      have k := pop_keeps _ hr hp
      exact ⟨hu, k.inv, lu, k.len.trans lr, la⟩
  | aadd k => exact ⟨hu, hr, lu, lr, la⟩
  | azero => exact ⟨hu, hr, lu, lr, la⟩
  | checkpoint =>
    exact ⟨inv_snapshot _ hu, inv_snapshot _ hr, congrArg (· + 1) lu, congrArg (· + 1) lr,
      congrArg (· + 1) la⟩
  | ok =>
    have ku := dropSnap_keeps _ hu
    have kr := dropSnap_keeps _ hr
    exact ⟨ku.inv, kr.inv,
      ku.len.trans ((congrArg List.length (restore_lengths _)).trans (tail_length_eq lu)),
      kr.len.trans ((congrArg List.length (restore_lengths _)).trans (tail_length_eq lr)),
      tail_length_eq la⟩
  | restore =>
    exact ⟨inv_restore _ hu, inv_restore _ hr,
      (congrArg List.length (restore_lengths _)).trans (tail_length_eq lu),
      (congrArg List.length (restore_lengths _)).trans (tail_length_eq lr),
      (congrArg List.length (SnapInt.restore_snaps _)).trans (tail_length_eq la)⟩

@[elab_as_elim]
theorem zip4_cases {α β γ δ : Type} {motive : List α → List β → List γ → List δ → Prop}
    (nil : motive [] [] [] []) (cons : ∀ a as b bs c cs d ds, motive (a :: as) (b :: bs) (c :: cs) (d :: ds))
    {A : List α} {B : List β} {C : List γ} {D : List δ}
    (hB : B.length = A.length) (hC : C.length = A.length) (hD : D.length = A.length) :
    motive A B C D := by
  cases A with
  | nil =>
    cases List.eq_nil_of_length_eq_zero hB
    cases List.eq_nil_of_length_eq_zero hC
    cases List.eq_nil_of_length_eq_zero hD
    exact nil
  | cons a as =>
    cases B with
    | nil => cases hB
    | cons b bs => cases C with
      | nil => cases hC
      | cons c cs => cases D with
        | nil => cases hD
        | cons d ds => exact cons ..

theorem zip4_tail {A : List Nat} {B : List (List Str)} {C : List (List String)} {D : List Int}
    (hB : B.length = A.length) (hC : C.length = A.length) (hD : D.length = A.length) :
    zip4 A.tail B.tail C.tail D.tail = (zip4 A B C D).tail :=
  zip4_cases rfl (fun _ _ _ _ _ _ _ _ => rfl) hB hC hD

theorem restore_zip4 (cur : RSnap) {A : List Nat} {B : List (List Str)} {C : List (List String)}
    {D : List Int} (hB : B.length = A.length) (hC : C.length = A.length) (hD : D.length = A.length) :
    RState.applyOp ⟨cur, zip4 A B C D⟩ .restore
      = ⟨⟨A.headD cur.pos, B.headD [], C.headD [], D.headD 0⟩, zip4 A.tail B.tail C.tail D.tail⟩ :=
  zip4_cases rfl (fun _ _ _ _ _ _ _ _ => rfl) hB hC hD

theorem absP_apply (c : PState) (op : StateOp) (h : CkInv c) :
    absP (c.applyOp op) = (absP c).applyOp op := by
  obtain ⟨hu, hr, lu, lr, la⟩ := h
  cases op with
  | setPos p => rfl
  | upush x => simp only [applyOp, absP, RState.applyOp, snapsOf_push _ x hu, push_items]
  | upop =>
    simp only [applyOp]
    cases hp : c.ustack.pop with
    | none => simp only [absP, RState.applyOp, items_of_pop_none hp, List.tail_nil]
    | some q =>
      obtain ⟨s1, s2⟩ := snapsOf_pop _ hu hp
      simp only [absP, RState.applyOp, s1, s2]
  | uclear =>
    obtain ⟨s1, s2⟩ := snapsOf_clear _ hu
    simp only [applyOp, absP, RState.applyOp, s1, s2]
  | rpush x => simp only [applyOp, absP, RState.applyOp, snapsOf_push _ x hr, push_items]
  | rpop =>
    simp only [applyOp]
    cases hp : c.rstack.pop with
    | none => simp only [absP, RState.applyOp, items_of_pop_none hp, List.tail_nil]
    | some q =>
      obtain ⟨s1, s2⟩ := snapsOf_pop _ hr hp
      simp only [absP, RState.applyOp, s1, s2]
  | aadd k => rfl
  | azero => rfl
  | checkpoint =>
    simp only [applyOp, absP, RState.applyOp, checkpoint, snapsOf_snapshot, SnapInt.snapshot, zip4,
      snapshot_items]
  | ok =>
    simp only [applyOp, absP, RState.applyOp, ok, snapsOf_dropSnap _ hu, snapsOf_dropSnap _ hr,
      SnapInt.drop, zip4_tail ((snapsOf_length _).trans lu) ((snapsOf_length _).trans lr) la,
      dropSnap_items]
  | restore =>
    have e := restore_zip4 (absP c).cur ((snapsOf_length _).trans lu) ((snapsOf_length _).trans lr) la
    simp only [absP] at e
    simp only [applyOp, absP, e, restore, restore_items, snapsOf_restore, SnapInt.restore_snaps,
      SnapInt.restore_val]

end PState
end Pest
