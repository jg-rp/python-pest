/-
  Lemmas/Frame.lean — the checkpoint discipline of `ParserState`, and that every call of the
  interpreter model keeps it.  Both comparisons rest on this file and on nothing of each other:
  L1 against the specification (Lemmas/Refine.lean) and the generated code against L1
  (Lemmas/GenEq.lean).

  `Pre c`     what every call of an expression can rely on: both stacks are well-formed
              (C09's invariant), we are inside some rule, the atomic depth is not negative.
  `Frame c c'` what every call guarantees, *whether it matched or not*: the saved
              checkpoints of all four components are untouched, the rule stack and the
              atomic depth are back to what they were, the stacks are still well-formed.
              (The current position and user stack are unconstrained: after a failure they
              are garbage until a catcher restores.)
  Two lemmas carry the discipline: `checkpoint` then a framed run then `ok` is a framed run
  (`ok_after`); `checkpoint`, framed run, `restore` gives back exactly the position, user
  stack, rule stack and atomic depth of the start (`restore_after`).  Each also says what the
  operation does to `abs0 c`, what L0 sees of a state, for Lemmas/Refine.lean.
  That every call keeps its frame is an instance of the traversal of Lemmas/Kit.lean (`frameKit`,
  `frameBal_run`).  POP_ALL, the one terminal that loops, is an equation (`popAllLoop_full`):
  the end state is an explicit term in the start state, from which both comparisons read what
  they need (`popAll_rel` for Refine; GenEq uses the equation itself).
-/
import PestModel.Spec
import PestModel.Lemmas.Prim
import PestModel.Lemmas.Kit

namespace Pest
open DStack
open FailPos (namesOK)

/-- what L0 sees of a parser state -/
def abs0 (c : PState) : S0 := ⟨c.pos, c.ustack.items, decide (c.adepth.val > 0)⟩

structure Pre (c : PState) : Prop where
  iu : Inv c.ustack
  ir : Inv c.rstack
  rne : c.rstack.items ≠ []
  anon : 0 ≤ c.adepth.val

/-- `Pre` without "inside some rule": what holds of a fresh `ParserState` -/
structure PreW (c : PState) : Prop where
  iu : Inv c.ustack
  ir : Inv c.rstack
  anon : 0 ≤ c.adepth.val

theorem Pre.weak {c : PState} (p : Pre c) : PreW c := ⟨p.iu, p.ir, p.anon⟩

theorem Pre.of_eq {c c' : PState} (p : Pre c) (hu : c'.ustack = c.ustack := by rfl)
    (hr : c'.rstack = c.rstack := by rfl) (ha : c'.adepth = c.adepth := by rfl) : Pre c' :=
  ⟨hu ▸ p.iu, hr ▸ p.ir, hr ▸ p.rne, ha ▸ p.anon⟩

theorem preW_init (k : Nat) : PreW (PState.init k) :=
  ⟨inv_empty, inv_empty, by simp [PState.init, SnapInt.zero0]⟩

structure Frame (c c' : PState) : Prop where
  ph : c'.posHist = c.posHist
  us : snapsOf c'.ustack = snapsOf c.ustack
  rs : snapsOf c'.rstack = snapsOf c.rstack
  as : c'.adepth.snaps = c.adepth.snaps
  av : c'.adepth.val = c.adepth.val
  ri : c'.rstack.items = c.rstack.items
  iu : Inv c'.ustack
  ir : Inv c'.rstack

namespace Frame

theorem refl {c : PState} (h : Pre c) : Frame c c :=
  ⟨rfl, rfl, rfl, rfl, rfl, rfl, h.iu, h.ir⟩

theorem trans {a b c : PState} (h1 : Frame a b) (h2 : Frame b c) : Frame a c :=
  ⟨h2.ph.trans h1.ph, h2.us.trans h1.us, h2.rs.trans h1.rs, h2.as.trans h1.as,
   h2.av.trans h1.av, h2.ri.trans h1.ri, h2.iu, h2.ir⟩

theorem pre {c c' : PState} (h : Frame c c') (p : Pre c) : Pre c' :=
  ⟨h.iu, h.ir, by rw [h.ri]; exact p.rne, by rw [h.av]; exact p.anon⟩

theorem of_eq {c c' : PState} (p : Pre c) (h1 : c'.posHist = c.posHist := by rfl)
    (h2 : c'.ustack = c.ustack := by rfl) (h3 : c'.rstack = c.rstack := by rfl)
    (h4 : c'.adepth = c.adepth := by rfl) : Frame c c' :=
  ⟨h1, by rw [h2], by rw [h3], by rw [h4], by rw [h4], by rw [h3], by rw [h2]; exact p.iu,
   by rw [h3]; exact p.ir⟩

theorem setUstack {c d : PState} (f : Frame c d) {us : DStack Str}
    (hs : snapsOf us = snapsOf d.ustack) (hi : Inv us) : Frame c { d with ustack := us } :=
  ⟨f.ph, hs.trans f.us, f.rs, f.as, f.av, f.ri, hi, f.ir⟩

theorem push {c d : PState} (f : Frame c d) (x : Str) : Frame c { d with ustack := d.ustack.push x } :=
  f.setUstack (snapsOf_push _ _ f.iu) (inv_push _ _ f.iu)

theorem pop {c d : PState} (f : Frame c d) {x : Str} {us : DStack Str} (hp : d.ustack.pop = some (x, us)) :
    Frame c { d with ustack := us } :=
  f.setUstack (snapsOf_pop _ f.iu hp).1 (inv_pop _ f.iu hp)

theorem setTag {c d : PState} (f : Frame c d) (ts : List String) :
    Frame c { d with tagStack := ts } :=
  ⟨f.ph, f.us, f.rs, f.as, f.av, f.ri, f.iu, f.ir⟩

end Frame

theorem fail_same {c c' : PState} {rn : Option String} {force : Bool} {pa : Option Nat}
    (h : c.fail rn force pa = some c') :
    c'.pos = c.pos ∧ c'.posHist = c.posHist ∧ c'.ustack = c.ustack ∧ c'.rstack = c.rstack ∧
    c'.adepth = c.adepth ∧ c'.negDepth = c.negDepth ∧ c'.tagStack = c.tagStack ∧
    c'.suppress = c.suppress := by
  obtain ⟨_, _, _, rfl⟩ := fail_eq h
  exact ⟨rfl, rfl, rfl, rfl, rfl, rfl, rfl, rfl⟩

theorem fail_isSome {c : PState} (hne : c.rstack.items ≠ []) (rn : Option String) (force : Bool) :
    ∃ c', c.fail rn force = some c' := by
  have hh : ∃ n, c.rstack.items.head? = some n := by
    cases hi : c.rstack.items with
    | nil => exact absurd hi hne
    | cons x _ => exact ⟨x, rfl⟩
  obtain ⟨n, hn⟩ := hh
  have : ∃ nm, c.failName rn = some nm := by
    unfold PState.failName
    cases rn with
    | none => exact ⟨n, hn⟩
    | some m => by_cases hm : m.isEmpty = true <;> simp [hm, hn]
  obtain ⟨nm, hnm⟩ := this
  unfold PState.fail
  by_cases hs : ((c.negDepth > 0 && !force) || c.suppress) = true
  · exact ⟨c, by simp [hs]⟩
  · exact ⟨c.failRecord nm (c.failPos none), by simp [hs, hnm]⟩

theorem fail_frame {c c' : PState} {rn : Option String} {force : Bool} {pa : Option Nat}
    (p : Pre c) (h : c.fail rn force pa = some c') : Frame c c' ∧ abs0 c' = abs0 c := by
  obtain ⟨h0, h1, h2, h3, h4, h5, _, _⟩ := fail_same h
  exact ⟨Frame.of_eq p h1 h2 h3 h4, by simp [abs0, h0, h2, h4]⟩

/-- inside a rule `fail()` finds a name to record under: a terminal that fails answers
    `done false`, it does not raise -/
theorem failT_inside {c : PState} (hne : c.rstack.items ≠ []) :
    ∃ c', c.fail none false = some c' ∧ L1.failT c = .done false c' [] := by
  obtain ⟨c', hc⟩ := fail_isSome hne none false
  refine ⟨c', hc, ?_⟩
  unfold L1.failT
  rw [hc]

theorem abs0_checkpoint (c : PState) : abs0 c.checkpoint = abs0 c := rfl

theorem pre_checkpoint {c : PState} (p : Pre c) : Pre c.checkpoint :=
  ⟨inv_snapshot _ p.iu, inv_snapshot _ p.ir, p.rne, p.anon⟩

theorem DStack.restore_of_snaps {α} {d d1 : DStack α} (h : snapsOf d1 = snapsOf d.snapshot) :
    d1.restore.items = d.items ∧ snapsOf d1.restore = snapsOf d := by
  have := abs_restore d1
  simp only [DStack.abs, RStack.restore, h, snapsOf_snapshot, RStack.mk.injEq] at this
  exact this

theorem DStack.dropSnap_of_snaps {α} {d d1 : DStack α} (h : snapsOf d1 = snapsOf d.snapshot)
    (hi : Inv d1) : snapsOf d1.dropSnap = snapsOf d := by
  rw [snapsOf_dropSnap _ hi, h, snapsOf_snapshot]
  rfl

theorem ok_after {c c1 : PState} (f : Frame c.checkpoint c1) :
    Frame c c1.ok ∧ abs0 c1.ok = abs0 c1 := by
  have hr : c1.rstack.items = c.rstack.items := f.ri
  have ha : c1.adepth.snaps = c.adepth.val :: c.adepth.snaps := f.as
  have hp : c1.posHist = c.pos :: c.posHist := f.ph
  exact ⟨⟨by simp [PState.ok, hp], DStack.dropSnap_of_snaps f.us f.iu,
      DStack.dropSnap_of_snaps f.rs f.ir, by simp [PState.ok, SnapInt.drop, ha], f.av,
      (dropSnap_items _).trans hr, inv_dropSnap _ f.iu, inv_dropSnap _ f.ir⟩,
    by simp [abs0, PState.ok, dropSnap_items, SnapInt.drop]⟩

theorem restore_after {c c1 : PState} (f : Frame c.checkpoint c1) :
    Frame c c1.restore ∧ abs0 c1.restore = abs0 c := by
  obtain ⟨ui, us⟩ := DStack.restore_of_snaps f.us
  obtain ⟨ri, rs⟩ := DStack.restore_of_snaps f.rs
  have ha : c1.adepth.snaps = c.adepth.val :: c.adepth.snaps := f.as
  have hp : c1.posHist = c.pos :: c.posHist := f.ph
  exact ⟨⟨by simp [PState.restore, hp], us, rs, by simp [PState.restore, SnapInt.restore, ha],
      by simp [PState.restore, SnapInt.restore, ha], ri, inv_restore _ f.iu, inv_restore _ f.ir⟩,
    by simp [abs0, PState.restore, hp, ui, SnapInt.restore, ha]⟩

/-- `en` is the state a rule's body starts in when the rule is called in `c`: its name on the
    rule stack; the atomic depth saved and set if the modifier opens a scope (`L1.ruleScoped`),
    as it was otherwise, which L0 sees as `L0.ruleAtomic`; saved positions and user stack as in `c` -/
structure Entered (name : String) (mod : Nat) (c en : PState) : Prop where
  pre : Pre en
  abs : abs0 en = { abs0 c with atomic := L0.ruleAtomic name mod (abs0 c).atomic }
  ph : en.posHist = c.posHist
  us : en.ustack = c.ustack
  rs : en.rstack = c.rstack.push name
  scope : if L1.ruleScoped name mod then en.adepth.snaps = c.adepth.val :: c.adepth.snaps
          else en.adepth = c.adepth

theorem rule_enter (name : String) (mod : Nat) (c : PState) (p : PreW c) :
    Entered name mod c (L1.ruleEnter name mod { c with rstack := c.rstack.push name }) := by
  have pr : Inv (c.rstack.push name) := inv_push _ _ p.ir
  have an := p.anon
  unfold L1.ruleEnter
  by_cases hA : (hasBit mod ATOMIC || hasBit mod COMPOUND || L1.isTriviaName name) = true
  · simp only [hA, ↓reduceIte]
    refine ⟨⟨p.iu, pr, by simp [push_items], ?_⟩, ?_, rfl, rfl, rfl, ?_⟩
    · simp [SnapInt.add, SnapInt.snapshot]; omega
    · simp [abs0, L0.ruleAtomic, hA, SnapInt.add, SnapInt.snapshot]; omega
    · simp [L1.ruleScoped, hA, SnapInt.add, SnapInt.snapshot]
  · by_cases hN : hasBit mod NONATOMIC = true
    · simp only [hA, hN, Bool.false_eq_true, ↓reduceIte]
      refine ⟨⟨p.iu, pr, by simp [push_items], ?_⟩, ?_, rfl, rfl, rfl, ?_⟩
      · simp [SnapInt.zero, SnapInt.snapshot]
      · simp [abs0, L0.ruleAtomic, hA, hN, SnapInt.zero, SnapInt.snapshot]
      · simp [L1.ruleScoped, hN, SnapInt.zero, SnapInt.snapshot]
    · simp only [hA, hN, Bool.false_eq_true, ↓reduceIte]
      refine ⟨⟨p.iu, pr, by simp [push_items], an⟩, ?_, rfl, rfl, rfl, ?_⟩
      · simp [abs0, L0.ruleAtomic, hA, hN]
      · simp [L1.ruleScoped, hA, hN]

theorem pop_pushed {d d2 : DStack String} {name : String} (hi : d2.items = name :: d.items)
    (hs : snapsOf d2 = snapsOf d) (i2 : Inv d2) :
    ∃ rs, d2.pop = some (name, rs) ∧ rs.items = d.items ∧ snapsOf rs = snapsOf d ∧ Inv rs := by
  cases hp : d2.pop with
  | none => have := items_of_pop_none hp; rw [hi] at this; cases this
  | some q =>
    obtain ⟨x, rs⟩ := q
    have h1 := pop_items hp
    rw [hi] at h1
    simp only [List.cons.injEq] at h1
    obtain ⟨s1, _⟩ := snapsOf_pop _ i2 hp
    exact ⟨rs, by rw [h1.1], h1.2.symm, by rw [s1, hs], inv_pop _ i2 hp⟩

theorem rule_exit {name : String} {mod : Nat} {c en c2 : PState} (p : PreW c)
    (he : Entered name mod c en) (fr : Frame en c2) :
    ∃ rs, c2.rstack.pop = some (name, rs) ∧
      ∀ matched, Frame c (L1.exitState name mod matched c2 rs) := by
  obtain ⟨rs, hpop, hrsI, hrsS, hrsInv⟩ : ∃ rs, c2.rstack.pop = some (name, rs) ∧
      rs.items = c.rstack.items ∧ snapsOf rs = snapsOf c.rstack ∧ Inv rs :=
    pop_pushed (by rw [fr.ri, he.rs]; simp [push_items])
      (by rw [fr.rs, he.rs, snapsOf_push _ _ p.ir]) fr.ir
  refine ⟨rs, hpop, fun m => ?_⟩
  have ha : (L1.exitState name mod m c2 rs).adepth.val = c.adepth.val ∧
      (L1.exitState name mod m c2 rs).adepth.snaps = c.adepth.snaps := by
    have hs := he.scope
    unfold L1.exitState
    by_cases hsc : L1.ruleScoped name mod = true
    · simp only [hsc, ↓reduceIte] at hs ⊢
      have : c2.adepth.snaps = c.adepth.val :: c.adepth.snaps := by rw [fr.as, hs]
      simp [SnapInt.restore, this]
    · simp only [hsc, Bool.false_eq_true, ↓reduceIte] at hs ⊢
      exact ⟨by rw [fr.av, hs], by rw [fr.as, hs]⟩
  exact ⟨fr.ph.trans he.ph, fr.us.trans (by rw [he.us]), hrsS, ha.2, ha.1, hrsI, fr.iu, hrsInv⟩

theorem Frame.stackStep {c : PState} (p : Pre c) {us : DStack Str} (st : L1.StackStep c.ustack us) :
    Frame c { c with ustack := us } := by
  cases st with
  | same => exact Frame.refl p
  | push x => exact (Frame.refl p).push x
  | pop hp => exact (Frame.refl p).pop hp
  | clear => exact (Frame.refl p).setUstack (snapsOf_clear _ p.iu).1 (inv_clear _ p.iu)

def frameKit : RKit where
  F := fun c c' => Pre c → Frame c c'
  N := fun _ => True
  refl := fun _ p => Frame.refl p
  trans := fun f1 f2 p => (f1 p).trans (f2 ((f1 p).pre p))
  ustack := fun st p => Frame.stackStep p st
  negDepth := fun _ p => Frame.of_eq p
  suppress := fun _ p => Frame.of_eq p
  ok_after := fun f p => (ok_after (f (pre_checkpoint p))).1
  restore_after := fun f p => (restore_after (f (pre_checkpoint p))).1
  fail := fun _ hf p => (fail_frame p hf).1
  scope := fun {c c2 name x rs} mod matched _ f hp p => by
    have he := rule_enter name mod c p.weak
    obtain ⟨rs', hp', hf⟩ := rule_exit p.weak he (f he.pre)
    rw [hp] at hp'
    cases hp'
    exact hf matched
  tag := fun t f p =>
    ((Frame.refl p).setTag _).trans ((f (((Frame.refl p).setTag _).pre p)).setTag _)

theorem frameKit_rules (g : Grammar) : frameKit.Rules g := RKit.rules_of_forall (fun _ => trivial) g

theorem frameKit_moves (inp : Input) : frameKit.Moves inp :=
  fun _ _ p => Frame.of_eq p

/-- every finished call of `r1` from a well-formed state keeps its frame: `frameKit.Bal`, said
    without the kit -/
def FrameBal (r1 : Sem1) : Prop :=
  ∀ e c m c' ps, r1 e c = .done m c' ps → Pre c → Frame c c'

theorem frameBal_iff {r1 : Sem1} : FrameBal r1 ↔ frameKit.Bal r1 :=
  (RKit.bal_iff (K := frameKit) fun _ => trivial).symm

namespace FrameBal

variable {r1 : Sem1} (h : FrameBal r1) {g : Grammar}
include h

theorem ruleParse {name : String} {mod : Nat} {body : Expr} {c c' : PState} {m : Bool}
    {ps : List Pair} (p : Pre c) (e : L1.ruleParse r1 name mod body c = .done m c' ps) : Frame c c' :=
  (HKit.ruleParse_post (frameBal_iff.mp h) mod trivial (namesOK.of_forall (fun _ => trivial) body)
    c).of_done e p

theorem parseTrivia {k : Nat} {c c' : PState} {m : Bool} {ps : List Pair} (p : Pre c)
    (e : L1.parseTrivia g r1 k c = .done m c' ps) : Frame c c' :=
  (HKit.parseTrivia_post (frameKit_rules g) (frameBal_iff.mp h) k c).of_done e p

theorem tryTrivia (name : String) (c : PState) :
    frameKit.toHKit.Try c (L1.tryTrivia r1 (g.lookup name) c) :=
  HKit.tryTrivia_post (frameKit_rules g) (frameBal_iff.mp h) (g.lookup name) (fun _ h => Prim.lookup_mem h) c

theorem tryTrivia_matched {name : String} {c c' : PState} {ps : List Pair} (p : Pre c)
    (e : L1.tryTrivia r1 (g.lookup name) c = .matched c' ps) : Frame c c' :=
  (e ▸ h.tryTrivia (g := g) name c : frameKit.toHKit.Try c (.matched c' ps)) p

theorem tryTrivia_no {name : String} {c c1 : PState} (p : Pre c)
    (e : L1.tryTrivia r1 (g.lookup name) c = .no c1) : Frame c c1 :=
  (e ▸ h.tryTrivia (g := g) name c : frameKit.toHKit.Try c (.no c1)) p

end FrameBal

theorem frameBal_run (g : Grammar) (inp : Input) (n : Nat) : FrameBal (L1.run g inp n) :=
  frameBal_iff.mpr (RKit.run_bal (frameKit_rules g) (frameKit_moves inp) n)

variable (g : Grammar) (inp : Input)

/-- POP_ALL only ever changes the user stack of the state `d` it starts from, and not the
    snapshots under it: it ends in `ok` of `d` with the stack emptied, at the position after the
    last entry, or fails from `restore` of `d` -/
theorem popAllLoop_full : ∀ (k : Nat) (d : PState) (pos : Nat), Inv d.ustack →
    d.ustack.items.length < k →
    ∃ u, snapsOf u = snapsOf d.ustack ∧ Inv u ∧
      (L1.matchAll inp d.ustack.items pos ≠ none → u.items = []) ∧
      L1.popAllLoop inp k d pos =
        match L1.matchAll inp d.ustack.items pos with
        | some q => .done true { ({ d with ustack := u } : PState).ok with pos := q } []
        | none => L1.failT ({ d with ustack := u } : PState).restore := by
  intro k
  induction k with
  | zero => intro d pos _ hl; omega
  | succ k ih =>
    intro d pos hu hl
    simp only [L1.popAllLoop]
    cases hp : d.ustack.pop with
    | none =>
      have hi := items_of_pop_none hp
      exact ⟨d.ustack, rfl, hu, fun _ => hi, by rw [hi]; rfl⟩
    | some q =>
      obtain ⟨lit, us⟩ := q
      have hitems : d.ustack.items = lit :: us.items := pop_items hp
      have hs := (snapsOf_pop _ hu hp).1
      have hus := inv_pop _ hu hp
      rw [hitems, L1.matchAll]
      dsimp only []
      by_cases hm : startsWithAt inp lit pos = true
      · rw [if_pos hm, if_pos hm]
        obtain ⟨u, h1, h2, h3, h4⟩ := ih { d with ustack := us } (pos + lit.length) hus
          (by rw [hitems] at hl; exact Nat.lt_of_succ_lt_succ hl)
        exact ⟨u, h1.trans hs, h2, h3, h4⟩
      · rw [if_neg hm, if_neg hm]
        exact ⟨us, hs, hus, fun h => absurd rfl h, rfl⟩

theorem popAllLoop_rel (c : PState) (p : Pre c) :
    ∀ (k : Nat) (d : PState) (pos : Nat), Frame c.checkpoint d → d.ustack.items.length < k →
      match L1.popAllLoop inp k d pos with
      | .done true c' ps =>
        L1.matchAll inp d.ustack.items pos = some c'.pos ∧ c'.ustack.items = [] ∧ ps = [] ∧ Frame c c'
      | .done false c' ps =>
        L1.matchAll inp d.ustack.items pos = none ∧ ps = [] ∧ Frame c c' ∧ abs0 c' = abs0 c
      | _ => False := by
  intro k d pos f hl
  obtain ⟨u, hs, hu, h0, he⟩ := popAllLoop_full inp k d pos f.iu hl
  have fu : Frame c.checkpoint { d with ustack := u } := f.setUstack hs hu
  rw [he]
  cases hm : L1.matchAll inp d.ustack.items pos with
  | some q =>
    obtain ⟨f', _⟩ := ok_after fu
    exact ⟨rfl, (dropSnap_items u).trans (h0 (by rw [hm]; nofun)), rfl,
      f'.trans (Frame.of_eq (f'.pre p))⟩
  | none =>
    obtain ⟨f', a'⟩ := restore_after fu
    obtain ⟨c3, h3, hft⟩ := failT_inside (f'.pre p).rne
    obtain ⟨f3, a3⟩ := fail_frame (f'.pre p) h3
    dsimp only []
    rw [hft]
    exact ⟨rfl, rfl, f'.trans f3, a3.trans a'⟩

theorem popAll_rel (c : PState) (p : Pre c) (k : Nat) (r1 : Sem1) :
    match L1.step g inp k r1 .popAll c with
    | .done true c' ps =>
      L1.matchAll inp c.ustack.items c.pos = some c'.pos ∧ c'.ustack.items = [] ∧ ps = [] ∧ Frame c c'
    | .done false c' ps =>
      L1.matchAll inp c.ustack.items c.pos = none ∧ ps = [] ∧ Frame c c' ∧ abs0 c' = abs0 c
    | _ => False :=
  popAllLoop_rel inp c p (c.ustack.items.length + 1) c.checkpoint c.pos
    (Frame.refl (pre_checkpoint p)) (Nat.lt_succ_self _)

end Pest
