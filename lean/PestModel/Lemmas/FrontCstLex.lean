/-
  Lemmas/FrontCstLex.lean — the lexemes of a C-tree (Lemmas/FrontInvCst.lean) against the values of the
  S-tree: for each of the three classes whose tokens carry a spelling, `abs` of a lexeme the scanner can emit
  (`absNum`, `absInt`, `absChar` on `IsDigits`, `IsIntTok`, `IsCharLit`) is defined exactly when the lexeme
  spells a value the S-tree admits (`NumSpell`, `IntSpell`, `CharSpell` of Front/AstText2.lean), and is that
  value: `numSpell_iff`, `intSpell_of_absInt`/`absInt_of_intSpell`, `charSpell_of_absChar`/`absChar_of_charSpell`.
  Read off the normal forms of Lemmas/FrontParseLex.lean through `absNum_eq`, `absInt_eq`.  The printed form
  of a value is one of its spellings (`numSpell_natDigits`, …) and determines it (`natDigits_inj`, …).
  `PRT.parseInt_spell` says the integer case of `parse_int` itself, with no C-tree.
-/
import PestModel.Lemmas.FrontInvCst
import PestModel.Lemmas.FrontParseLex

namespace Pest
namespace Front

open PRT (natDigits_val natDigits_ne_nil natDigits_length natDigits_all)

theorem absNum_eq {w : Text} (h : ∀ c ∈ w, isDigit c = true) :
    absNum w = if digitsVal w ≤ 4294967295 then some (digitsVal w) else none := by
  have hp := pyInt_sig h false
  simp only [Bool.false_eq_true, if_false] at hp
  unfold absNum
  rw [hp, ← stripZeros_eq h]
  by_cases hn : digitsVal w ≤ 4294967295
  · have hl := natDigits_length hn
    rw [← stripZeros_eq h] at hl
    have : ¬ ((digitsVal w : Int) > MAX_REPEAT) := by simp only [MAX_REPEAT]; omega
    rw [if_neg (by omega), if_neg (by omega), if_pos hn]
    simp only [if_neg this, Int.toNat_natCast]
  · rw [if_neg hn]
    have : (digitsVal w : Int) > MAX_REPEAT := by simp only [MAX_REPEAT]; omega
    by_cases hl : (stripZeros w).length > 10
    · rw [if_pos hl]
    · rw [if_neg hl, if_neg (by omega)]
      simp only [if_pos this]

theorem absInt_eq {ds : Text} (h : ∀ c ∈ ds, isDigit c = true) (neg : Bool) :
    absInt (if neg then 45 :: ds else ds) =
      if (natDigits (digitsVal ds)).length > 4300 then none
      else some (if neg then -(digitsVal ds : Int) else (digitsVal ds : Int)) := by
  have hp := pyInt_sig h neg
  unfold absInt
  cases neg
  · simp only [Bool.false_eq_true, if_false] at hp ⊢
    rw [intLiteral_pos (head_ne_minus_of_digits h), hp]
    by_cases hl : (natDigits (digitsVal ds)).length > 4300
    · rw [if_pos hl, if_pos hl]
    · rw [if_neg hl, if_neg hl]
  · simp only [if_true] at hp ⊢
    rw [intLiteral_neg, hp]
    by_cases hl : (natDigits (digitsVal ds)).length > 4300
    · rw [if_pos hl, if_pos hl]
    · rw [if_neg hl, if_neg hl]

namespace IG

theorem isDigits_of_numSpell {n : Nat} {w : Text} (h : NumSpell n w) : IsDigits w :=
  ⟨h.1, List.all_eq_true.1 h.2.1⟩


/-- `parse_number` accepts a number lexeme exactly as a spelling of a value within u32 -/
theorem numSpell_iff {w : Text} (hw : IsDigits w) {n : Nat} :
    absNum w = some n ↔ n ≤ 4294967295 ∧ NumSpell n w := by
  rw [absNum_eq hw.2]
  constructor
  · intro h
    split at h
    · cases h; exact ⟨‹_›, hw.1, List.all_eq_true.mpr hw.2, rfl⟩
    · cases h
  · rintro ⟨hn, -, -, rfl⟩
    rw [if_pos hn]

theorem isIntTok_of_intSpell {i : Int} {w : Text} (h : IntSpell i w) : IsIntTok w := by
  cases h with
  | nonneg hn => exact .inl (isDigits_of_numSpell hn)
  | neg hz h1 h2 hn =>
    exact .inr ⟨_, _, _, rfl, hz, h1, h2, fun c hc =>
      List.all_eq_true.1 hn.2.1 c (List.mem_append_right _ (List.mem_cons_of_mem _ hc))⟩


theorem intSpell_of_absInt {w : Text} {i : Int} (h : absInt w = some i) (hw : IsIntTok w) :
    IntSpell i w ∧ SliceIdxOK (some i) := by
  rcases hw with hw | ⟨zs, d, ds, rfl, hz, hd1, hd2, hds⟩
  · have e := absInt_eq hw.2 false
    simp only [Bool.false_eq_true, if_false] at e
    rw [e] at h
    split at h
    · cases h
    · cases h
      exact ⟨.nonneg ⟨hw.1, List.all_eq_true.mpr hw.2, rfl⟩, by simp only [SliceIdxOK, Int.natAbs_natCast]; omega⟩
  · have hd := isDigits_sig hz hd1 hd2 hds
    have e := absInt_eq hd.2 true
    simp only [if_true] at e
    rw [e] at h
    split at h
    · cases h
    · cases h
      exact ⟨.neg hz hd1 hd2 ⟨hd.1, List.all_eq_true.mpr hd.2, rfl⟩,
        by simp only [SliceIdxOK, Int.natAbs_neg, Int.natAbs_natCast]; omega⟩

theorem absInt_of_intSpell {w : Text} {i : Int} (h : IntSpell i w) (hi : SliceIdxOK (some i)) :
    absInt w = some i := by
  cases h with
  | nonneg hn =>
    obtain ⟨h1, h2, rfl⟩ := hn
    have e := absInt_eq (List.all_eq_true.mp h2) false
    simp only [Bool.false_eq_true, if_false] at e
    simp only [SliceIdxOK, Int.natAbs_natCast] at hi
    rw [e, if_neg (by omega)]
  | neg hz hd1 hd2 hn =>
    obtain ⟨h1, h2, rfl⟩ := hn
    have e := absInt_eq (List.all_eq_true.mp h2) true
    simp only [if_true] at e
    simp only [SliceIdxOK, Int.natAbs_neg, Int.natAbs_natCast] at hi
    rw [e, if_neg (by omega)]

theorem charSpell_of_absChar {w : Text} {a : Nat} (h : absChar w = some a) (hw : IsCharLit w) :
    CharSpell a w := by
  unfold absChar at h
  rcases charLit_nf hw with ⟨x, hs, hu⟩ | hr
  · rw [hu] at h
    cases h
    exact hs
  · rw [hr] at h
    cases h

theorem unescape_of_escape {e : Text} {a : Nat} (h : Unescape.Escape e a) :
    Unescape.unescape (92 :: e) = .ok [a] := by
  rw [← List.append_nil e, Unescape.unescape_cons_lexeme (.ok h), Unescape.unescape_nil]
  rfl

theorem absChar_of_charSpell {w : Text} {a : Nat} (h : CharSpell a w) : absChar w = some a := by
  cases h with
  | raw _ hc =>
    have : stripQuotes [39, a, 39] = [a] := by simp [stripQuotes]
    unfold absChar
    rw [this, Unescape.unescape_cons_char [] hc, Unescape.unescape_nil]
    rfl
  | @esc e v he =>
    unfold absChar
    have : stripQuotes (39 :: 92 :: (e ++ [39])) = 92 :: e := stripQuotes_lit (92 :: e)
    rw [this, unescape_of_escape he]

theorem isCharLit_of_charSpell {a : Nat} {w : Text} (h : CharSpell a w) : IsCharLit w := by
  cases h with
  | raw _ hc => exact ⟨[a], rfl, .inl ⟨a, rfl, hc⟩⟩
  | @esc e v he => exact ⟨92 :: e, rfl, .inr ⟨e, rfl, Unescape.escapeLen_whole.2 ⟨_, .ok he⟩⟩⟩

theorem natDigits_inj {m n : Nat} (h : natDigits m = natDigits n) : m = n := by
  rw [← natDigits_val m, ← natDigits_val n, h]

theorem charLit_inj {a b : Nat} (h : charLit a = charLit b) : a = b := by
  unfold charLit at h
  by_cases ha : a = 92 <;> by_cases hb : b = 92 <;> simp [ha, hb] at h
  · rw [ha, hb]
  · exact h

theorem intDigits_inj {i j : Int} (h : intDigits i = intDigits j) : i = j := by
  unfold intDigits at h
  by_cases hi : i < 0 <;> by_cases hj : j < 0 <;> simp only [hi, hj, if_true, if_false] at h
  · have := natDigits_inj (List.cons.inj h).2
    omega
  · obtain ⟨d, r, hd, hdig, _⟩ := PRT.natDigits_cons j.toNat
    rw [hd] at h
    have : d = 45 := (List.cons.inj h).1.symm
    subst this
    simp [isDigit] at hdig
  · obtain ⟨d, r, hd, hdig, _⟩ := PRT.natDigits_cons i.toNat
    rw [hd] at h
    have : d = 45 := (List.cons.inj h).1
    subst this
    simp [isDigit] at hdig
  · have := natDigits_inj h
    omega

theorem charSpell_charLit (a : Nat) : CharSpell a (charLit a) := by
  unfold charLit
  by_cases ha : a = 92
  · subst ha
    rw [if_pos rfl]
    exact .esc (e := [92]) (.simple 92 92 rfl)
  · rw [if_neg ha]
    exact .raw a ha

theorem numSpell_natDigits (n : Nat) : NumSpell n (natDigits n) :=
  ⟨natDigits_ne_nil n, natDigits_all n, natDigits_val n⟩

theorem intSpell_intDigits (i : Int) : IntSpell i (intDigits i) := by
  unfold intDigits
  by_cases hi : i < 0
  · rw [if_pos hi]
    obtain ⟨d, ds, hd, h1, h2⟩ := PRT.natDigits_head (n := i.natAbs) (by omega)
    have hs := numSpell_natDigits i.natAbs
    rw [hd] at hs ⊢
    have := IntSpell.neg (zs := []) (by simp) h1 h2 hs
    have e : -(i.natAbs : Int) = i := by omega
    rw [e] at this
    exact this
  · rw [if_neg hi]
    have := IntSpell.nonneg (numSpell_natDigits i.toNat)
    have e : (i.toNat : Int) = i := by omega
    rw [e] at this
    exact this

end IG

namespace PRT

/-- `parse_int` on every spelling of every integer `int()` takes: either sign, leading zeros, up to 4300
    significant digits (the u32 bound is `parse_number`'s) -/
theorem parseInt_spell {t : Token} {i : Int} (h : IntSpell i t.value) (hi : SliceIdxOK (some i))
    (eof : Token) (ts : List Token) : parseInt t eof ts = .ok i ts := by
  have e := IG.absInt_of_intSpell h hi
  unfold absInt at e
  unfold parseInt
  split at e
  · rename_i v hv
    cases e
    rw [hv]
    rfl
  · cases e

theorem parseInt_nat {t : Token} {n : Nat} (hv : t.value = natDigits n) (h : n ≤ 4294967295)
    (eof : Token) (ts : List Token) : parseInt t eof ts = .ok (n : Int) ts := by
  refine parseInt_spell (hv ▸ .nonneg (IG.numSpell_natDigits n)) ?_ eof ts
  have := natDigits_length h
  simp only [SliceIdxOK, Int.natAbs_natCast]
  omega

end PRT

end Front
end Pest

