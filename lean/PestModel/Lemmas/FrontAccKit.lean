/-
  Lemmas/FrontAccKit.lean — the scanner's accept half: the triple and its primitives.
  A successful run depends on the remaining text only, so every statement is a triple
  `Sp m inp a tl kvs`: from any state whose remaining text is `inp`, `m` returns `a`, leaves `tl`
  and has appended the tokens `kvs`.  Each primitive (`scanEmit`, `expect`, `optChar`,
  `scanOrError`, `triv`) comes in continuation form (`k_…`), so that the triple of a `do` block is
  a term.  Read after Lemmas/FrontSkipTrivia.lean (where `triv` ends); the methods follow in
  Lemmas/FrontAccTok.lean and Lemmas/FrontAccScan.lean.
-/
import PestModel.Lemmas.FrontSkipTrivia

namespace Pest
namespace Front
namespace RT

theorem bind_ok {α β} {m : M α} {f : α → M β} {s s1 : St} {a : α} (h : m s = .ok a s1) :
    (m >>= f) s = f a s1 := by
  rw [bind_def, h]

def Sp {α} (m : M α) (inp : Text) (a : α) (tl : Text) (kvs : List KV) : Prop :=
  ∀ s : St, s.rest = inp → ∃ s', m s = .ok a s' ∧ s'.rest = tl ∧ out s' = out s ++ kvs

theorem Sp.bind {α β} {m : M α} {f : α → M β} {inp t1 t2 : Text} {a : α} {b : β}
    {k1 k2 k : List KV} (h1 : Sp m inp a t1 k1) (h2 : Sp (f a) t1 b t2 k2)
    (hk : k = k1 ++ k2) : Sp (m >>= f) inp b t2 k := by
  intro s hs
  obtain ⟨s1, e1, r1, o1⟩ := h1 s hs
  obtain ⟨s2, e2, r2, o2⟩ := h2 s1 r1
  exact ⟨s2, by rw [bind_ok e1, e2], r2, by rw [o2, o1, hk, List.append_assoc]⟩

theorem Sp.pure {α} (a : α) (t : Text) : Sp (pure a : M α) t a t [] :=
  fun s hs => ⟨s, rfl, hs, by simp⟩

theorem Sp.cast {α} {m : M α} {inp inp' tl tl' : Text} {a : α} {k k' : List KV}
    (h : Sp m inp a tl k) (hi : inp' = inp := by simp) (ht : tl' = tl := by simp)
    (hk : k' = k := by simp) : Sp m inp' a tl' k' := by
  subst hi ht hk; exact h

/-- a loop started with the bound `remaining length + 1` -/
theorem Sp.sized {α} {g : Nat → M α} {inp tl : Text} {a : α} {k : List KV}
    (h : ∀ n, inp.length < n → Sp (g n) inp a tl k) :
    Sp (fun s => g (s.rest.length + 1) s) inp a tl k :=
  fun s hs => h _ (hs ▸ Nat.lt_succ_self _) s hs

theorem Sp.from {α} {m : M α} {inp tl : Text} {a : α} {k k0 kk : List KV}
    (h : Sp m inp a tl k) (s0 s : St) (hr : s.rest = inp) (ho : out s = out s0 ++ k0)
    (hk : kk = k0 ++ k := by simp) :
    ∃ s', m s = .ok a s' ∧ s'.rest = tl ∧ out s' = out s0 ++ kk := by
  obtain ⟨s', e, r, o⟩ := h s hr
  exact ⟨s', e, r, by rw [o, ho, hk, List.append_assoc]⟩

theorem sp_scanEmit {m : Text → Option Nat} {w tl : Text} (kind : TK)
    (h : m (w ++ tl) = some w.length) : Sp (scanEmit m kind) (w ++ tl) true tl [(kind, w)] := by
  intro s hs
  refine ⟨(s.adv w.length).emit kind w, ?_, ?_, ?_⟩
  · simp [scanEmit, hs, h]
  · simp [hs]
  · simp

theorem sp_scanEmit_none {m : Text → Option Nat} {t : Text} (kind : TK) (h : m t = none) :
    Sp (scanEmit m kind) t false t [] := by
  intro s hs
  exact ⟨s, by simp [scanEmit, hs, h], hs, by simp⟩

theorem sp_expect (c : Nat) (kind : TK) (k : EK) (tl : Text) :
    Sp (expect c kind k) (c :: tl) () tl [(kind, [c])] := by
  intro s hs
  exact ⟨(s.adv 1).emit kind [c], by simp [expect, peek_iff.2 ⟨_, hs⟩], by simp [hs], by simp⟩

theorem sp_optChar (c : Nat) (kind : TK) (tl : Text) :
    Sp (optChar c kind) (c :: tl) true tl [(kind, [c])] := by
  intro s hs
  exact ⟨(s.adv 1).emit kind [c], by simp [optChar, peek_iff.2 ⟨_, hs⟩], by simp [hs], by simp⟩

theorem sp_optChar_no (c : Nat) (kind : TK) {t : Text} (h : t.head? ≠ some c) :
    Sp (optChar c kind) t false t [] := by
  intro s hs
  exact ⟨s, by simp [optChar, St.peek, hs, h], hs, by simp⟩

theorem sp_scanOrError {m : Text → Option Nat} {w tl : Text} (kind : TK) (k : EK)
    (h : m (w ++ tl) = some w.length) : Sp (scanOrError m kind k) (w ++ tl) () tl [(kind, w)] := by
  unfold scanOrError
  exact Sp.bind (sp_scanEmit kind h) (Sp.pure () tl) rfl

/-! ### the primitives in continuation form

  Each is stated on the shape the layout produces (`w ++ tl`, `[c] ++ tl`) with the emitted token
  consed in front of the continuation's, so that the triple of a `do` block is a term: one `k_…`
  per `>>=`, read off the code. -/

section k
variable {β : Type} {b : β} {tl' : Text} {K : List KV}

theorem k_scanEmit {m : Text → Option Nat} {kind : TK} {w tl : Text} {f : Bool → M β}
    (h : m (w ++ tl) = some w.length) (k : Sp (f true) tl b tl' K) :
    Sp (scanEmit m kind >>= f) (w ++ tl) b tl' ((kind, w) :: K) :=
  Sp.bind (sp_scanEmit kind h) k rfl

theorem k_scanEmit_no {m : Text → Option Nat} {kind : TK} {t : Text} {f : Bool → M β}
    (h : m t = none) (k : Sp (f false) t b tl' K) : Sp (scanEmit m kind >>= f) t b tl' K :=
  Sp.bind (sp_scanEmit_none kind h) k rfl

theorem k_expect {c : Nat} {kind : TK} {e : EK} {tl : Text} {f : Unit → M β}
    (k : Sp (f ()) tl b tl' K) : Sp (expect c kind e >>= f) ([c] ++ tl) b tl' ((kind, [c]) :: K) :=
  Sp.bind (sp_expect c kind e tl) k rfl

theorem k_optChar {c : Nat} {kind : TK} {tl : Text} {f : Bool → M β}
    (k : Sp (f true) tl b tl' K) : Sp (optChar c kind >>= f) ([c] ++ tl) b tl' ((kind, [c]) :: K) :=
  Sp.bind (sp_optChar c kind tl) k rfl

theorem k_optChar_no {c : Nat} {kind : TK} {t : Text} {f : Bool → M β} (h : t.head? ≠ some c)
    (k : Sp (f false) t b tl' K) : Sp (optChar c kind >>= f) t b tl' K :=
  Sp.bind (sp_optChar_no c kind h) k rfl

theorem k_scanOrError {m : Text → Option Nat} {kind : TK} {e : EK} {w tl : Text} {f : Unit → M β}
    (h : m (w ++ tl) = some w.length) (k : Sp (f ()) tl b tl' K) :
    Sp (scanOrError m kind e >>= f) (w ++ tl) b tl' ((kind, w) :: K) :=
  Sp.bind (sp_scanOrError kind e h) k rfl

end k

end RT

namespace TRT
open RT

theorem sp_triv_tr {F tl : Text} (h : Tr F tl) (ht : Stop tl) : Sp triv F () tl [] := by
  intro s hs
  obtain ⟨h1, h2⟩ := skipTrivia_tr (s := s) (by rw [hs]; exact h) ht
  exact ⟨skipTrivia s, rfl, h1, by simp [h2]⟩

theorem sp_triv_w {ws tl : Text} (hw : IsTrivia ws) (ht : Stop tl) : Sp triv (ws ++ tl) () tl [] :=
  sp_triv_tr (Tr.mk hw tl) ht

theorem sp_triv_end {F e : Text} (h : Tr F e) (he : EndC e) : Sp triv F () [] [] := by
  intro s hs
  obtain ⟨h1, h2⟩ := skipTrivia_end (s := s) (by rw [hs]; exact h) he
  exact ⟨skipTrivia s, rfl, h1, by simp [h2]⟩

theorem k_triv {β : Type} {b : β} {tl' : Text} {K : List KV} {ws tl : Text} {f : Unit → M β}
    (hw : IsTrivia ws) (ht : Stop tl) (k : Sp (f ()) tl b tl' K) :
    Sp (triv >>= f) (ws ++ tl) b tl' K :=
  Sp.bind (sp_triv_w hw ht) k rfl

/-- a call of `skip_trivia` that finds none: an earlier call has skipped it -/
theorem k_triv_none {β : Type} {b : β} {tl' : Text} {K : List KV} {tl : Text} {f : Unit → M β}
    (ht : Stop tl) (k : Sp (f ()) tl b tl' K) : Sp (triv >>= f) tl b tl' K :=
  k_triv (ws := []) .nil ht k

theorem k_triv_tr {β : Type} {b : β} {tl' : Text} {K : List KV} {F tl : Text} {f : Unit → M β}
    (h : Tr F tl) (ht : Stop tl) (k : Sp (f ()) tl b tl' K) : Sp (triv >>= f) F b tl' K :=
  Sp.bind (sp_triv_tr h ht) k rfl

/-- behind a token: trivia, then a character of class `p`; none of them continues the token -/
theorem hd_nic {p : Nat → Bool} (hp : ∀ c, p c = true → nic c = true) {F tl : Text} (h : Tr F tl)
    (ht : Hd p tl) : Hd nic F :=
  h.hd nic_of_not_tokc (ht.mono hp)

theorem hd_ndg {p : Nat → Bool} (hp : ∀ c, p c = true → ndg c = true) {F tl : Text} (h : Tr F tl)
    (ht : Hd p tl) : Hd ndg F :=
  h.hd ndg_of_not_tokc (ht.mono hp)

theorem hd_lit {p : Nat → Bool} {c : Nat} (X : Text) (h : p c = true) : Hd p (c :: X) := h

theorem hd_nic_w {ws : Text} (hw : IsTrivia ws) {c : Nat} (X : Text) (hc : nic c = true) :
    Hd nic (ws ++ c :: X) := isTrivia_hd nic_of_not_tokc hw (hd_lit X hc)

theorem hd_ndg_w {ws : Text} (hw : IsTrivia ws) {c : Nat} (X : Text) (hc : ndg c = true) :
    Hd ndg (ws ++ c :: X) := isTrivia_hd ndg_of_not_tokc hw (hd_lit X hc)

end TRT
end Front
end Pest
