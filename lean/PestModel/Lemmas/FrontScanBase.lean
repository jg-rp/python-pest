/-
  Lemmas/FrontScanBase.lean — what every proof about the grammar scanner (Front/Scan.lean) starts
  from, whichever property it serves: the model's methods as equations, what each regular expression
  matches, that `skip_trivia` only skips and its bound suffices, the measure of the driver `run`; no
  invariant, no triple.  Read Front/Scan.lean first (and the statements `escapeLen_iff`,
  `escapeLen_whole` of Lemmas/Unescape.lean).
  Two developments read it.  C11 (the scanner is total): Lemmas/FrontTotalScan.lean.  C10 (`load`
  accepts exactly the grammar texts), scanner part: Lemmas/FrontInvCst.lean (the concrete syntax tree),
  FrontCstSep, FrontScanLex, FrontSkipTrivia (where FrontPrintText, which reads neither scanner nor
  parser, joins), then the accept half FrontAccKit → FrontAccTok → FrontAccScan and the inversion
  FrontInvScan, side by side.

  Namespaces of the front-end proofs (all under `Pest.Front`).  The letters do not say what is
  inside (the property checks refer to theorems by these names); this is the key.
    (none)  this file, the two totality kits (FrontTotalScan, FrontTotalParse), the C-tree with `Sep`
            (FrontInvCst, FrontCstSep), the results `scan_accept_c`, `scan_roundtrip*`;
    `RT`    the scanner below trivia, for both halves of C10 (FrontScanLex); the accept triple `Sp`
            (FrontAccKit); spellings (FrontPrintText); depth of nesting and a sample (FrontScanAst);
    `TRT`   trivia (FrontSkipTrivia), the printer's texts (FrontPrintText), the methods of the accept
            half and its driver (FrontAccTok, FrontAccScan);
    `IS`    the scanner's inversion: `Emits`, `scan_inv` (FrontInvScan); the few `IS` names in
            FrontScanLex and FrontSkipTrivia are used by the accept half or the glue as well;
    `IA`    `Act` on token lists and the kinds spelled verbatim (head of FrontCstGlue); `Sp'` and a
            sample (FrontScanAst);
    `IG`    between C-tree and source-level tree (FrontCstGlue; lexeme against spelling: FrontCstLex);
    `IP`    the parser on the tokens of a C-tree: `okPart`, `Reads` (FrontParseKit, FrontCstParse);
    `PRT`   the parser's functions with no tree or on source-level trees (FrontParseKit, FrontParseLex,
            FrontParseAst; `parseInt` on a spelling: FrontCstLex), and the keyword table below.
  Names.  `…_inv` reads a success backwards.  `mX_some`: what a match of the regular expression `mX`
  is (length bounds and shape); `mX_inv` (FrontScanLex) its last part, the shape of the matched text;
  `mX_of` the converse under look-ahead.  `f_inv`, for `f` of the model, starts from `f s = .ok a s'`:
  a statement on states where `f` is a primitive or sees the end of the text (`ruleTail`, `docInner`,
  `run`), the triple `IS.Emits f Q` where `f` is a `do` block; where a generic step has both (`triv`,
  `scanEmit`, `expect`), the triple is `inv_f`.  `X_cons_inv`, `X_nil_inv` invert a constructor of the
  inductive `X`.  `Inv` alone is the state invariant of the totality proof, with its lemmas `Inv.f`.
-/
import PestModel.Front.Scan
import PestModel.Lemmas.Unescape

namespace Pest
namespace Front
open Unescape (escapeLen)

/-- `[0-9]+` -/
def IsDigits (v : Text) : Prop := v ≠ [] ∧ ∀ c ∈ v, isDigit c = true

/-- `-?[0-9]+`: what the parser needs of an INTEGER token, and all that C11 says of one.  The scanner's
    regular expression is narrower, `[0-9]+|-0*[1-9][0-9]*`: that shape is `IsIntTok` of
    Lemmas/FrontInvCst.lean, in which C10 is stated; `isIntLit_of_intTok` below passes from it to this. -/
def IsIntLit (v : Text) : Prop := IsDigits v ∨ ∃ ds, v = 45 :: ds ∧ IsDigits ds

/-- `'c'` with `c` not a backslash, or `'\e'` with `e` one complete match of `RE_ESCAPE` -/
def IsCharLit (v : Text) : Prop :=
  ∃ body, v = 39 :: (body ++ [39]) ∧
    ((∃ c, body = [c] ∧ c ≠ 92) ∨ ∃ e, body = 92 :: e ∧ escapeLen e = some e.length)

theorem bind_def {α β} (m : M α) (f : α → M β) (s : St) :
    (m >>= f) s = match m s with
      | .ok a s' => f a s'
      | .err k st v => .err k st v
      | .exc n => .exc n
      | .oof => .oof := rfl

theorem pure_def {α} (a : α) (s : St) : (pure a : M α) s = .ok a s := rfl

/-! ### the methods the model writes on states, as `do` blocks over the primitives

  `boundsLoop`, `prefixLoop` and `acceptPostfixOp` test `peek` on the state by hand; they are
  compositions of `triv`, `optChar`, `scanEmit` and `expect`, and the proofs about them go through
  these equations. -/

section doBlocks
variable {α β : Type}

theorem triv_bind (f : Unit → M β) (s : St) : (triv >>= f) s = f () (skipTrivia s) := rfl

theorem optChar_bind (c : Nat) (kind : TK) (f : Bool → M β) (s : St) :
    (optChar c kind >>= f) s =
      if s.peek = some c then f true ((s.adv 1).emit kind [c]) else f false s := by
  rw [bind_def, optChar]
  by_cases h : s.peek = some c
  · rw [if_pos h, if_pos h]
  · rw [if_neg h, if_neg h]

theorem scanEmit_bind (m : Text → Option Nat) (kind : TK) (f : Bool → M β) (s : St) :
    (scanEmit m kind >>= f) s =
      match m s.rest with
      | some n => f true ((s.adv n).emit kind (s.rest.take n))
      | none => f false s := by
  rw [bind_def, scanEmit]
  cases m s.rest <;> rfl

/-- a loop whose bound is computed from the state it starts in -/
theorem sized_bind (g : Nat → M α) (h : St → Nat) (k : α → M β) (s : St) :
    ((fun s => g (h s) s) >>= k) s = (g (h s) >>= k) s := rfl

end doBlocks

theorem boundsLoop_succ (n : Nat) : boundsLoop (n + 1) = (do
    triv
    let b ← optChar 44 .comma
    if b then boundsLoop n
    else do
      let b ← scanEmit mNumber .number
      if b then boundsLoop n else pure ()) := by
  funext s0
  simp only [triv_bind, optChar_bind, scanEmit_bind, ↓reduceIte, Bool.false_eq_true]
  rfl

theorem prefixLoop_succ (n : Nat) : prefixLoop (n + 1) = (do
    let b ← optChar 38 .posPred
    if b then do triv; prefixLoop n
    else do
      let b ← optChar 33 .negPred
      if b then do triv; prefixLoop n else pure ()) := by
  funext s
  simp only [triv_bind, optChar_bind, ↓reduceIte, Bool.false_eq_true]
  rfl

theorem acceptPostfixOp_eq : acceptPostfixOp = (do
    triv
    let b ← optChar 63 .optionOp
    if b then pure true
    else do
      let b ← optChar 42 .repeatOp
      if b then pure true
      else do
        let b ← optChar 43 .repeatOnceOp
        if b then pure true
        else do
          let b ← optChar 123 .lbrace
          if b then do
            (fun s => boundsLoop (s.rest.length + 1) s)
            triv
            expect 125 .rbrace .expectedRBrace
            pure true
          else pure false) := by
  funext s0
  rw [triv_bind, optChar_bind, acceptPostfixOp]
  dsimp only
  by_cases h1 : (skipTrivia s0).peek = some 63
  · rw [if_pos h1, if_pos h1, if_pos rfl, pure_def]
  · rw [if_neg h1, if_neg h1, if_neg Bool.false_ne_true, optChar_bind]
    by_cases h2 : (skipTrivia s0).peek = some 42
    · rw [if_pos h2, if_pos h2, if_pos rfl, pure_def]
    · rw [if_neg h2, if_neg h2, if_neg Bool.false_ne_true, optChar_bind]
      by_cases h3 : (skipTrivia s0).peek = some 43
      · rw [if_pos h3, if_pos h3, if_pos rfl, pure_def]
      · rw [if_neg h3, if_neg h3, if_neg Bool.false_ne_true, optChar_bind]
        by_cases h4 : (skipTrivia s0).peek = some 123
        · rw [if_pos h4, if_pos h4, if_pos rfl]
          exact (sized_bind boundsLoop (fun s => s.rest.length + 1) _ _).symm
        · rw [if_neg h4, if_neg h4, if_neg Bool.false_ne_true, pure_def]

theorem stringLoop_plain (kind : TK) (n : Nat) (body : Text) (esc : Bool) {s : St} {c : Nat}
    {r : Text} (hs : s.rest = c :: r) (h1 : c ≠ 92) (h2 : c ≠ 34) :
    stringLoop kind (n + 1) body esc s = stringLoop kind n (c :: body) esc (s.adv 1) := by
  dsimp only [stringLoop]
  split
  · rename_i heq; rw [hs] at heq; cases heq
  · rename_i heq; rw [hs] at heq; cases heq; omega
  · rename_i heq; rw [hs] at heq; cases heq; omega
  · rename_i heq; rw [hs] at heq; cases heq; rfl

theorem stringLoop_esc (kind : TK) (n : Nat) (body : Text) (esc : Bool) {s : St} {r : Text}
    {k : Nat} (hs : s.rest = 92 :: r) (hk : mEscape r = some k) :
    stringLoop kind (n + 1) body esc s =
      stringLoop kind n ((r.take k).reverse ++ 92 :: body) true ((s.adv 1).adv k) := by
  simp only [stringLoop, hs, hk]

theorem stringLoop_close_raw (kind : TK) (n : Nat) (body : Text) {s : St} {r : Text}
    (hs : s.rest = 34 :: r) :
    stringLoop kind (n + 1) body false s = .ok true ((s.adv 1).emit kind body.reverse) := by
  simp [stringLoop, hs]

theorem stringLoop_close_esc (kind : TK) (n : Nat) (body : Text) {s : St} {r v : Text}
    (hs : s.rest = 34 :: r) (hv : Unescape.unescape body.reverse = .ok v) :
    stringLoop kind (n + 1) body true s = .ok true ((s.adv 1).emit kind v) := by
  simp [stringLoop, hs, hv]

/-! ### what each regular expression matches -/

/-- the model's `spanLen` is the library's `takeWhile`, measured -/
theorem spanLen_eq (p : Nat → Bool) : ∀ t : Text, spanLen p t = (t.takeWhile p).length
  | [] => rfl
  | c :: r => by
    simp only [spanLen, List.takeWhile_cons, spanLen_eq p r]
    cases p c <;> simp

theorem take_spanLen (p : Nat → Bool) (t : Text) : t.take (spanLen p t) = t.takeWhile p := by
  rw [spanLen_eq]
  exact (congrArg (List.take _) (List.takeWhile_append_dropWhile (p := p) (l := t)).symm).trans
    (List.take_left' rfl)

theorem drop_spanLen (p : Nat → Bool) (t : Text) : t.drop (spanLen p t) = t.dropWhile p := by
  rw [spanLen_eq]
  exact (congrArg (List.drop _) (List.takeWhile_append_dropWhile (p := p) (l := t)).symm).trans
    (List.drop_left' rfl)

theorem spanLen_le (p : Nat → Bool) : ∀ t, spanLen p t ≤ t.length := fun t => by
  rw [spanLen_eq]; exact (List.takeWhile_sublist p).length_le

theorem spanLen_take (p : Nat → Bool) : ∀ (t : Text), ∀ c ∈ t.take (spanLen p t), p c = true := fun t => by
  rw [take_spanLen]; exact List.all_eq_true.1 List.all_takeWhile

/-- the model's `startsWith` is the library's prefix order -/
theorem startsWith_eq : ∀ (t lit : Text), startsWith t lit = lit.isPrefixOf t
  | _, [] => by simp [startsWith]
  | [], _ :: _ => by simp [startsWith]
  | c :: r, d :: l => by
    simp only [startsWith, List.isPrefixOf_cons_cons, startsWith_eq r l]
    rw [BEq.comm (a := c)]

theorem startsWith_iff {t lit : Text} : startsWith t lit = true ↔ lit <+: t := by
  rw [startsWith_eq, List.isPrefixOf_iff_prefix]

theorem take_of_startsWith : ∀ (t lit : Text), startsWith t lit = true → t.take lit.length = lit :=
  fun _ _ h => (List.prefix_iff_eq_take.1 (startsWith_iff.1 h)).symm

theorem startsWith_length (t lit : Text) (h : startsWith t lit = true) : lit.length ≤ t.length :=
  (startsWith_iff.1 h).length_le

theorem mLit_some {lit t : Text} {n : Nat} (h : mLit lit t = some n) :
    n = lit.length ∧ n ≤ t.length ∧ t.take n = lit := by
  unfold mLit at h
  split at h
  · rename_i hs
    cases h
    exact ⟨rfl, startsWith_length t lit hs, take_of_startsWith t lit hs⟩
  · cases h

theorem startsWith_take : ∀ (t lit : Text) (n : Nat), startsWith (t.take n) lit = true →
    startsWith t lit = true :=
  fun t _ n h => startsWith_iff.2 ((startsWith_iff.1 h).trans (List.take_prefix n t))

theorem all_take_span (p : Nat → Bool) (t : Text) : (t.take (spanLen p t)).all p = true := by
  rw [take_spanLen]; exact List.all_takeWhile

theorem mIdentifier_some {t : Text} {n : Nat} (h : mIdentifier t = some n) :
    1 ≤ n ∧ n ≤ t.length ∧ ∃ c r, t.take n = c :: r ∧ isIdentStart c = true ∧
      r.all isIdentChar = true ∧ startsWith (t.take n) sPUSH = false := by
  unfold mIdentifier at h
  split at h
  · cases h
  · rename_i hp
    split at h
    · rename_i c r
      split at h
      · rename_i hc
        cases h
        have := spanLen_le isIdentChar r
        refine ⟨Nat.le_add_left .., by simp only [List.length_cons]; omega,
          c, r.take (spanLen isIdentChar r), by simp [List.take_succ_cons], hc, all_take_span _ r, ?_⟩
        cases hs : startsWith (List.take (spanLen isIdentChar r + 1) (c :: r)) sPUSH with
        | false => rfl
        | true => exact absurd (startsWith_take _ _ _ hs) hp
      · cases h
    · cases h

theorem mTag_some {t : Text} {n : Nat} (h : mTag t = some n) :
    1 ≤ n ∧ n ≤ t.length ∧ ∃ c r, t.take n = 35 :: c :: r ∧ isIdentStart c = true ∧
      r.all isIdentChar = true := by
  unfold mTag at h
  split at h
  · rename_i c r
    split at h
    · rename_i hc
      cases h
      have := spanLen_le isIdentChar r
      exact ⟨Nat.le_add_left .., by simp only [List.length_cons]; omega,
        c, r.take (spanLen isIdentChar r), by simp [List.take_succ_cons], hc, all_take_span _ r⟩
    · cases h
  · cases h

theorem mNumber_some {t : Text} {n : Nat} (h : mNumber t = some n) :
    1 ≤ n ∧ n ≤ t.length ∧ IsDigits (t.take n) := by
  unfold mNumber at h
  simp only at h
  split at h
  · cases h
  · rename_i hz
    cases h
    have hle := spanLen_le isDigit t
    refine ⟨by omega, hle, ?_, spanLen_take isDigit t⟩
    intro he
    have : (t.take (spanLen isDigit t)).length = 0 := by rw [he]; rfl
    rw [List.length_take] at this
    omega

theorem mInteger_some {t : Text} {n : Nat} (h : mInteger t = some n) :
    1 ≤ n ∧ n ≤ t.length ∧ (IsDigits (t.take n) ∨ ∃ zs d ds, t.take n = 45 :: (zs ++ d :: ds) ∧
      (∀ z ∈ zs, z = 48) ∧ 49 ≤ d ∧ d ≤ 57 ∧ ∀ c ∈ ds, isDigit c = true) := by
  unfold mInteger at h
  split at h
  · rename_i k hk
    cases h
    obtain ⟨h1, h2, h3⟩ := mNumber_some hk
    exact ⟨h1, h2, .inl h3⟩
  · split at h
    · rename_i r _
      simp only at h
      split at h
      · rename_i d r' hdrop
        split at h
        · rename_i hd
          cases h
          have hk := spanLen_le isDigit r'
          have hlen : r.length = spanLen (· == 48) r + (r'.length + 1) := by
            have := congrArg List.length hdrop
            rw [List.length_drop, List.length_cons] at this
            have := spanLen_le (· == 48) r
            omega
          simp only [Bool.and_eq_true, decide_eq_true_eq] at hd
          refine ⟨by omega, by rw [List.length_cons]; omega, .inr ⟨r.take (spanLen (· == 48) r), d,
            r'.take (spanLen isDigit r'), ?_, fun z hz => ?_, hd.1, hd.2, spanLen_take isDigit r'⟩⟩
          · rw [show 1 + spanLen (· == 48) r + 1 + spanLen isDigit r' =
              spanLen (· == 48) r + (spanLen isDigit r' + 1) + 1 by omega, List.take_succ_cons,
              List.take_add, hdrop, List.take_succ_cons]
          · simpa using spanLen_take (· == 48) r z hz
        · cases h
      · cases h
    · cases h

theorem isDigits_sig {zs : Text} {d : Nat} {ds : Text} (hz : ∀ z ∈ zs, z = 48) (hd1 : 49 ≤ d)
    (hd2 : d ≤ 57) (hds : ∀ c ∈ ds, isDigit c = true) : IsDigits (zs ++ d :: ds) := by
  refine ⟨by simp, fun c hc => ?_⟩
  rcases List.mem_append.mp hc with hc | hc
  · rw [hz c hc]; decide
  · rcases List.mem_cons.mp hc with rfl | hc
    · simp only [isDigit, Bool.and_eq_true, decide_eq_true_eq]; omega
    · exact hds c hc

/-- the hypothesis is `IsIntTok w` (Lemmas/FrontInvCst.lean) written out, as `mInteger_some` gives it -/
theorem isIntLit_of_intTok {w : Text}
    (h : IsDigits w ∨ ∃ zs d ds, w = 45 :: (zs ++ d :: ds) ∧
      (∀ z ∈ zs, z = 48) ∧ 49 ≤ d ∧ d ≤ 57 ∧ ∀ c ∈ ds, isDigit c = true) : IsIntLit w := by
  rcases h with h | ⟨zs, d, ds, e, hz, hd1, hd2, hds⟩
  · exact .inl h
  · exact .inr ⟨_, e, isDigits_sig hz hd1 hd2 hds⟩

theorem mModifier_some {t : Text} {n : Nat} (h : mModifier t = some n) :
    1 ≤ n ∧ n ≤ t.length ∧ ∃ c, t.take n = [c] ∧ (c = 95 ∨ c = 64 ∨ c = 36 ∨ c = 33) := by
  unfold mModifier at h
  split at h
  · rename_i c r
    split at h
    · rename_i hc
      cases h
      exact ⟨Nat.le_refl 1, by simp, c, by simp, by simpa [or_assoc] using hc⟩
    · cases h
  · cases h

theorem wsLen_le (t : Text) : wsLen t ≤ t.length := by
  fun_induction wsLen t with
  | case1 => simp
  | case2 r ih => simp only [List.length_cons]; omega
  | case3 c r _ hc ih => simp only [List.length_cons]; omega
  | case4 c r _ hc => simp

theorem mWhitespace_some {t : Text} {n : Nat} (h : mWhitespace t = some n) :
    1 ≤ n ∧ n ≤ t.length := by
  unfold mWhitespace at h
  simp only at h
  split at h
  · cases h
  · cases h
    have := wsLen_le t
    omega

theorem mLineComment_some {t : Text} {n : Nat} (h : mLineComment t = some n) :
    1 ≤ n ∧ n ≤ t.length := by
  unfold mLineComment at h
  split at h
  · rename_i r
    split at h
    · rename_i c r'
      split at h
      · cases h
      · cases h
        have := spanLen_le (· != 10) (c :: r')
        simp only [List.length_cons] at this ⊢
        omega
    · cases h; simp
  · cases h

theorem map_add_bounds {o : Option Nat} {a n m : Nat} (h : o.map (· + a) = some n)
    (ih : ∀ k, o = some k → k ≤ m) : a ≤ n ∧ n ≤ m + a := by
  cases o with
  | none => cases h
  | some k => cases h; exact ⟨Nat.le_add_left a k, Nat.add_le_add_right (ih k rfl) a⟩

theorem blockBody_le (d : Nat) (t : Text) : ∀ n, blockBody d t = some n → n ≤ t.length := by
  fun_induction blockBody d t with
  | case1 => intro n h; cases h
  | case2 r => intro n h; cases h; simp
  | case3 r d ih => exact fun n h => (map_add_bounds (a := 2) h ih).2
  | case4 depth r ih => exact fun n h => (map_add_bounds (a := 2) h ih).2
  | case5 depth c r _ _ ih => exact fun n h => (map_add_bounds h ih).2

theorem mBlockComment_some {t : Text} {n : Nat} (h : mBlockComment t = some n) :
    1 ≤ n ∧ n ≤ t.length := by
  unfold mBlockComment at h
  split at h
  · rename_i r
    have ⟨h1, h2⟩ := map_add_bounds h (blockBody_le 0 r)
    exact ⟨Nat.le_trans (by decide) h1, h2⟩
  · cases h

theorem escapeLen_some {t : Text} {n : Nat} (h : escapeLen t = some n) :
    1 ≤ n ∧ n ≤ t.length ∧ escapeLen (t.take n) = some n := by
  obtain ⟨x, rest, v, rfl, rfl, hx⟩ := Unescape.escapeLen_iff.1 h
  refine ⟨hx.length_pos, by simp, ?_⟩
  rw [List.take_left]
  exact Unescape.escapeLen_whole.2 ⟨v, hx⟩

theorem mChar_some {t : Text} {n : Nat} (h : mChar t = some n) :
    1 ≤ n ∧ n ≤ t.length ∧ IsCharLit (t.take n) := by
  unfold mChar at h
  split at h
  · rename_i r
    split at h
    · rename_i k hk
      split at h
      · rename_i hq
        cases h
        obtain ⟨hk1, hk2, hk3⟩ := escapeLen_some hk
        obtain ⟨tl, htl⟩ := List.head?_eq_some_iff.mp hq
        have hlen : k + 1 ≤ r.length := by
          have := congrArg List.length htl
          simp only [List.length_drop, List.length_cons] at this
          omega
        refine ⟨by omega, by simp only [List.length_cons]; omega, 92 :: r.take k, ?_, .inr ⟨r.take k, rfl, ?_⟩⟩
        · have : k + 3 = (k + 1) + 1 + 1 := by omega
          rw [this, List.take_succ_cons, List.take_succ_cons, List.take_add, htl]
          rfl
        · rw [List.length_take, Nat.min_eq_left (by omega)]
          exact hk3
      · cases h
    · cases h
  · rename_i c r hne
    cases h
    refine ⟨by omega, by simp, [c], by simp, .inl ⟨c, rfl, ?_⟩⟩
    intro hc
    subst hc
    exact hne rfl
  · cases h

theorem findNewline_le (t : Text) : ∀ n, findNewline t = some n → n ≤ t.length := by
  fun_induction findNewline t with
  | case1 => intro n h; cases h
  | case2 r => intro n h; cases h; simp
  | case3 r => intro n h; cases h; simp
  | case4 c r _ _ ih => exact fun n h => (map_add_bounds h ih).2

@[simp] theorem adv_rest_length (s : St) (n : Nat) : (s.adv n).rest.length = s.rest.length - n := by
  simp [St.adv]
@[simp] theorem adv_pos (s : St) (n : Nat) : (s.adv n).pos = s.pos + n := rfl
@[simp] theorem adv_start (s : St) (n : Nat) : (s.adv n).start = s.start := rfl
@[simp] theorem adv_toks (s : St) (n : Nat) : (s.adv n).toks = s.toks := rfl
@[simp] theorem emit_rest (s : St) (k : TK) (v : Text) : (s.emit k v).rest = s.rest := rfl
@[simp] theorem emit_pos (s : St) (k : TK) (v : Text) : (s.emit k v).pos = s.pos := rfl
@[simp] theorem emit_start (s : St) (k : TK) (v : Text) : (s.emit k v).start = s.pos := rfl

theorem peek_iff {s : St} {c : Nat} : s.peek = some c ↔ ∃ r, s.rest = c :: r := by
  unfold St.peek
  cases s.rest with
  | nil => simp
  | cons x r => simp

theorem peek_some {s : St} {c : Nat} (h : s.peek = some c) : 1 ≤ s.rest.length := by
  obtain ⟨r, hr⟩ := peek_iff.1 h
  simp [hr]

/-! ### `skip_trivia` -/

def MatchOK (m : Text → Option Nat) : Prop := ∀ t n, m t = some n → 1 ≤ n ∧ n ≤ t.length

/-- closed under what `skip` does to a state on a match: `self.pos += n; self.start = self.pos` -/
def SkipClosed (P : St → Prop) : Prop :=
  ∀ s n, n ≤ s.rest.length → P s → P { s.adv n with start := (s.adv n).pos }

/-- `s'` comes from `s` by `skip`'s own steps, so that whatever those preserve holds of `s'` (the state
    invariant of the totality proof is read off here: `Inv.skipTrivia`, Lemmas/FrontTotalScan.lean) -/
structure Skipped (s : St) (b : Bool) (s' : St) : Prop where
  same : b = false → s' = s
  lt : b = true → s'.rest.length < s.rest.length
  inv : ∀ {P}, SkipClosed P → P s → P s'

theorem Skipped.le {s s' : St} {b : Bool} (h : Skipped s b s') : s'.rest.length ≤ s.rest.length := by
  cases b
  · rw [h.same rfl]; exact Nat.le_refl _
  · exact Nat.le_of_lt (h.lt rfl)

theorem Skipped.or {s s₁ s₂ : St} {a b : Bool} (h : Skipped s a s₁) (h' : Skipped s₁ b s₂) :
    Skipped s (a || b) s₂ := by
  refine ⟨fun e => ?_, fun e => ?_, fun hP hs => h'.inv hP (h.inv hP hs)⟩
  · rw [Bool.or_eq_false_iff] at e
    rw [h'.same e.2, h.same e.1]
  · cases a
    · rw [← h.same rfl]; exact h'.lt e
    · exact Nat.lt_of_le_of_lt h'.le (h.lt rfl)

theorem skip_skipped {m : Text → Option Nat} (hm : MatchOK m) (s : St) :
    Skipped s (skip m s).1 (skip m s).2 := by
  unfold skip
  cases h : m s.rest with
  | none => exact ⟨fun _ => rfl, fun e => (nomatch e), fun _ hs => hs⟩
  | some n =>
    obtain ⟨h1, h2⟩ := hm _ _ h
    refine ⟨fun e => (nomatch e), fun _ => ?_, fun hP hs => hP s n h2 hs⟩
    show (s.adv n).rest.length < _
    rw [adv_rest_length]; omega

theorem triviaRound_fst (s : St) :
    (triviaRound s).1 =
      ((skip mWhitespace s).1 || (skip mLineComment (skip mWhitespace s).2).1 ||
          (skip mBlockComment (skip mLineComment (skip mWhitespace s).2).2).1) := by
  unfold triviaRound; rfl

theorem triviaRound_snd (s : St) :
    (triviaRound s).2 = (skip mBlockComment (skip mLineComment (skip mWhitespace s).2).2).2 := by
  unfold triviaRound; rfl

theorem triviaRound_skipped (s : St) : Skipped s (triviaRound s).1 (triviaRound s).2 := by
  rw [triviaRound_fst, triviaRound_snd]
  exact ((skip_skipped (fun _ _ => mWhitespace_some) s).or
    (skip_skipped (fun _ _ => mLineComment_some) _)).or (skip_skipped (fun _ _ => mBlockComment_some) _)

theorem skipTriviaN_succ (n : Nat) (s : St) :
    skipTriviaN (n + 1) s =
      if (triviaRound s).1 = true then skipTriviaN n (triviaRound s).2 else (triviaRound s).2 := by
  rw [skipTriviaN]

theorem skipTriviaN_spec : ∀ (n : Nat) (s : St), s.rest.length < n →
    (skipTriviaN n s).rest.length ≤ s.rest.length ∧ (triviaRound (skipTriviaN n s)).1 = false ∧
      ∀ P, SkipClosed P → P s → P (skipTriviaN n s)
  | 0, s, h => by omega
  | n + 1, s, h => by
    have hr := triviaRound_skipped s
    rw [skipTriviaN_succ]
    cases ha : (triviaRound s).1 with
    | true =>
      have hlt := hr.lt ha
      obtain ⟨i1, i2, i3⟩ := skipTriviaN_spec n (triviaRound s).2 (by omega)
      rw [if_pos rfl]
      exact ⟨by omega, i2, fun P hP hs => i3 P hP (hr.inv hP hs)⟩
    | false =>
      rw [if_neg (by decide)]
      refine ⟨hr.le, ?_, fun P hP hs => hr.inv hP hs⟩
      rw [hr.same ha]; exact ha

/-- the bound of `skip_trivia` suffices: it stops because no pattern matches any more -/
theorem skipTrivia_done (s : St) : (triviaRound (skipTrivia s)).1 = false :=
  (skipTriviaN_spec _ s (Nat.lt_succ_self _)).2.1

theorem skipTrivia_len (s : St) : (skipTrivia s).rest.length ≤ s.rest.length :=
  (skipTriviaN_spec _ s (Nat.lt_succ_self _)).1

/-! the kinds of an identifier token; in `PRT` because the proofs about the grammar parser
    (Lemmas/FrontParseKit.lean) read them as well -/
namespace PRT

theorem keywordKind_cases (v : Text) :
    (v = sPEEK ∧ keywordKind v = .peek) ∨ keywordKind v = .peekAll ∨ keywordKind v = .pop ∨
      keywordKind v = .popAll ∨ keywordKind v = .drop ∨ keywordKind v = .identifier := by
  unfold keywordKind
  by_cases h1 : v = sPEEK
  · rw [if_pos h1]; exact .inl ⟨h1, rfl⟩
  rw [if_neg h1]
  by_cases h2 : v = sPEEK_ALL
  · rw [if_pos h2]; exact .inr (.inl rfl)
  rw [if_neg h2]
  by_cases h3 : v = sPOP
  · rw [if_pos h3]; exact .inr (.inr (.inl rfl))
  rw [if_neg h3]
  by_cases h4 : v = sPOP_ALL
  · rw [if_pos h4]; exact .inr (.inr (.inr (.inl rfl)))
  rw [if_neg h4]
  by_cases h5 : v = sDROP
  · rw [if_pos h5]; exact .inr (.inr (.inr (.inr (.inl rfl))))
  rw [if_neg h5]
  exact .inr (.inr (.inr (.inr (.inr rfl))))

def identKinds : List TK := [.peek, .peekAll, .pop, .popAll, .drop, .identifier]

theorem keywordKind_mem (v : Text) : keywordKind v ∈ identKinds := by
  rcases keywordKind_cases v with ⟨_, h⟩ | h | h | h | h | h <;> rw [h] <;> decide

theorem keywordKind_ne_string (v : Text) : keywordKind v ≠ .string ∧ keywordKind v ≠ .stringCI :=
  (by decide : ∀ k ∈ identKinds, k ≠ .string ∧ k ≠ .stringCI) _ (keywordKind_mem v)

end PRT

/-- the rank of a state function: a call either consumes a character or continues with a
    state function of lower rank -/
def rank : Fn → Nat
  | .grammarDocInner => 2
  | .grammar => 1
  | .ruleDocInner => 1
  | .grammarRule => 0

def Step (fn : Fn) : Option Fn → Nat → Nat → Prop :=
  fun next l' l => ∀ fn', next = some fn' → 3 * l' + rank fn' < 3 * l + rank fn

theorem Step.mono {fn : Fn} {next : Option Fn} {l₂ l₁ l₀ : Nat} (h : l₁ ≤ l₀)
    (h' : Step fn next l₂ l₁) : Step fn next l₂ l₀ :=
  fun fn' e => Nat.lt_of_lt_of_le (h' fn' e) (Nat.add_le_add_right (Nat.mul_le_mul_left 3 h) _)

theorem Step.of_rank {fn fn' : Fn} {l' l : Nat} (hr : rank fn' < rank fn) (h : l' ≤ l) :
    Step fn (some fn') l' l :=
  fun _ e => by cases e; exact Nat.add_lt_add_of_le_of_lt (Nat.mul_le_mul_left 3 h) hr

theorem Step.of_lt {fn fn' : Fn} {l' l : Nat} (h : l' + 1 ≤ l) : Step fn (some fn') l' l :=
  fun _ e => by
    cases e
    have : rank fn' < 3 := by cases fn' <;> decide
    omega

end Front
end Pest
