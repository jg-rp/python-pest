/-
  Lemmas/Calc.lean — helper lemmas for the calculator half of C17 (statements of the
  property are in Props/C17.lean).

    1. the climbing loop of prec_climber.py *is* the Pratt loop of src/pest/pratt.py on the
       same table (`climbExpr_eq`): structural, for every configuration and `min_prec`
    2. the grammar-encoded nesting, walked, is a tree over the tokens that is `Good` for
       every calculator-shaped table whose levels are in the documented order
       (`encodedTree_spec`), level by level
    3. `build` only looks at the parentheses that occur in the tree (`build_congr`) and
       succeeds on trees of the right shape (`build_total`)
-/
import PestModel.Calc
import PestModel.Lemmas.Pratt

namespace Pest
namespace Calc
open Pratt

/-! ### climbing = Pratt on the same table -/

theorem climbLoop_eq (C : ClimbCfg) (rec1 : List Tok → Nat → CRes) (rec2 : List Tok → Nat → Res Tok)
    (hrec : ∀ ts p, wf C.table true ts = true → rec1 ts p = CRes.ofPratt (rec2 ts p))
    (hok : ∀ ts p t rest, rec2 ts p = .ok t rest → wf C.table false rest = wf C.table true ts) :
    ∀ (g : Nat) (prec : Nat) (left : T) (ts : List Tok), wf C.table false ts = true →
      climbLoop C rec1 prec g left ts = CRes.ofPratt (loop C.table rec2 prec g left ts) := by
  intro g
  induction g with
  | zero => intro prec left ts _; rfl
  | succ g ih =>
    intro prec left ts hw
    cases ts with
    | nil => rfl
    | cons tok ts' =>
      dsimp only [climbLoop, loop]
      by_cases hpo : C.isPostfix tok = true
      · have hpost : C.table.post tok = some (C.precOf tok) := if_pos hpo
        simp only [hpost, hpo, Bool.or_true, if_true]
        by_cases hlt : C.precOf tok < prec
        · simp [hlt, CRes.ofPratt]
        · simp only [hlt, if_false]
          exact ih _ _ _ ((wf_post hpost).symm.trans hw)
      · have hpost : C.table.post tok = none := if_neg hpo
        simp only [hpost]
        by_cases hin : C.isInfix tok = true
        · have hinf : C.table.inf tok = some (C.precOf tok, C.isRight tok) := if_pos hin
          simp only [hinf, hin, Bool.true_or, if_true]
          have hw' : wf C.table true ts' = true := (wf_inf hpost hinf).symm.trans hw
          by_cases hlt : C.precOf tok < prec
          · simp [hlt, CRes.ofPratt]
          · simp only [hlt, if_false, hpo, Bool.false_eq_true]
            have harg : (if C.isRight tok = true then C.precOf tok else C.precOf tok + 1)
                = C.precOf tok + (if C.isRight tok = true then 0 else 1) := by
              cases C.isRight tok <;> simp
            rw [harg, hrec _ _ hw']
            cases hr : rec2 ts' (C.precOf tok + if C.isRight tok = true then 0 else 1) with
            | ok rhs ts'' =>
              simp only [CRes.ofPratt]
              apply ih
              rw [hok _ _ _ _ hr]; exact hw'
            | eof => rfl
            | fuel => rfl
        · have hinf : C.table.inf tok = none := if_neg hin
          rw [wf_other hpost hinf] at hw; cases hw

theorem climbExpr_eq (C : ClimbCfg) :
    ∀ (f : Nat) (ts : List Tok) (p : Nat), wf C.table true ts = true →
      climbExpr C f ts p = CRes.ofPratt (expr C.table f ts p) := by
  intro f
  induction f with
  | zero => intro ts p _; rfl
  | succ f ih =>
    intro ts p hw
    cases ts with
    | nil => rfl
    | cons tok ts' =>
      dsimp only [climbExpr, expr, climbStep, exprStep]
      have hok : ∀ ts p t rest, expr C.table f ts p = .ok t rest →
          wf C.table false rest = wf C.table true ts := fun ts p t rest h => (expr_post _ f ts p t rest h).wf_rest
      by_cases hpr : C.isPrefix tok = true
      · have hpre : C.table.pre tok = some C.pre := if_pos hpr
        have hw' : wf C.table true ts' = true := (wf_pre hpre).symm.trans hw
        simp only [hpre, hpr, if_true]
        rw [ih _ _ hw']
        cases hr : expr C.table f ts' C.pre with
        | ok rhs ts'' =>
          simp only [CRes.ofPratt]
          apply climbLoop_eq C _ _ ih hok
          rw [hok _ _ _ _ hr]; exact hw'
        | eof => rfl
        | fuel => rfl
      · have hpre : C.table.pre tok = none := if_neg hpr
        simp only [hpre, hpr, if_false, Bool.false_eq_true]
        exact climbLoop_eq C _ _ ih hok _ _ _ _ ((wf_leaf hpre).symm.trans hw)

/-! ### the grammar-encoded tree is the tree every documented table demands -/

/-- every token of the tree is used in its calculator role -/
def Shape : T → Prop
  | .leaf n => n.isPrimary = true
  | .pre o r => o = .neg ∧ Shape r
  | .post l o => o = .fac ∧ Shape l
  | .bin l o r => o.isInfix = true ∧ Shape l ∧ Shape r

theorem infix_table (L : Levels) {o : Tok} (h : o.isInfix = true) :
    L.table.post o = none ∧ (L.table.inf o).isSome = true := by
  cases o with
  | add | sub | mul | div | pow => exact ⟨rfl, rfl⟩
  | _ => cases h

theorem shape_lex (L : Levels) : ∀ t : T, Shape t → Lex L.table t
  | .leaf n, h => by
    show L.table.pre n = none
    cases n with
    | int _ | var _ | paren _ => rfl
    | _ => cases h
  | .pre _ r, ⟨ho, hr⟩ => by subst ho; exact ⟨rfl, shape_lex L r hr⟩
  | .post l _, ⟨ho, hl⟩ => by subst ho; exact ⟨rfl, shape_lex L l hl⟩
  | .bin l _ r, ⟨ho, hl, hr⟩ => ⟨(infix_table L ho).1, (infix_table L ho).2, shape_lex L l hl, shape_lex L r hr⟩

/-- a tree of the right shape that is `Good`, in which every operator exposed on the left edge
    has power at least `a` and every operator exposed on the right edge at least `b` -/
structure Lvl (L : Levels) (a b : Nat) (t : T) : Prop where
  shape : Shape t
  good : Good L.table t
  le : ∀ x ∈ ledge L.table t, a ≤ x
  re : ∀ x ∈ redge L.table t, b ≤ x

section powers
variable (L : Levels)
theorem preR_neg : L.table.preR .neg = 2 * L.neg := rfl
theorem postL_fac : L.table.postL .fac = 2 * L.fac + 1 := rfl
theorem infL_add : L.table.infL .add = 2 * L.add + 1 := rfl
theorem infL_sub : L.table.infL .sub = 2 * L.add + 1 := rfl
theorem infL_mul : L.table.infL .mul = 2 * L.mul + 1 := rfl
theorem infL_div : L.table.infL .div = 2 * L.mul + 1 := rfl
theorem infL_pow : L.table.infL .pow = 2 * L.pow + 1 := rfl
theorem infR_add : L.table.infR .add = 2 * L.add + 2 := rfl
theorem infR_sub : L.table.infR .sub = 2 * L.add + 2 := rfl
theorem infR_mul : L.table.infR .mul = 2 * L.mul + 2 := rfl
theorem infR_div : L.table.infR .div = 2 * L.mul + 2 := rfl
theorem infR_pow : L.table.infR .pow = 2 * L.pow := rfl
end powers

namespace Lvl
variable {L : Levels} {a b a' b' : Nat}

theorem weaken {t : T} (h : Lvl L a b t) (ha : a' ≤ a) (hb : b' ≤ b) : Lvl L a' b' t :=
  ⟨h.shape, h.good, fun x hx => Nat.le_trans ha (h.le x hx), fun x hx => Nat.le_trans hb (h.re x hx)⟩

theorem leaf {p : Tok} (hp : p.isPrimary = true) : Lvl L a b (.leaf p) :=
  ⟨hp, trivial, fun _ hx => (nomatch hx), fun _ hx => (nomatch hx)⟩

theorem post {acc : T} (h : Lvl L a b acc) (ha : 2 * L.fac + 1 ≤ a) (hb : 2 * L.fac + 1 < b) :
    Lvl L (2 * L.fac + 1) b' (.post acc .fac) :=
  ⟨⟨rfl, h.shape⟩, ⟨h.good, fun x hx => Nat.lt_of_lt_of_le hb (h.re x hx)⟩,
    List.forall_mem_cons.mpr ⟨Nat.le_refl _, fun x hx => Nat.le_trans ha (h.le x hx)⟩, nofun⟩

theorem pre {t : T} (h : Lvl L a b t) (ha : 2 * L.neg ≤ a) (hb : 2 * L.neg ≤ b) :
    Lvl L a' (2 * L.neg) (.pre .neg t) :=
  ⟨⟨rfl, h.shape⟩, ⟨h.good, fun x hx => Nat.le_trans ha (h.le x hx)⟩, nofun,
    List.forall_mem_cons.mpr ⟨Nat.le_refl _, fun x hx => Nat.le_trans hb (h.re x hx)⟩⟩

/-- an infix operator that holds both operands exposes its own powers and, below them, the
    left edge of the left operand and the right edge of the right operand -/
theorem bin {c d : Nat} {l r : T} {o : Tok} (ho : o.isInfix = true) (hl : Lvl L a b l) (hr : Lvl L c d r)
    (h1 : L.table.infL o < b) (h2 : L.table.infR o ≤ c) :
    Lvl L (min (L.table.infL o) a) (min (L.table.infR o) d) (.bin l o r) :=
  ⟨⟨ho, hl.shape, hr.shape⟩,
    ⟨hl.good, hr.good, fun x hx => Nat.lt_of_lt_of_le h1 (hl.re x hx), fun x hx => Nat.le_trans h2 (hr.le x hx)⟩,
    List.forall_mem_cons.mpr
      ⟨Nat.min_le_left _ _, fun x hx => Nat.le_trans (Nat.min_le_right _ _) (hl.le x hx)⟩,
    List.forall_mem_cons.mpr
      ⟨Nat.min_le_left _ _, fun x hx => Nat.le_trans (Nat.min_le_right _ _) (hr.re x hx)⟩⟩

end Lvl

/-- rank of an operator token: the stream position after a level `k` unit never stands at a
    token of rank `≥ k` -/
def opRank : Tok → Nat
  | .fac => 4 | .pow => 3 | .mul => 2 | .div => 2 | .add => 1 | .sub => 1 | _ => 0

def stopAt (k : Nat) : List Tok → Prop
  | [] => True
  | t :: _ => opRank t < k

theorem stopAt_step {k : Nat} {o : Tok} {r : List Tok} (h : stopAt (k + 1) (o :: r)) (hne : opRank o ≠ k) :
    stopAt k (o :: r) :=
  Nat.lt_of_le_of_ne (Nat.le_of_lt_succ h) hne

theorem opRank_le_four (t : Tok) : opRank t ≤ 4 := by
  cases t <;> simp [opRank]

theorem opRank_eq_four {t : Tok} : opRank t = 4 ↔ t = .fac := by
  cases t <;> simp [opRank]

theorem opRank_eq_three {t : Tok} : opRank t = 3 ↔ t = .pow := by
  cases t <;> simp [opRank]

theorem stop_nil_of_wf : ∀ r : List Tok, cwf false r = true → stopAt 1 r → r = []
  | [], _, _ => rfl
  | t :: r, hw, hs => by
    cases t with
    | fac | add | sub | mul | div | pow => exact absurd hs (Nat.not_lt_of_le (by decide))
    | _ => cases hw

theorem cwf_true_cons {t : Tok} {ts : List Tok} (ht : t ≠ .neg) (h : cwf true (t :: ts) = true) :
    t.isPrimary = true ∧ cwf false ts = true := by
  cases t with
  | neg => exact absurd rfl ht
  | _ => exact Bool.and_eq_true_iff.mp h

theorem cwf_false_cons {o : Tok} {ts : List Tok} (ho : o.isInfix = true) (h : cwf false (o :: ts) = true) :
    cwf true ts = true := by
  cases o with
  | add | sub | mul | div | pow => exact h
  | _ => cases ho

/-- `t`, with `r` left over, is a unit of level `k` read off the front of `ts`: the operators it
    exposes have power at least `m`, and `r` does not go on with an operator of rank `≥ k` -/
structure Parsed (L : Levels) (m k : Nat) (ts : List Tok) (t : T) (r : List Tok) : Prop where
  yield : t.flatten ++ r = ts
  lvl : Lvl L m m t
  wf : cwf false r = true
  stop : stopAt k r

theorem Parsed.shorter {L : Levels} {m k : Nat} {ts r : List Tok} {t : T} (h : Parsed L m k ts t r) :
    r.length < ts.length :=
  h.yield ▸ length_lt_flatten_append t r

theorem Parsed.weaken {L : Levels} {m m' k : Nat} {ts r : List Tok} {t : T} (h : Parsed L m k ts t r)
    (hm : m' ≤ m) : Parsed L m' k ts t r :=
  { h with lvl := h.lvl.weaken hm hm }

/-- the parser `nl` of a grammar rule, walked by `wl`, reads a unit of level `k` off every
    well-formed list shorter than `N` -/
def Level (L : Levels) (m k N : Nat) (nl : List Tok → Option (EP × List Tok)) (wl : EP → Option T) : Prop :=
  ∀ ts, ts.length < N → cwf true ts = true → ∃ ep r t, nl ts = some (ep, r) ∧ wl ep = some t ∧ Parsed L m k ts t r

theorem Level.weaken {L : Levels} {m m' k N : Nat} {nl : List Tok → Option (EP × List Tok)} {wl : EP → Option T}
    (h : Level L m k N nl wl) (hm : m' ≤ m) : Level L m' k N nl wl := fun ts hl hw =>
  let ⟨ep, r, t, h1, h2, h3⟩ := h ts hl hw
  ⟨ep, r, t, h1, h2, h3.weaken hm⟩

/-! #### postfix level: `primary ~ fac*` -/

theorem nFacs_fac (r : List Tok) : nFacs (.fac :: r) = (.tok .fac :: (nFacs r).1, (nFacs r).2) := rfl

theorem nFacs_other {t : Tok} (r : List Tok) (h : t ≠ .fac) : nFacs (t :: r) = ([], t :: r) := by
  cases t with
  | fac => exact absurd rfl h
  | _ => rfl

theorem facs_spec (L : Levels) :
    ∀ (ts : List Tok) (acc : T), Lvl L (2 * L.fac + 1) (2 * L.fac + 2) acc → cwf false ts = true →
      ∃ t, wPostfixInner acc (nFacs ts).1 = some t ∧
        Parsed L (2 * L.fac + 1) 4 (acc.flatten ++ ts) t (nFacs ts).2 := by
  intro ts
  induction ts with
  | nil =>
    intro acc ha _
    exact ⟨acc, rfl, rfl, ha.weaken (Nat.le_refl _) (Nat.le_succ _), rfl, trivial⟩
  | cons tok r ih =>
    intro acc ha hw
    by_cases hf : tok = .fac
    · subst hf
      obtain ⟨t, h1, h2⟩ := ih (.post acc .fac) (ha.post (Nat.le_refl _) (Nat.lt_succ_self _)) hw
      rw [nFacs_fac]
      exact ⟨t, h1, flatten_post_append acc .fac r ▸ h2⟩
    · rw [nFacs_other r hf]
      exact ⟨acc, rfl, rfl, ha.weaken (Nat.le_refl _) (Nat.le_succ _), hw,
        stopAt_step (Nat.lt_succ_of_le (opRank_le_four tok)) fun h => hf (opRank_eq_four.mp h)⟩

theorem wPrimary_tok {p : Tok} (hp : p.isPrimary = true) : wPrimary (.tok p) = some (.leaf p) := by
  cases p with
  | int _ | var _ | paren _ => rfl
  | _ => cases hp

theorem postfix_spec (L : Levels) {p : Tok} {r : List Tok} (hp : p.isPrimary = true)
    (hw : cwf false r = true) :
    ∃ ch r' t, nPostfix (p :: r) = some (.node .postfixR ch, r') ∧ wPostfix (.node .postfixR ch) = some t ∧
      Parsed L (2 * L.fac + 1) 4 (p :: r) t r' := by
  obtain ⟨t, h1, h2⟩ := facs_spec L r (.leaf p) (Lvl.leaf hp) hw
  refine ⟨.tok p :: (nFacs r).1, (nFacs r).2, t, by simp [nPostfix, hp], ?_, h2⟩
  simp [wPostfix, wPrimary_tok hp, h1]

/-! #### prefix level: `neg* ~ postfix` -/

theorem nNegs_neg (r : List Tok) : nNegs (.neg :: r) = (.tok .neg :: (nNegs r).1, (nNegs r).2) := rfl

theorem nNegs_other {t : Tok} (r : List Tok) (h : t ≠ .neg) : nNegs (t :: r) = ([], t :: r) := by
  cases t with
  | neg => exact absurd rfl h
  | _ => rfl

theorem wPrefixInner_single (ch : List EP) :
    wPrefixInner [.node .postfixR ch] = wPostfix (.node .postfixR ch) := rfl

theorem wPrefixInner_neg (rest : List EP) :
    wPrefixInner (.tok .neg :: rest) = (wPrefixInner rest).map (.pre .neg) := by
  cases rest <;> rfl

theorem negs_spec (L : Levels) (hL : L.Ordered) :
    ∀ ts : List Tok, cwf true ts = true →
      ∃ ch r t, nPostfix (nNegs ts).2 = some (.node .postfixR ch, r) ∧
        wPrefixInner ((nNegs ts).1 ++ [.node .postfixR ch]) = some t ∧ Parsed L (2 * L.neg) 4 ts t r := by
  intro ts
  have hnf : L.neg < L.fac := hL.2.2.2
  induction ts with
  | nil => intro h; cases h
  | cons tok r ih =>
    intro hw
    by_cases hn : tok = .neg
    · subst hn
      obtain ⟨ch, r', t, h1, h2, h4⟩ := ih hw
      rw [nNegs_neg]
      refine ⟨ch, r', .pre .neg t, h1, ?_, ?_⟩
      · rw [List.cons_append, wPrefixInner_neg, h2]; rfl
      · exact ⟨congrArg (Tok.neg :: ·) h4.yield, h4.lvl.pre (Nat.le_refl _) (Nat.le_refl _), h4.wf, h4.stop⟩
    · obtain ⟨hp, hwr⟩ := cwf_true_cons hn hw
      rw [nNegs_other r hn]
      obtain ⟨ch, r', t, h1, h2, h3⟩ := postfix_spec L hp hwr
      exact ⟨ch, r', t, h1, h2, h3.weaken (by omega)⟩

theorem wPrefix_eq_inner (ch : List EP) : wPrefix (.node .prefixR ch) = wPrefixInner ch := by
  cases ch with
  | nil => rfl
  | cons p rest =>
    cases p with
    | tok t => cases t <;> cases rest <;> rfl
    | node r c => cases rest <;> cases r <;> rfl

theorem prefix_spec (L : Levels) (hL : L.Ordered) (ts : List Tok) (hw : cwf true ts = true) :
    ∃ ch r t, nPrefix ts = some (.node .prefixR ch, r) ∧ wPrefix (.node .prefixR ch) = some t ∧
      Parsed L (2 * L.neg) 4 ts t r := by
  obtain ⟨ch, r, t, h1, h2, h3⟩ := negs_spec L hL ts hw
  exact ⟨(nNegs ts).1 ++ [.node .postfixR ch], r, t, by simp [nPrefix, h1], wPrefix_eq_inner _ ▸ h2, h3⟩

/-! #### `pow_expr = prefix ~ (pow ~ pow_expr)?` -/

theorem nPow_pow {f : Nat} {ts r2 r' : List Tok} {p q : EP} (h1 : nPrefix ts = some (p, .pow :: r2))
    (g1 : nPow f r2 = some (q, r')) : nPow (f + 1) ts = some (.node .powExpr [p, .tok .pow, q], r') := by
  simp [nPow, h1, g1]

theorem nPow_stop {f : Nat} {ts r : List Tok} {p : EP} (h1 : nPrefix ts = some (p, r))
    (hr : ∀ r2, r ≠ .pow :: r2) : nPow (f + 1) ts = some (.node .powExpr [p], r) := by
  cases r with
  | nil => simp [nPow, h1]
  | cons tk r2 =>
    cases tk with
    | pow => exact absurd rfl (hr r2)
    | _ => simp [nPow, h1]

theorem wPow_pow {f : Nat} {chp : List EP} {q : EP} {l tr : T} (h2 : wPrefix (.node .prefixR chp) = some l)
    (hq : wPow f q = some tr) :
    wPow (f + 1) (.node .powExpr [.node .prefixR chp, .tok .pow, q]) = some (.bin l .pow tr) := by
  simp [wPow, h2, wPowInner, hq]

theorem pow_level {L : Levels} (hL : L.Ordered) : ∀ F : Nat, Level L (2 * L.pow) 3 F (nPow F) (wPow F) := by
  intro f
  have hlt : 2 * L.pow + 1 < 2 * L.neg := by have := hL.2.2.1; omega
  have hle : 2 * L.pow ≤ 2 * L.neg := Nat.le_of_lt (Nat.lt_of_succ_lt hlt)
  induction f with
  | zero => intro ts h; exact absurd h (Nat.not_lt_zero _)
  | succ f ih =>
    intro ts hlen hw
    obtain ⟨chp, r1, l, h1, h2, hl⟩ := prefix_spec L hL ts hw
    by_cases hp : ∃ r2, r1 = .pow :: r2
    · obtain ⟨r2, rfl⟩ := hp
      have hlen2 : r2.length + 1 < ts.length := hl.shorter
      obtain ⟨q, r3, tr, g1, g2, hr⟩ := ih r2 (Nat.lt_of_succ_lt_succ (Nat.lt_trans hlen2 hlen))
        (cwf_false_cons rfl hl.wf)
      refine ⟨_, r3, .bin l .pow tr, nPow_pow h1 g1, wPow_pow h2 g2, ?_, ?_, hr.wf, hr.stop⟩
      · rw [← hl.yield, ← hr.yield, flatten_bin_append]
      · have hb := Lvl.bin (o := .pow) rfl hl.lvl hr.lvl hlt (Nat.le_refl _)
        rw [infL_pow, infR_pow, Nat.min_self, Nat.min_eq_left (Nat.le_of_lt hlt)] at hb
        exact hb.weaken (Nat.le_succ _) (Nat.le_refl _)
    · refine ⟨_, r1, l, nPow_stop h1 (fun r2 h => hp ⟨r2, h⟩), h2, hl.yield,
        hl.lvl.weaken hle hle, hl.wf, ?_⟩
      cases r1 with
      | nil => trivial
      | cons tk r2 => exact stopAt_step hl.stop fun h => hp ⟨r2, by rw [opRank_eq_three.mp h]⟩

/-! #### a left-associative level: `lower ~ (op ~ lower)*` -/

/-- `isOp` recognises the operators of rank `k`; they are infix, of precedence `p`,
    left-associative, and `opOf` reads them back from their pairs -/
def ChainOps (L : Levels) (p k : Nat) (isOp : Tok → Bool) (opOf : EP → Tok) : Prop :=
  ∀ o, (opRank o = k → isOp o = true) ∧
    (isOp o = true → o.isInfix = true ∧ opOf (.tok o) = o ∧ L.table.infL o = 2 * p + 1 ∧
      L.table.infR o = 2 * p + 2)

section chain
variable {L : Levels} {p k N : Nat} {nl : List Tok → Option (EP × List Tok)} {wl : EP → Option T}
  {isOp : Tok → Bool} {opOf : EP → Tok}

theorem nChainRest_op {f : Nat} {o : Tok} {r r' : List Tok} {ep : EP} (ho : isOp o = true)
    (l1 : nl r = some (ep, r')) :
    nChainRest nl isOp (f + 1) (o :: r)
      = (.tok o :: ep :: (nChainRest nl isOp f r').1, (nChainRest nl isOp f r').2) := by
  simp [nChainRest, ho, l1]

theorem nChainRest_stop {f : Nat} {o : Tok} {r : List Tok} (ho : ¬ isOp o = true) :
    nChainRest nl isOp (f + 1) (o :: r) = ([], o :: r) := by
  simp [nChainRest, ho]

theorem chainRest_spec (hops : ChainOps L p k isOp opOf)
    (hlow : Level L (2 * p + 2) (k + 1) N nl wl) :
    ∀ (f : Nat) (ts : List Tok) (acc : T), ts.length < f → ts.length ≤ N → cwf false ts = true →
      stopAt (k + 1) ts → Lvl L (2 * p + 1) (2 * p + 2) acc →
      ∃ t, wChainInner wl opOf acc (nChainRest nl isOp f ts).1 = some t ∧
        Parsed L (2 * p + 1) k (acc.flatten ++ ts) t (nChainRest nl isOp f ts).2 := by
  intro f
  induction f with
  | zero => intro ts acc h; exact absurd h (Nat.not_lt_zero _)
  | succ f ih =>
    intro ts acc hlen hN hw hs ha
    have hfin : Lvl L (2 * p + 1) (2 * p + 1) acc := ha.weaken (Nat.le_refl _) (Nat.le_succ _)
    cases ts with
    | nil => exact ⟨acc, rfl, rfl, hfin, rfl, trivial⟩
    | cons o r =>
      by_cases ho : isOp o = true
      · obtain ⟨ho1, ho2, ho3, ho4⟩ := (hops o).2 ho
        rw [List.length_cons] at hlen hN
        obtain ⟨ep, r', item, l1, l2, hi⟩ := hlow r hN (cwf_false_cons ho1 hw)
        have hlen2 := hi.shorter
        have hb := Lvl.bin ho1 ha hi.lvl (ho3 ▸ Nat.lt_succ_self _) (ho4 ▸ Nat.le_refl _)
        rw [ho3, ho4, Nat.min_self, Nat.min_self] at hb
        obtain ⟨t, g1, g2⟩ := ih r' (.bin acc o item) (Nat.lt_trans hlen2 (Nat.lt_of_succ_lt_succ hlen))
          (Nat.le_of_lt (Nat.lt_trans hlen2 hN)) hi.wf hi.stop hb
        rw [flatten_bin_append, hi.yield] at g2
        rw [nChainRest_op ho l1]
        exact ⟨t, by simp [wChainInner, l2, ho2, g1], g2⟩
      · rw [nChainRest_stop ho]
        exact ⟨acc, rfl, rfl, hfin, hw, stopAt_step hs fun h => ho ((hops o).1 h)⟩

theorem chain_spec (rule : ERule) (hops : ChainOps L p k isOp opOf)
    (hlow : Level L (2 * p + 2) (k + 1) N nl wl) {f : Nat} (hf : N ≤ f + 1) :
    Level L (2 * p + 1) k N (nChain rule nl isOp f) (wChain rule wl opOf) := by
  intro ts hN hw
  obtain ⟨ep, r, item, l1, l2, hi⟩ := hlow ts hN hw
  have hlen := hi.shorter
  have hf' : ts.length ≤ f := Nat.le_of_lt_succ (Nat.lt_of_lt_of_le hN hf)
  obtain ⟨t, g1, g2⟩ := chainRest_spec hops hlow f r item (Nat.lt_of_lt_of_le hlen hf')
    (Nat.le_of_lt (Nat.lt_trans hlen hN)) hi.wf hi.stop
    (hi.lvl.weaken (Nat.le_succ _) (Nat.le_refl _))
  exact ⟨.node rule (ep :: (nChainRest nl isOp f r).1), (nChainRest nl isOp f r).2, t, by simp [nChain, l1],
    by simp [wChain, l2, g1], hi.yield ▸ g2⟩

end chain

theorem mulOps (L : Levels) : ChainOps L L.mul 2 isMulOp mulOpOf := by
  intro o
  cases o with
  | mul | div => exact ⟨fun _ => rfl, fun _ => ⟨rfl, rfl, rfl, rfl⟩⟩
  | _ => exact ⟨nofun, nofun⟩

theorem addOps (L : Levels) : ChainOps L L.add 1 isAddOp addOpOf := by
  intro o
  cases o with
  | add | sub => exact ⟨fun _ => rfl, fun _ => ⟨rfl, rfl, rfl, rfl⟩⟩
  | _ => exact ⟨nofun, nofun⟩

theorem mulDiv_level {L : Levels} (hL : L.Ordered) (F : Nat) :
    Level L (2 * L.mul + 1) 2 F (nMulDiv F) (wMulDiv F) :=
  have hmp : L.mul < L.pow := hL.2.1
  chain_spec .mulDiv (mulOps L) ((pow_level hL F).weaken (by omega)) (Nat.le_succ _)

theorem addSub_level {L : Levels} (hL : L.Ordered) (F : Nat) :
    Level L (2 * L.add + 1) 1 F (nAddSub F) (wAddSub F) :=
  have ham : L.add < L.mul := hL.1
  chain_spec .addSub (addOps L) ((mulDiv_level hL F).weaken (by omega)) (Nat.le_succ _)

/-- **The grammar-encoded tree.**  On a well-formed token list, nesting by the grammar and
    walking the pairs succeeds, and the result is a tree over exactly these tokens that has
    the calculator shape and is `Good` for *every* calculator-shaped table whose levels are
    in the documented order. -/
theorem encodedTree_spec (L : Levels) (hL : L.Ordered) (ts : List Tok) (hw : cwf true ts = true) :
    ∃ t, encodedTree ts = some t ∧ t.flatten = ts ∧ Lvl L (2 * L.add + 1) (2 * L.add + 1) t := by
  obtain ⟨ep, r, t, h1, h2, h3⟩ := addSub_level hL (ts.length + 1) ts (Nat.lt_succ_self _) hw
  have hr : r = [] := stop_nil_of_wf r h3.wf h3.stop
  subst hr
  refine ⟨t, ?_, by simpa using h3.yield, h3.lvl⟩
  simp [encodedTree, nest, h1, wExpr, h2]

/-! ### `build` only looks at the parentheses that occur in the tree -/

theorem build_congr (s1 s2 : List Tok → Option AST) (t : T)
    (h : ∀ c, Tok.paren c ∈ t.flatten → s1 c = s2 c) : build s1 t = build s2 t := by
  induction t with
  | leaf n =>
    cases n with
    | paren c => exact h c (List.mem_singleton_self _)
    | _ => rfl
  | pre o r ih =>
    have ih := ih fun c hc => h c (List.mem_cons_of_mem _ hc)
    cases o with
    | neg => exact congrArg (Option.map AST.neg) ih
    | _ => rfl
  | post l o ih =>
    have ih := ih fun c hc => h c (List.mem_append_left _ hc)
    cases o with
    | fac => exact congrArg (Option.map AST.fac) ih
    | _ => rfl
  | bin l o r ih1 ih2 =>
    have ih1 := ih1 fun c hc => h c (List.mem_append_left _ hc)
    have ih2 := ih2 fun c hc => h c (List.mem_append_right _ (List.mem_cons_of_mem _ hc))
    dsimp only [build]
    rw [ih1, ih2]

theorem build_total (s : List Tok → Option AST) (t : T) (hs : Shape t)
    (h : ∀ c, Tok.paren c ∈ t.flatten → ∃ a, s c = some a) : ∃ a, build s t = some a := by
  induction t with
  | leaf n =>
    cases n with
    | int _ | var _ => exact ⟨_, rfl⟩
    | paren c => exact h c (List.mem_singleton_self _)
    | _ => cases hs
  | pre o r ih =>
    obtain ⟨rfl, hr⟩ := hs
    obtain ⟨a, ha⟩ := ih hr fun c hc => h c (List.mem_cons_of_mem _ hc)
    exact ⟨a.neg, congrArg (Option.map AST.neg) ha⟩
  | post l o ih =>
    obtain ⟨rfl, hl⟩ := hs
    obtain ⟨a, ha⟩ := ih hl fun c hc => h c (List.mem_append_left _ hc)
    exact ⟨a.fac, congrArg (Option.map AST.fac) ha⟩
  | bin l o r ih1 ih2 =>
    obtain ⟨ho, hl, hr⟩ := hs
    obtain ⟨a, ha⟩ := ih1 hl fun c hc => h c (List.mem_append_left _ hc)
    obtain ⟨b, hb⟩ := ih2 hr fun c hc => h c (List.mem_append_right _ (List.mem_cons_of_mem _ hc))
    obtain ⟨op, hop⟩ : ∃ op, binOp o = some op := by
      cases o with
      | add | sub | mul | div | pow => exact ⟨_, rfl⟩
      | _ => cases ho
    exact ⟨.bin op a b, by dsimp only [build]; rw [hop, ha, hb]⟩

theorem deepWf_mem : ∀ (ts : List Tok) (c : List Tok), deepWfL ts = true → Tok.paren c ∈ ts →
    cwf true c = true ∧ deepWfL c = true
  | [], _, _, h => by simp at h
  | t :: ts, c, hd, h => by
    simp only [deepWfL, Bool.and_eq_true] at hd
    rcases List.mem_cons.mp h with rfl | h
    · simpa [Tok.deepWf] using hd.1
    · exact deepWf_mem ts c hd.2 h

theorem depth_mem : ∀ (ts : List Tok) (c : List Tok), Tok.paren c ∈ ts → depthL c + 1 ≤ depthL ts
  | [], _, h => by simp at h
  | t :: ts, c, h => by
    simp only [depthL]
    rcases List.mem_cons.mp h with rfl | h
    · simp only [Tok.depth]; exact Nat.le_max_left _ _
    · exact Nat.le_trans (depth_mem ts c h) (Nat.le_max_right _ _)

end Calc
end Pest
