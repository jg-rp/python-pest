/-
  Lemmas/FrontPrintText.lean — the layout relation of Front/AstTrivia.lean (`IsTrivia`, `Sc`, `DocsText`,
  `RulesText`, `GrammarText`) against the printer of Front/Ast.lean, with neither scanner nor parser:
  trivia under `++` (`isTrivia_append`: the one fact here that the scanner proofs need as well,
  Lemmas/FrontSkipTrivia.lean imports this file for it); the printer's texts are grammar texts —
  `grammarText_prettyWith` (leading trivia and a separator behind every item, each possibly empty),
  `grammarText_pretty` (one blank; the line feed that ends a rule is absorbed by its last token,
  `sc_absorb`).  Both round trips of Props/C10.lean come to the printer's texts through these two:
  the scanner's (Lemmas/FrontScanAst.lean) and the parser's (Lemmas/FrontParseAst.lean).
-/
import PestModel.Front.AstTrivia

namespace Pest
namespace Front

namespace RT

@[simp] theorem spellAll_nil : spellAll [] = [] := rfl

theorem spellAll_cons (kv : KV) (r : List KV) : spellAll (kv :: r) = spell kv ++ 32 :: spellAll r := by
  simp [spellAll]

end RT

namespace TRT
open RT

theorem isTrivia_append {a b : Text} (ha : IsTrivia a) (hb : IsTrivia b) : IsTrivia (a ++ b) := by
  induction ha with
  | nil => simpa using hb
  | sp _ ih => exact .sp ih
  | tab _ ih => exact .tab ih
  | lf _ ih => exact .lf ih
  | crlf _ ih => exact .crlf ih
  | line r h1 h2 h3 _ ih =>
    have := IsTrivia.line r h1 h2 h3 ih
    simpa using this
  | block hc _ ih =>
    have := IsTrivia.block hc ih
    simpa using this

theorem sc_nil_inv {t tl : Text} (h : Sc [] t tl) : t = tl := by cases h; rfl

theorem sc_cons_inv {kv : KV} {kvs : List KV} {t tl : Text} (h : Sc (kv :: kvs) t tl) :
    ∃ ws m, IsTrivia ws ∧ t = spell kv ++ (ws ++ m) ∧ Sc kvs m tl := by
  cases h with
  | cons _ hw hr => exact ⟨_, _, hw, rfl, hr⟩

theorem sc_append_mk {a b : List KV} {t m tl : Text} (h1 : Sc a t m) (h2 : Sc b m tl) :
    Sc (a ++ b) t tl := by
  induction h1 with
  | nil _ => exact h2
  | cons kv hw _ ih => exact .cons kv hw (ih h2)

theorem sc_spellAllWith {sep : Nat → Text} (hs : ∀ i, IsTrivia (sep i)) :
    ∀ (kvs : List KV) (i : Nat) (tl : Text), Sc kvs (spellAllWith sep i kvs ++ tl) tl := by
  intro kvs
  induction kvs with
  | nil => intro i tl; exact .nil tl
  | cons kv r ih =>
    intro i tl
    have := Sc.cons kv (hs i) (ih (i + 1) tl)
    simpa [spellAllWith] using this

theorem docsText_docsWith {sep : Nat → Text} (hs : ∀ i, IsTrivia (sep i)) (m : Text) :
    ∀ (docs : List Text) (i : Nat) (tl : Text), DocsText m docs (docsWith sep m i docs ++ tl) tl := by
  intro docs
  induction docs with
  | nil => intro i tl; exact rfl
  | cons l ls ih =>
    intro i tl
    exact ⟨[32], sep i, docsWith sep m (i + 1) ls ++ tl, .inl rfl, hs i, by simp [docsWith], ih (i + 1) tl⟩

theorem rulesText_rulesWith {sep : Nat → Text} (hs : ∀ i, IsTrivia (sep i)) :
    ∀ (rules : List SRule) (i : Nat) (tl : Text),
    RulesText rules (rulesWith sep i rules ++ tl) tl := by
  intro rules
  induction rules with
  | nil => intro i tl; exact rfl
  | cons r rs ih =>
    intro i tl
    refine ⟨spellAllWith sep (i + r.docs.length) r.headKV ++ (rulesWith sep (i + r.items) rs ++ tl),
      rulesWith sep (i + r.items) rs ++ tl, ?_, sc_spellAllWith hs _ _ _, ih _ tl⟩
    have := docsText_docsWith hs sRDOC r.docs i
      (spellAllWith sep (i + r.docs.length) r.headKV ++ (rulesWith sep (i + r.items) rs ++ tl))
    simpa [rulesWith, SRule.prettyWith] using this

theorem grammarText_prettyWith (g : SGrammar) {lead : Text} {sep : Nat → Text}
    (hl : IsTrivia lead) (hs : ∀ i, IsTrivia (sep i)) : GrammarText g (g.prettyWith lead sep) := by
  refine ⟨lead, _, _, _, hl, rfl, docsText_docsWith hs sGDOC g.gdocs 0 _,
    rulesText_rulesWith hs g.rules g.gdocs.length _, ?_⟩
  have := docsText_docsWith hs sRDOC g.trailing (g.gdocs.length + rulesItems g.rules) []
  simpa using this

theorem isTrivia_one : IsTrivia [32] := .sp .nil
theorem isTrivia_lf : IsTrivia [10] := .lf .nil

theorem sc_spellAll : ∀ (kvs : List KV) (tl : Text), Sc kvs (spellAll kvs ++ tl) tl := by
  intro kvs
  induction kvs with
  | nil => intro tl; exact .nil tl
  | cons kv r ih =>
    intro tl
    have := Sc.cons kv isTrivia_one (ih tl)
    simpa [spellAll_cons] using this

/-- further trivia behind the last token belongs to it -/
theorem sc_absorb : ∀ {kvs : List KV} {t tl ws : Text}, Sc kvs t (ws ++ tl) → IsTrivia ws →
    kvs ≠ [] → Sc kvs t tl := by
  intro kvs
  induction kvs with
  | nil => intro t tl ws _ _ h; exact absurd rfl h
  | cons kv r ih =>
    intro t tl ws h hws _
    obtain ⟨w, m, hw, rfl, hr⟩ := sc_cons_inv h
    cases r with
    | nil =>
      have := sc_nil_inv hr; subst this
      have := Sc.cons kv (isTrivia_append hw hws) (Sc.nil tl)
      simpa using this
    | cons kv' r' => exact .cons kv hw (ih hr hws (by simp))

theorem docsText_canon (m : Text) : ∀ (docs : List Text) (tl : Text),
    DocsText m docs ((docs.map (docLine m)).flatten ++ tl) tl := by
  intro docs
  induction docs with
  | nil => intro tl; exact rfl
  | cons l ls ih =>
    intro tl
    exact ⟨[32], [], (ls.map (docLine m)).flatten ++ tl, .inl rfl, .nil, by simp [docLine], ih tl⟩

theorem srule_pretty (r : SRule) (more : Text) :
    r.pretty ++ more = (r.docs.map (docLine sRDOC)).flatten ++ (spellAll r.headKV ++ 10 :: more) := by
  simp [SRule.pretty, SRule.headKV]

theorem rulesText_canon : ∀ (rules : List SRule) (tl : Text),
    RulesText rules ((rules.map SRule.pretty).flatten ++ tl) tl := by
  intro rules
  induction rules with
  | nil => intro tl; exact rfl
  | cons r rs ih =>
    intro tl
    refine ⟨spellAll r.headKV ++ 10 :: ((rs.map SRule.pretty).flatten ++ tl),
      (rs.map SRule.pretty).flatten ++ tl, ?_, ?_, ih tl⟩
    · have := docsText_canon sRDOC r.docs
        (spellAll r.headKV ++ 10 :: ((rs.map SRule.pretty).flatten ++ tl))
      simpa [srule_pretty] using this
    · exact sc_absorb (ws := [10]) (sc_spellAll r.headKV _) isTrivia_lf (by simp [SRule.headKV])

theorem grammarText_pretty (g : SGrammar) : GrammarText g g.pretty := by
  refine ⟨[], g.pretty,
    (g.rules.map SRule.pretty).flatten ++ ((g.trailing.map (docLine sRDOC)).flatten ++ []),
    (g.trailing.map (docLine sRDOC)).flatten ++ [], .nil, rfl, ?_, rulesText_canon g.rules _,
    docsText_canon sRDOC g.trailing []⟩
  have := docsText_canon sGDOC g.gdocs
    ((g.rules.map SRule.pretty).flatten ++ ((g.trailing.map (docLine sRDOC)).flatten ++ []))
  simpa [SGrammar.pretty] using this

end TRT

end Front
end Pest
