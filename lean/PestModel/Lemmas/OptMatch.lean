/-
  Lemmas/OptMatch.lean — what the regex of an `OptimizedChoice` matches.

  `is_order_preserving` says exactly that every earlier/later pair of alternatives is compatible
  (`compat`, `go_iff`).  For pairwise compatible alternatives the regex `build_optimized_pattern`
  emits (multi-character literals first, …), `L1.optMatchOnce`, picks an alternative of the same
  length as the ordered choice `firstMatch` of the alternatives as written
  (`optMatchOnce_eq_first`).  About plain functions on positions: no semantics of expressions, and
  nothing of the optimizer's soundness proof, is needed.
-/
import PestModel.Opt

namespace Pest
namespace OptS

variable (G : Grammar) (inp : Input)

/-- a range is not reversed (`re.compile("[z-a]")` raises, so no loadable grammar has one) -/
def AltOK : Alt → Prop
  | .range lo hi => lo ≤ hi
  | _ => True

def altMatch (a : Alt) (pos : Nat) : Option Nat :=
  match a with
  | .lit s false => if startsWithAt inp s pos then some (pos + s.length) else none
  | .lit s true => if startsWithAtCI inp s pos then some (pos + s.length) else none
  | .range lo hi =>
    match inp[pos]? with
    | some c => if lo ≤ c && c ≤ hi then some (pos + 1) else none
    | none => none
  | .uprop n =>
    match inp[pos]? with
    | some c => if G.uprop n c then some (pos + 1) else none
    | none => none

def firstMatch (alts : List Alt) (pos : Nat) : Option Nat := alts.findSome? (altMatch G inp · pos)

theorem firstMatch_single (a : Alt) (pos : Nat) : firstMatch G inp [a] pos = altMatch G inp a pos := by
  simp only [firstMatch, List.findSome?_cons, List.findSome?_nil]
  cases altMatch G inp a pos <;> rfl

theorem firstMatch_append (l1 l2 : List Alt) (pos : Nat) :
    firstMatch G inp (l1 ++ l2) pos = (firstMatch G inp l1 pos).or (firstMatch G inp l2 pos) := by
  simp only [firstMatch, List.findSome?_append]

/-- the condition `is_order_preserving` checks of an earlier and a later alternative -/
def compat (earlier later : Alt) : Bool :=
  match later with
  | .lit v ci =>
    if v.length == 1 then true
    else
      let first : List CP :=
        match v with
        | [] => []
        | h :: _ => if ci then [h, L1.asciiUpper h, asciiLower h] else [h]
      if Opt.isSingle earlier then
        !(v.isEmpty || first.any (Opt.accepts G earlier))
      else
        match earlier with
        | .lit ev true =>
          if !ci && ev.length != v.length then
            let a := Opt.lowerStr ev
            let b := Opt.lowerStr v
            !(b.isPrefixOf a || a.isPrefixOf b)
          else true
        | _ => true
  | _ => true

theorem go_cons (before : List Alt) (later : Alt) (rest : List Alt) :
    Opt.isOrderPreserving.go G before (later :: rest) =
      (before.all (fun earlier => compat G earlier later) && Opt.isOrderPreserving.go G (before ++ [later]) rest) := by
  cases later with
  | lit v ci =>
    simp only [Opt.isOrderPreserving.go, compat]
    by_cases h1 : (v.length == 1) = true
    · simp [h1]
    · simp only [h1, Bool.false_eq_true, ↓reduceIte]
      congr 2
  | range _ _ => simp [Opt.isOrderPreserving.go, compat]
  | uprop _ => simp [Opt.isOrderPreserving.go, compat]

theorem go_iff : ∀ (l before : List Alt),
    Opt.isOrderPreserving.go G before l = true ↔
      (∀ later ∈ l, ∀ earlier ∈ before, compat G earlier later = true) ∧
      l.Pairwise (fun a b => compat G a b = true)
  | [], before => by simp [Opt.isOrderPreserving.go]
  | later :: rest, before => by
    have ih := go_iff rest (before ++ [later])
    rw [go_cons, Bool.and_eq_true, ih]
    simp only [List.all_eq_true, List.mem_cons, List.pairwise_cons, List.mem_append, List.not_mem_nil, or_false]
    constructor
    · rintro ⟨h1, h2, h3⟩
      refine ⟨?_, ?_, h3⟩
      · rintro l (rfl | hl) e he
        · exact h1 e he
        · exact h2 l hl e (Or.inl he)
      · intro l hl; exact h2 l hl later (Or.inr rfl)
    · rintro ⟨h1, h2, h3⟩
      refine ⟨fun e he => h1 later (Or.inl rfl) e he, ?_, h3⟩
      rintro l hl e (he | rfl)
      · exact h1 l (Or.inr hl) e he
      · exact h2 l hl

theorem op_iff (alts : List Alt) :
    Opt.isOrderPreserving G alts = true ↔ alts.Pairwise (fun a b => compat G a b = true) := by
  unfold Opt.isOrderPreserving
  rw [go_iff]
  simp

theorem op_pairwise {alts : List Alt} (h : Opt.isOrderPreserving G alts = true) :
    alts.Pairwise (fun a b => compat G a b = true) :=
  (op_iff G alts).1 h

theorem swa_head {h : CP} {t : Str} {pos : Nat} (hh : startsWithAt inp (h :: t) pos = true) :
    inp[pos]? = some h := by
  simp only [startsWithAt, Bool.and_eq_true] at hh
  cases hi : inp[pos]? with
  | none => rw [hi] at hh; simp at hh
  | some d => rw [hi] at hh; simp at hh; rw [hh.1]

theorem swaCI_head {h : CP} {t : Str} {pos : Nat} (hh : startsWithAtCI inp (h :: t) pos = true) :
    ∃ d, inp[pos]? = some d ∧ asciiLower d = asciiLower h := by
  simp only [startsWithAtCI, Bool.and_eq_true] at hh
  cases hi : inp[pos]? with
  | none => rw [hi] at hh; simp at hh
  | some d => rw [hi] at hh; simp at hh; exact ⟨d, rfl, hh.1⟩

theorem swa_single (x : CP) (pos : Nat) : startsWithAt inp [x] pos = (inp[pos]? == some x) := by
  simp only [startsWithAt]
  cases hi : inp[pos]? with
  | none => simp
  | some d =>
    obtain ⟨this, _⟩ := Array.getElem?_eq_some_iff.1 hi
    have h2 : decide (pos + 1 ≤ inp.size) = true := by simp; omega
    simp [h2]

theorem swaCI_single (x : CP) (pos : Nat) :
    startsWithAtCI inp [x] pos = (match inp[pos]? with | some d => asciiLower d == asciiLower x | none => false) := by
  simp only [startsWithAtCI]
  cases hi : inp[pos]? with
  | none => simp
  | some d =>
    obtain ⟨this, _⟩ := Array.getElem?_eq_some_iff.1 hi
    have h2 : decide (pos + 1 ≤ inp.size) = true := by simp; omega
    simp [h2]

theorem swa_CI : ∀ (s : Str) (pos : Nat), startsWithAt inp s pos = true → startsWithAtCI inp s pos = true
  | [], pos, h => by simpa [startsWithAt, startsWithAtCI] using h
  | c :: rest, pos, h => by
    simp only [startsWithAt, startsWithAtCI, Bool.and_eq_true] at h ⊢
    refine ⟨?_, swa_CI rest (pos + 1) h.2⟩
    cases hi : inp[pos]? with
    | none => rw [hi] at h; simp at h
    | some d => rw [hi] at h; simp at h ⊢; rw [h.1]

theorem lower_iff_nat (d x : Nat) :
    (if 65 ≤ d ∧ d ≤ 90 then d + 32 else d) = (if 65 ≤ x ∧ x ≤ 90 then x + 32 else x) ↔
      (d = (if 97 ≤ x ∧ x ≤ 122 then x - 32 else x) ∨ d = (if 65 ≤ x ∧ x ≤ 90 then x + 32 else x)) := by
  split <;> split <;> split <;> omega

theorem lower_iff (d x : Nat) : asciiLower d = asciiLower x ↔ (d = L1.asciiUpper x ∨ d = asciiLower x) := by
  unfold asciiLower L1.asciiUpper
  simp only [Bool.and_eq_true, decide_eq_true_eq]
  exact lower_iff_nat d x

theorem lower_beq (d x : Nat) :
    (asciiLower d == asciiLower x) = (L1.asciiUpper x == d || asciiLower x == d) := by
  rw [Bool.eq_iff_iff]
  simp only [beq_iff_eq, Bool.or_eq_true, lower_iff, eq_comm (a := d)]

theorem swaCI_prefix : ∀ (u v : Str) (pos : Nat), startsWithAtCI inp u pos = true →
    startsWithAtCI inp v pos = true → u.length ≤ v.length →
    (Opt.lowerStr u).isPrefixOf (Opt.lowerStr v) = true
  | [], v, pos, _, _, _ => by simp [Opt.lowerStr]
  | a :: u, [], pos, _, _, hl => by simp at hl
  | a :: u, b :: v, pos, hu, hv, hl => by
    obtain ⟨d, hd, e1⟩ := swaCI_head inp hu
    obtain ⟨d', hd', e2⟩ := swaCI_head inp hv
    rw [hd] at hd'; cases hd'
    simp only [startsWithAtCI, Bool.and_eq_true] at hu hv
    have := swaCI_prefix u v (pos + 1) hu.2 hv.2 (by simpa using hl)
    simp only [Opt.lowerStr, List.map_cons, List.isPrefixOf_cons_cons, Bool.and_eq_true, beq_iff_eq] at this ⊢
    exact ⟨by rw [← e1, ← e2], this⟩

/-! ### the regex of `build_optimized_pattern`, restated -/

def mL (ci : Bool) (alts : List Alt) : List Str :=
  alts.filterMap fun | .lit s c => if c = ci ∧ s.length ≠ 1 then some s else none | _ => none

def singleAcc (a : Alt) (c : CP) : Bool :=
  match a with
  | .lit [x] false => x == c
  | .lit [x] true => L1.asciiUpper x == c || asciiLower x == c
  | .range lo hi => L1.inRange (min lo hi) (max lo hi) c
  | .uprop n => G.uprop n c
  | _ => false

def omo (alts : List Alt) (pos : Nat) : Option Nat :=
  match (mL false alts).find? (startsWithAt inp · pos) with
  | some s => some (pos + s.length)
  | none =>
    match (mL true alts).find? (startsWithAtCI inp · pos) with
    | some s => some (pos + s.length)
    | none =>
      match inp[pos]? with
      | none => none
      | some c => if alts.any (singleAcc G · c) then some (pos + 1) else none

theorem msL_eq (alts : List Alt) :
    alts.filterMap (fun | .lit s false => if s.length ≠ 1 then some s else none | _ => none) = mL false alts := by
  unfold mL
  congr 1
  funext a
  cases a with
  | lit s c => cases c <;> simp
  | _ => rfl

theorem miL_eq (alts : List Alt) :
    alts.filterMap (fun | .lit s true => if s.length ≠ 1 then some s else none | _ => none) = mL true alts := by
  unfold mL
  congr 1
  funext a
  cases a with
  | lit s c => cases c <;> simp
  | _ => rfl

/-- the class part of the pattern, one alternative -/
def clsA (a : Alt) (c : CP) : Bool :=
  match a with
  | .lit [x] false => x == c
  | .lit [x] true => L1.asciiUpper x == c || asciiLower x == c
  | .range lo hi => L1.inRange (min lo hi) (max lo hi) c
  | _ => false

theorem clsA_single {a : Alt} {c : CP} (h : clsA a c = true) :
    singleAcc G a c = true ∧
    (match a with | .lit s _ => s.length == 1 | .range _ _ => true | _ => false) = true := by
  cases a with
  | lit s ci =>
    cases s with
    | nil => cases ci <;> simp [clsA] at h
    | cons x t =>
      cases t with
      | nil => cases ci <;> exact ⟨h, rfl⟩
      | cons y t' => cases ci <;> simp [clsA] at h
  | range lo hi => exact ⟨h, rfl⟩
  | uprop n => simp [clsA] at h

theorem single_eq (alts : List Alt) (c : CP) :
    ((alts.filterMap fun | .uprop n => some n | _ => none).any (G.uprop · c) ||
      ((alts.any fun | .lit s _ => s.length == 1 | .range _ _ => true | _ => false) && alts.any (clsA · c)))
    = alts.any (singleAcc G · c) := by
  rw [Bool.eq_iff_iff]
  simp only [Bool.or_eq_true, Bool.and_eq_true, List.any_eq_true, List.mem_filterMap]
  constructor
  · rintro (⟨n, ⟨a, ha, hn⟩, hu⟩ | ⟨_, a, ha, hc⟩)
    · refine ⟨a, ha, ?_⟩
      cases a with
      | uprop m => simp only [Option.some.injEq] at hn; subst hn; simpa [singleAcc] using hu
      | lit _ _ => simp at hn
      | range _ _ => simp at hn
    · exact ⟨a, ha, (clsA_single G hc).1⟩
  · rintro ⟨a, ha, hs⟩
    cases a with
    | uprop n => exact Or.inl ⟨n, ⟨_, ha, rfl⟩, by simpa [singleAcc] using hs⟩
    | lit s ci =>
      have hc : clsA (.lit s ci) c = true := by
        cases s with
        | nil => cases ci <;> simp [singleAcc] at hs
        | cons x t =>
          cases t with
          | nil => cases ci <;> simpa [singleAcc, clsA] using hs
          | cons y t' => cases ci <;> simp [singleAcc] at hs
      exact Or.inr ⟨⟨_, ha, (clsA_single G hc).2⟩, _, ha, hc⟩
    | range lo hi =>
      have hc : clsA (.range lo hi) c = true := by simpa [singleAcc, clsA] using hs
      exact Or.inr ⟨⟨_, ha, (clsA_single G hc).2⟩, _, ha, hc⟩

theorem classAccepts_eq (alts : List Alt) (c : CP) : L1.classAccepts alts c = alts.any (clsA · c) := by
  unfold L1.classAccepts
  congr 1

/-- `omo` is `L1.optMatchOnce` with the two literal lists as `mL` and the property and class tests
    as one `singleAcc`.  A pattern-matching `fun` written out in a lemma (`msL_eq`, `miL_eq`) and
    the same one inside `L1.optMatchOnce` are different auxiliary matchers to `rw`, though equal
    by unfolding: hence `erw`. -/
theorem omo_eq (alts : List Alt) (pos : Nat) : L1.optMatchOnce G inp alts pos = omo G inp alts pos := by
  unfold L1.optMatchOnce omo
  simp only [classAccepts_eq]
  erw [msL_eq, miL_eq]
  cases (mL false alts).find? (startsWithAt inp · pos) with
  | some s => rfl
  | none =>
    dsimp only
    cases (mL true alts).find? (startsWithAtCI inp · pos) with
    | some s => rfl
    | none =>
      dsimp only
      cases inp[pos]? with
      | none => rfl
      | some c =>
        dsimp only
        have := single_eq G alts c
        by_cases h1 : (alts.filterMap fun | .uprop n => some n | _ => none).any (G.uprop · c) = true
        · erw [if_pos h1]
          rw [h1, Bool.true_or] at this
          rw [← this]; rfl
        · erw [if_neg h1]
          simp only [Bool.not_eq_true] at h1
          rw [h1, Bool.false_or] at this
          erw [this]

/-! ### the regrouped pattern picks an alternative of the same length -/

theorem mem_mL {ci : Bool} {alts : List Alt} {v : Str} (h : v ∈ mL ci alts) :
    Alt.lit v ci ∈ alts ∧ v.length ≠ 1 := by
  obtain ⟨a, ha, hv⟩ := List.mem_filterMap.1 h
  cases a with
  | lit s c =>
    dsimp only at hv
    split at hv
    · rename_i hc
      cases hv
      exact ⟨hc.1 ▸ ha, hc.2⟩
    · cases hv
  | _ => cases hv

theorem accepts_eq (a : Alt) (ch : CP) : Opt.accepts G a ch = singleAcc G a ch := by
  cases a with
  | lit s ci =>
    cases s with
    | nil => cases ci <;> rfl
    | cons x t =>
      cases t with
      | nil =>
        cases ci
        · simp only [Opt.accepts, singleAcc]; rw [Bool.eq_iff_iff]; simp only [beq_iff_eq]; exact eq_comm
        · simp only [Opt.accepts, singleAcc]; rw [Bool.eq_iff_iff]
          simp only [Bool.or_eq_true, beq_iff_eq]
          constructor <;> (rintro (h | h) <;> simp [h])
      | cons y t' => cases ci <;> rfl
  | range lo hi => rfl
  | uprop n => rfl

theorem altMatch_single {a : Alt} (hs : Opt.isSingle a = true) (hok : AltOK a) (pos : Nat) :
    altMatch G inp a pos =
      (match inp[pos]? with
       | some c => if singleAcc G a c then some (pos + 1) else none
       | none => none) := by
  cases a with
  | lit s ci =>
    simp only [Opt.isSingle, beq_iff_eq] at hs
    obtain ⟨x, rfl⟩ : ∃ x, s = [x] := by
      cases s with
      | nil => simp at hs
      | cons x t => cases t with
        | nil => exact ⟨x, rfl⟩
        | cons _ _ => simp at hs
    cases ci with
    | false =>
      simp only [altMatch, swa_single, singleAcc, List.length_singleton]
      cases inp[pos]? with
      | none => simp
      | some d =>
        by_cases h : d = x
        · subst h; simp
        · have : ¬ x = d := fun e => h e.symm
          simp [h, this]
    | true =>
      simp only [altMatch, swaCI_single, singleAcc, List.length_singleton, lower_beq]
      cases inp[pos]? <;> rfl
  | range lo hi =>
    have hle : lo ≤ hi := hok
    simp only [altMatch, singleAcc, L1.inRange, Nat.min_eq_left hle, Nat.max_eq_right hle]
  | uprop n => simp only [altMatch, singleAcc]; cases inp[pos]? <;> rfl

theorem single_mL {a : Alt} (hs : Opt.isSingle a = true) (ci : Bool) (r : List Alt) :
    mL ci (a :: r) = mL ci r := by
  cases a with
  | lit s c =>
    simp only [Opt.isSingle, beq_iff_eq] at hs
    simp [mL, hs]
  | _ => rfl

theorem multi_mL {s : Str} (hl : s.length ≠ 1) (c ci : Bool) (r : List Alt) :
    mL ci (.lit s c :: r) = if c = ci then s :: mL ci r else mL ci r := by
  by_cases h : c = ci <;> simp [mL, h, hl]

theorem multi_acc {s : Str} {ci : Bool} (h : s.length ≠ 1) (c : CP) : singleAcc G (.lit s ci) c = false := by
  cases s with
  | nil => cases ci <;> rfl
  | cons x t =>
    cases t with
    | nil => simp at h
    | cons y t' => cases ci <;> rfl

theorem single_vs_multi {a : Alt} (hs : Opt.isSingle a = true) {v : Str} {ci : Bool} (hv : v.length ≠ 1)
    (hc : compat G a (.lit v ci) = true) {pos : Nat} {c : CP} (hi : inp[pos]? = some c)
    (hacc : singleAcc G a c = true)
    (hm : (if ci then startsWithAtCI inp v pos else startsWithAt inp v pos) = true) : False := by
  have hv' : (v.length == 1) = false := by simpa using hv
  simp only [compat, hv', Bool.false_eq_true, ↓reduceIte, hs, Bool.not_eq_true', Bool.or_eq_false_iff] at hc
  obtain ⟨hne, hany⟩ := hc
  cases v with
  | nil => simp at hne
  | cons h t =>
    simp only [] at hany
    cases ci with
    | false =>
      simp only [Bool.false_eq_true, ↓reduceIte] at hm hany
      have := swa_head inp hm
      rw [hi] at this; cases this
      simp [accepts_eq, hacc] at hany
    | true =>
      simp only [↓reduceIte] at hm hany
      obtain ⟨d, hd, hl⟩ := swaCI_head inp hm
      rw [hi] at hd; cases hd
      rcases (lower_iff c h).1 hl with e | e
      · subst e; simp [accepts_eq, hacc] at hany
      · subst e; simp [accepts_eq, hacc] at hany

theorem ci_vs_cs {s v : Str} (hs : s.length ≠ 1) (hv : v.length ≠ 1)
    (hc : compat G (.lit s true) (.lit v false) = true) {pos : Nat}
    (hm : startsWithAtCI inp s pos = true) (hvm : startsWithAt inp v pos = true) : s.length = v.length := by
  have hv' : (v.length == 1) = false := by simpa using hv
  have hs1 : Opt.isSingle (.lit s true) = false := by simpa [Opt.isSingle] using hs
  simp only [compat, hv', Bool.false_eq_true, ↓reduceIte, hs1, Bool.not_false, Bool.true_and] at hc
  apply Classical.byContradiction
  intro hlen
  have hlen' : (s.length != v.length) = true := by simpa using hlen
  simp only [hlen', ↓reduceIte, Bool.not_eq_true', Bool.or_eq_false_iff] at hc
  have hv2 := swa_CI inp v pos hvm
  rcases Nat.le_total s.length v.length with hle | hle
  · have := swaCI_prefix inp s v pos hm hv2 hle
    rw [hc.2] at this; exact absurd this (by simp)
  · have := swaCI_prefix inp v s pos hv2 hm hle
    rw [hc.1] at this; exact absurd this (by simp)

theorem omo_first (pos : Nat) : ∀ (alts : List Alt), alts.Pairwise (fun a b => compat G a b = true) →
    (∀ a ∈ alts, AltOK a) → omo G inp alts pos = firstMatch G inp alts pos
  | [], _, _ => by
    simp only [omo, firstMatch, mL, List.filterMap_nil, List.find?_nil, List.any_nil, List.findSome?_nil]
    cases inp[pos]? <;> rfl
  | a :: r, hpw, hok => by
    have ih := omo_first pos r (List.Pairwise.of_cons hpw) (fun x hx => hok x (List.mem_cons_of_mem _ hx))
    have hcompat : ∀ x ∈ r, compat G a x = true := (List.pairwise_cons.1 hpw).1
    have hfm : firstMatch G inp (a :: r) pos =
        (match altMatch G inp a pos with | some p => some p | none => firstMatch G inp r pos) := by
      simp only [firstMatch, List.findSome?_cons]
      cases altMatch G inp a pos <;> rfl
    rw [hfm, ← ih]
    by_cases hsingle : Opt.isSingle a = true
    · -- a one-character alternative
      rw [altMatch_single G inp hsingle (hok a List.mem_cons_self) pos]
      unfold omo
      rw [single_mL hsingle, single_mL hsingle]
      simp only [List.any_cons]
      cases hi : inp[pos]? with
      | none => rfl
      | some c =>
        dsimp only
        by_cases hacc : singleAcc G a c = true
        · -- no later multi-character literal matches here
          have hnone : ∀ (ci : Bool) (f : Str → Bool),
              (∀ v, f v = true → (if ci then startsWithAtCI inp v pos else startsWithAt inp v pos) = true) →
              (mL ci r).find? f = none := by
            intro ci f hf
            rw [List.find?_eq_none]
            intro v hv hm
            obtain ⟨hmem, hl⟩ := mem_mL hv
            exact single_vs_multi G inp hsingle hl (hcompat _ hmem) hi hacc (hf v hm)
          rw [hnone false (startsWithAt inp · pos) fun _ h => h, hnone true (startsWithAtCI inp · pos) fun _ h => h]
          simp only [hacc, Bool.true_or, ↓reduceIte]
        · simp only [hacc, Bool.false_or, Bool.false_eq_true, ↓reduceIte]
    · -- a multi-character (or empty) literal
      cases a with
      | range _ _ => simp [Opt.isSingle] at hsingle
      | uprop _ => simp [Opt.isSingle] at hsingle
      | lit s ci =>
        have hl : s.length ≠ 1 := by simpa [Opt.isSingle] using hsingle
        have hacc : ∀ c, singleAcc G (.lit s ci) c = false := multi_acc G hl
        cases ci with
        | false =>
          unfold omo
          rw [multi_mL hl, multi_mL hl, if_pos rfl, if_neg Bool.false_ne_true]
          simp only [List.any_cons, hacc, Bool.false_or, List.find?_cons, altMatch]
          by_cases hm : startsWithAt inp s pos = true
          · simp only [hm, ↓reduceIte]
          · simp only [hm, Bool.false_eq_true, ↓reduceIte]
        | true =>
          unfold omo
          rw [multi_mL hl, multi_mL hl, if_pos rfl, if_neg (fun h => Bool.false_ne_true h.symm)]
          simp only [List.any_cons, hacc, Bool.false_or, List.find?_cons, altMatch]
          by_cases hm : startsWithAtCI inp s pos = true
          · simp only [hm, ↓reduceIte]
            cases hf : (mL false r).find? (startsWithAt inp · pos) with
            | none => rfl
            | some v =>
              dsimp only
              obtain ⟨hmem, hvl⟩ := mem_mL (List.mem_of_find?_eq_some hf)
              rw [ci_vs_cs G inp hl hvl (hcompat _ hmem) hm (by simpa using List.find?_some hf)]
          · simp only [hm, Bool.false_eq_true, ↓reduceIte]

theorem optMatchOnce_eq_first {alts : List Alt} (hpw : alts.Pairwise (fun a b => compat G a b = true))
    (hok : ∀ a ∈ alts, AltOK a) (pos : Nat) :
    L1.optMatchOnce G inp alts pos = firstMatch G inp alts pos := by
  rw [omo_eq, omo_first G inp pos alts hpw hok]

end OptS
end Pest
