/-
  Lemmas/FrontAccScan.lean — the scanner's accept half, tree level and driver: every layout of a
  concrete syntax tree (Lemmas/FrontInvCst.lean) with valid lexemes, and a comma between any two
  numbers in braces (`Sep`, Lemmas/FrontCstSep.lean), is accepted, and the tokens are the tree's
  (`scan_accept_c`, the converse of `IS.scan_inv` for separated trees).  Read after
  Lemmas/FrontAccTok.lean.

  No two adjacent tokens of a tree can merge (an identifier is followed by `=`, an operator, a
  closer, `(` or `[`; a number by `,` `}` `..` `]`); what a scanner that tries its alternatives in
  order needs beyond that — the earlier alternatives fail, trivia stops — is read off the first
  lexeme of what follows (`hd_node`, `hd_term`, `hd_expr`).

  The recursion `accept_expression → accept_term → accept_terminal → accept_expression` is open
  in the model, so the tree is never inducted on mutually: a term is scanned if `rec` scans the
  expression inside its node (`acceptTerm_ok`), `exprStep rec` scans `e` if `acceptTerm rec` scans its
  terms (`exprStep_ok`), and `acceptExpression_ok` is an induction on the fuel, which only has to
  exceed the number of `(` tokens (`lp`).  Every loop is fuelled by the length of the text in front
  of it.  `RunsAt` quantifies over every bound that exceeds the measure `3·|rest| + rank fn` of the
  totality proof (`run_sat`), and each call lowers it (`RunsAt.step`), so no call is counted.  The
  statements about source-level grammars follow in Lemmas/FrontScanAst.lean through the lift of
  Lemmas/FrontCstGlue.lean.
-/
import PestModel.Lemmas.FrontAccTok

namespace Pest
namespace Front
namespace TRT
open RT

/-- number of `(` tokens -/
def lp (kvs : List KV) : Nat := (kvs.filter (· == (.lparen, [40]))).length

theorem lp_append (a b : List KV) : lp (a ++ b) = lp a + lp b := by simp [lp]

theorem lp_cons (kv : KV) (r : List KV) :
    lp (kv :: r) = (if kv == (.lparen, [40]) then 1 else 0) + lp r := by
  simp only [lp, List.filter_cons]
  split <;> simp <;> omega

/-! ### look-ahead, read off the first lexeme of the layout -/

theorem hd_node {nd : CNode} (h : nd.Valid) {t tl : Text} (hs : ScA nd.kv t tl) :
    Hd nodeStart t := by
  cases nd with
  | str s => obtain ⟨w, ws, m, ⟨body, rfl, _⟩, _, rfl, _⟩ := scA_cons_inv hs; rfl
  | ci s => obtain ⟨w, ws, m, ⟨ws0, body, _, rfl, _⟩, _, rfl, _⟩ := scA_cons_inv hs; rfl
  | range a b =>
    obtain ⟨ws, m, _, rfl, _⟩ := scA_cons_v (k := .char) hs
    obtain ⟨body, rfl, _⟩ := h.1
    rfl
  | ident name =>
    obtain ⟨ws, m, _, rfl, _⟩ := scA_cons_v hs (PRT.keywordKind_ne_string name).1 (PRT.keywordKind_ne_string name).2
    obtain ⟨c, r, rfl, hc, _⟩ := isIdent_dest h
    show nodeStart c = true
    unfold nodeStart
    rw [hc, Bool.or_true]
  | pushLit s => obtain ⟨ws, m, _, rfl, _⟩ := scA_cons_v (k := .pushLiteral) hs; rfl
  | push b e => obtain ⟨ws, m, _, rfl, _⟩ := scA_cons_v (k := .push) hs; rfl
  | slice a b => obtain ⟨ws, m, _, rfl, _⟩ := scA_cons_v (k := .peek) hs; rfl
  | paren b e => obtain ⟨ws, m, _, rfl, _⟩ := scA_cons_v (k := .lparen) hs; rfl

theorem hd_term {t : CTerm} (h : t.Valid) {inp tl : Text} (hs : ScA t.kv inp tl) :
    Hd termStart inp := by
  cases t with
  | mk tag pre nd post =>
    dsimp only [CTerm.kv] at hs
    cases tag with
    | some tg =>
      obtain ⟨ws, m, _, rfl, _⟩ := scA_cons_v (k := .tag) (by simpa [tagKV] using hs)
      rfl
    | none =>
      obtain ⟨m1, hsQ, h1⟩ := scA_append (pre.map preKV) (by simpa [tagKV] using hs)
      obtain ⟨m2, hsN, _⟩ := scA_append nd.kv h1
      exact (hd_pre pre hsQ (hd_node h.2.1 hsN)).mono @termStart_of_preStart

theorem hd_expr {e : CExpr} (h : e.Valid) {t tl : Text} (hs : ScA e.kv t tl) : Hd termStart t := by
  cases e with
  | one t => exact hd_term h hs
  | cons t b r =>
    dsimp only [CExpr.kv] at hs
    rw [List.append_assoc] at hs
    obtain ⟨m, h1, _⟩ := scA_append _ hs
    exact hd_term h.1 h1

/-- first characters of an expression: `|` or a term -/
def exprStart (c : Nat) : Bool := c == 124 || termStart c

theorem tokc_exprStart {c : Nat} (h : exprStart c = true) : tokc c = true :=
  tokc_of (by decide) h

theorem hd_barExpr (bar : Bool) {e : CExpr} (h : e.Valid) {t tl : Text}
    (hs : ScA (barKV bar ++ e.kv) t tl) : Hd exprStart t := by
  cases bar with
  | true => obtain ⟨ws, m, _, rfl, _⟩ := scA_cons_v (k := .choiceOp) hs; rfl
  | false => exact (hd_expr h hs).mono fun c hc => by simp [exprStart, hc]

theorem scA_cons_op {b : Bool} {K : List KV} {t tl : Text} (h : ScA (opKV b :: K) t tl) :
    ∃ ws m, IsTrivia ws ∧ t = [if b then 124 else 126] ++ (ws ++ m) ∧ ScA K m tl := by
  cases b with
  | true => exact scA_cons_v (k := .choiceOp) h
  | false => exact scA_cons_v (k := .sequenceOp) h

theorem hd_tail (ts : List (Bool × CTerm)) {t tl : Text} (hs : ScA (tailKV ts) t tl)
    (h : Hd closer tl) : Hd afterTerm t := by
  cases ts with
  | nil => cases scA_nil_inv hs; exact h.mono @afterTerm_of_closer
  | cons x r =>
    rw [tailKV_cons] at hs
    obtain ⟨ws, m, _, rfl, _⟩ := scA_cons_op hs
    cases x.1 <;> rfl

/-! ### terminals, terms, expressions -/

theorem sp_scanIdent {name : Text} (h : IsIdent name) {F : Text} (hF : Hd nic F) :
    Sp scanIdent (name ++ F) (some (keywordKind name)) F [(keywordKind name, name)] := by
  intro s hs
  have hm := mIdentifier_of h hF
  refine ⟨(s.adv name.length).emit (keywordKind name) name, ?_, by simp [hs], by simp⟩
  simp [scanIdent, hs, hm]

theorem sp_scanIdent_none {c : Nat} (r : Text) (h : isIdentStart c = false) :
    Sp scanIdent (c :: r) none (c :: r) [] := by
  intro s hs
  exact ⟨s, by simp [scanIdent, hs, mIdentifier_none r h], hs, by simp⟩

/-- what begins neither `PUSH…` nor an identifier is left to the three kinds of literal -/
theorem sp_terminal_lit (rec : M Unit) {c : Nat} {r tl : Text} {b : Bool} {K : List KV}
    (hc : isIdentStart c = false)
    (h : Sp (do
      let b ← acceptString
      if b then pure true
      else do
        let b ← acceptCIString
        if b then pure true else charRange) (c :: r) b tl K) :
    Sp (acceptTerminal rec) (c :: r) b tl K :=
  have h80 : c ≠ 80 := fun e => by subst e; cases hc
  k_scanEmit_no (mLit_ne r h80) <| k_scanEmit_no (mLit_ne r h80) <|
    Sp.bind (sp_scanIdent_none r hc) h rfl

theorem sp_terminal_name (rec : M Unit) {name : Text} (h : IsIdent name) {F tl : Text} {b : Bool}
    {K : List KV} (hF : Hd nic F)
    (hk : Sp (if keywordKind name = .peek then peekTail else pure true) F b tl K) :
    Sp (acceptTerminal rec) (name ++ F) b tl ((keywordKind name, name) :: K) :=
  have hp := mLit_push_ident h hF
  -- `PUSH_LITERAL` is `PUSH` followed by `_LITERAL`
  k_scanEmit_no (mLit_append_none (a := sPUSH) [95, 76, 73, 84, 69, 82, 65, 76] hp) <|
    k_scanEmit_no hp <| Sp.bind (sp_scanIdent h hF) hk rfl

theorem mLit_pushLit_push {F : Text} (hF : Hd (fun c => c != 95) F) :
    mLit sPUSH_LITERAL (sPUSH ++ F) = none := by
  obtain ⟨x, F', rfl, hx⟩ := hF.dest
  have : (x == 95) = false := by simpa using hx
  simp [mLit, sPUSH, sPUSH_LITERAL, startsWith, this]

theorem sp_terminal_paren (rec : M Unit) (r : Text) :
    Sp (acceptTerminal rec) (40 :: r) false (40 :: r) [] :=
  sp_terminal_lit rec (by decide) <| Sp.bind (sp_acceptString_no (by simp))
    (Sp.bind (sp_acceptCIString_no (by simp)) (sp_charRange_no r (by decide)) rfl) rfl

def ExprOK (rec : M Unit) (e : CExpr) : Prop :=
  ∀ (bar : Bool) (F t tl : Text), Hd closer tl → ScA (barKV bar ++ e.kv) t tl → Tr F t →
    Sp rec F () tl (barKV bar ++ e.kv)

def TermOK (rec : M Unit) (t : CTerm) : Prop :=
  ∀ (inp tl : Text), Hd afterTerm tl → ScA t.kv inp tl → Sp (acceptTerm rec) inp () tl t.kv

def SubOK (rec : M Unit) : CNode → Prop
  | .push _ e => ExprOK rec e
  | .paren _ e => ExprOK rec e
  | _ => True

theorem sp_terminal_str (rec : M Unit) (s : Text) {t tl : Text} (hs : ScA (CNode.str s).kv t tl) :
    ∃ F', Tr F' tl ∧ Sp (acceptTerminal rec) t true F' (CNode.str s).kv := by
  dsimp only [CNode.kv] at hs ⊢
  obtain ⟨w, ws, m, ⟨body, rfl, hb⟩, hw, rfl, h1⟩ := scA_cons_inv hs
  cases scA_nil_inv h1
  exact ⟨ws ++ tl, Tr.mk hw tl,
    sp_terminal_lit rec (c := 34) (by decide) (k_acceptString hb (Sp.pure true _))⟩

theorem sp_terminal_ci (rec : M Unit) (s : Text) {t tl : Text} (hs : ScA (CNode.ci s).kv t tl) :
    ∃ F', Tr F' tl ∧ Sp (acceptTerminal rec) t true F' (CNode.ci s).kv := by
  dsimp only [CNode.kv] at hs ⊢
  obtain ⟨w, ws, m, ⟨ws0, body, hws0, rfl, hb⟩, hw, rfl, h1⟩ := scA_cons_inv hs
  cases scA_nil_inv h1
  exact ⟨ws ++ tl, Tr.mk hw tl, sp_terminal_lit rec (c := 94) (by decide)
    (Sp.bind (sp_acceptString_no (by simp)) (k_acceptCIString hb hws0 (Sp.pure true _)) rfl)⟩

theorem sp_terminal_range (rec : M Unit) (a b : Text) (ha : IsCharLit a) (hb : IsCharLit b)
    {t tl : Text} (hs : ScA (CNode.range a b).kv t tl) :
    ∃ F', Tr F' tl ∧ Sp (acceptTerminal rec) t true F' (CNode.range a b).kv := by
  dsimp only [CNode.kv] at hs ⊢
  obtain ⟨F', hF', hcr⟩ := sp_charRange a b ha hb hs
  obtain ⟨ws, m, _, rfl, _⟩ := scA_cons_v (k := .char) hs
  obtain ⟨body, rfl, _⟩ := ha
  exact ⟨F', hF', sp_terminal_lit rec (c := 39) (by decide)
    (Sp.bind (sp_acceptString_no (by simp)) (Sp.bind (sp_acceptCIString_no (by simp)) hcr rfl) rfl)⟩

theorem sp_terminal_ident (rec : M Unit) {name : Text} (h : IsIdent name) {t tl : Text}
    (hs : ScA (CNode.ident name).kv t tl) (htl : Hd afterNode tl) :
    ∃ F', Tr F' tl ∧ Sp (acceptTerminal rec) t true F' (CNode.ident name).kv := by
  dsimp only [CNode.kv] at hs ⊢
  obtain ⟨w, m, hw, rfl, h1⟩ := scA_cons_v hs (PRT.keywordKind_ne_string name).1 (PRT.keywordKind_ne_string name).2
  cases scA_nil_inv h1
  have hF : Hd nic (w ++ tl) := hd_nic @nic_afterNode (Tr.mk hw tl) htl
  by_cases hk : keywordKind name = .peek
  · refine ⟨tl, Tr.refl tl, sp_terminal_name rec h hF ?_⟩
    rw [if_pos hk]
    exact sp_peekTail_no (Tr.mk hw tl) htl
  · refine ⟨w ++ tl, Tr.mk hw tl, sp_terminal_name rec h hF ?_⟩
    rw [if_neg hk]
    exact Sp.pure true _

theorem sp_terminal_slice (rec : M Unit) (a b : Option Text) (ha : ∀ w, a = some w → IsIntTok w)
    (hb : ∀ w, b = some w → IsIntTok w) {t tl : Text} (hs : ScA (CNode.slice a b).kv t tl) :
    ∃ F', Tr F' tl ∧ Sp (acceptTerminal rec) t true F' (CNode.slice a b).kv := by
  rw [slice_kv] at hs ⊢
  obtain ⟨w, t1, hw, rfl, h1⟩ := scA_cons_v (k := .peek) hs
  obtain ⟨w0, t2, _, e, _⟩ := scA_cons_v (k := .lbracket) h1
  have hF : Hd nic (w ++ t1) :=
    hd_nic (p := (· == 91)) (fun c hc => by simp at hc; subst hc; decide) (Tr.mk hw t1) (e ▸ rfl)
  obtain ⟨F', hF', hpt⟩ := sp_peekTail_slice a b ha hb h1 (Tr.mk hw t1)
  exact ⟨F', hF', sp_terminal_name rec isIdent_PEEK hF hpt⟩

theorem sp_terminal_pushLit (rec : M Unit) (s : Option Text) {t tl : Text}
    (hs : ScA (CNode.pushLit s).kv t tl) :
    ∃ F', Tr F' tl ∧ Sp (acceptTerminal rec) t true F' (CNode.pushLit s).kv := by
  dsimp only [CNode.kv] at hs ⊢
  obtain ⟨w1, m1, hw1, rfl, h1⟩ := scA_cons_v (k := .pushLiteral) hs
  obtain ⟨w2, m2, hw2, rfl, h2⟩ := scA_cons_v (k := .lparen) h1
  cases s with
  | none =>
    obtain ⟨w4, m4, hw4, rfl, h4⟩ := scA_cons_v (k := .rparen) h2
    cases scA_nil_inv h4
    exact ⟨w4 ++ tl, Tr.mk hw4 tl,
      k_scanEmit (mLit_of sPUSH_LITERAL _) <| k_triv hw1 (stop_tokc (c := 40) _ (by decide)) <|
      k_expect <| k_triv hw2 (stop_tokc (c := 41) _ (by decide)) <|
      Sp.bind (sp_acceptString_no (by simp))
        (k_triv_none (stop_tokc (c := 41) _ (by decide)) <| k_expect <| Sp.pure true _)
        rfl⟩
  | some v =>
    obtain ⟨w, w3, m3, ⟨body, rfl, hb⟩, hw3, rfl, h3⟩ := scA_cons_inv h2
    obtain ⟨w4, m4, hw4, rfl, h4⟩ := scA_cons_v (k := .rparen) h3
    cases scA_nil_inv h4
    exact ⟨w4 ++ tl, Tr.mk hw4 tl,
      k_scanEmit (mLit_of sPUSH_LITERAL _) <| k_triv hw1 (stop_tokc (c := 40) _ (by decide)) <|
      k_expect <| k_triv hw2 (stop_tokc (c := 34) _ (by decide)) <|
      k_acceptString hb <| k_triv hw3 (stop_tokc (c := 41) _ (by decide)) <| k_expect <|
      Sp.pure true _⟩

/-- `( e )` in any layout, then `k`: the sequence shared by `PUSH ( e )` and a parenthesised
    term -/
theorem sp_parenExpr {β} (rec : M Unit) (k : M β) (bar : Bool) {e : CExpr} (hv : e.Valid)
    (hrec : ExprOK rec e) {w t1 X tl : Text} {Kk : List KV} {b : β} (hw : IsTrivia w)
    (hE : ScA (barKV bar ++ e.kv) t1 ([41] ++ X)) (hk : Sp k X b tl Kk) :
    Sp (do
      expect 40 .lparen .expectedLParen
      triv
      rec
      triv
      expect 41 .rparen .expectedRParen
      k) ([40] ++ (w ++ t1)) b tl
      ((.lparen, [40]) :: ((barKV bar ++ e.kv) ++ (.rparen, [41]) :: Kk)) :=
  k_expect <| k_triv hw ((hd_barExpr bar hv hE).stop @tokc_exprStart) <|
  Sp.bind (hrec bar t1 t1 _ (hd_lit (p := closer) X rfl) hE (Tr.refl _))
    (k_triv_none (stop_tokc (c := 41) _ (by decide)) <| k_expect hk) rfl

theorem sp_terminal_push (rec : M Unit) (bar : Bool) {e : CExpr} (hv : e.Valid)
    (hrec : ExprOK rec e) {t tl : Text} (hs : ScA (CNode.push bar e).kv t tl) :
    ∃ F', Tr F' tl ∧ Sp (acceptTerminal rec) t true F' (CNode.push bar e).kv := by
  rw [push_kv] at hs ⊢
  obtain ⟨w1, m1, hw1, rfl, h1⟩ := scA_cons_v (k := .push) hs
  obtain ⟨w2, t1, hw2, rfl, h2⟩ := scA_cons_v (k := .lparen) h1
  obtain ⟨t2, hE, h3⟩ := scA_append _ h2
  obtain ⟨w3, m3, hw3, rfl, h4⟩ := scA_cons_v (k := .rparen) h3
  cases scA_nil_inv h4
  have hno : mLit sPUSH_LITERAL (sPUSH ++ (w1 ++ ([40] ++ (w2 ++ t1)))) = none :=
    mLit_pushLit_push (isTrivia_hd (fun c hc => by
      rcases not_tokc_cases hc with h | h | h | h | h <;> subst h <;> rfl) hw1 (hd_lit _ (by decide)))
  exact ⟨w3 ++ tl, Tr.mk hw3 tl,
    k_scanEmit_no hno <| k_scanEmit (mLit_of sPUSH _) <|
    k_triv hw1 (stop_tokc (c := 40) _ (by decide)) <|
    sp_parenExpr rec _ bar hv hrec hw2 hE (Sp.pure true _)⟩

/-- every node but a parenthesis: `accept_terminal` scans it; the trivia behind it may be eaten -/
theorem sp_terminal (rec : M Unit) {nd : CNode} (hv : nd.Valid) (hsub : SubOK rec nd)
    (hnp : ∀ b e, nd ≠ .paren b e) {t tl : Text} (hs : ScA nd.kv t tl) (htl : Hd afterNode tl) :
    ∃ F', Tr F' tl ∧ Sp (acceptTerminal rec) t true F' nd.kv := by
  cases nd with
  | str s => exact sp_terminal_str rec s hs
  | ci s => exact sp_terminal_ci rec s hs
  | range a b => exact sp_terminal_range rec a b hv.1 hv.2 hs
  | ident name => exact sp_terminal_ident rec hv hs htl
  | pushLit s => exact sp_terminal_pushLit rec s hs
  | push b e => exact sp_terminal_push rec b hv hsub hs
  | slice a b => exact sp_terminal_slice rec a b hv.1 hv.2 hs
  | paren b e => exact absurd rfl (hnp b e)

theorem acceptTerm_ok (rec : M Unit) {t : CTerm} (hv : t.Valid) (hsep : t.Sep)
    (hsub : match t with | .mk _ _ nd _ => SubOK rec nd) : TermOK rec t := by
  intro inp tl htl hs
  cases t with
  | mk tag pre nd post =>
    simp only at hsub
    have hnd : nd.Valid := hv.2.1
    dsimp only [CTerm.kv] at hs ⊢
    simp only [List.append_assoc] at hs ⊢
    obtain ⟨Q, hsT, h1⟩ := scA_append _ hs
    obtain ⟨N, hsQ, h2⟩ := scA_append _ h1
    obtain ⟨P, hsN, hsP⟩ := scA_append _ h2
    have hP : Hd afterNode P := hd_posts post hsP htl
    have hN : Hd nodeStart N := hd_node hnd hsN
    have hposts := fun {F : Text} (hF : Tr F P) =>
      sp_acceptPostfixOps post (fun p hp => ⟨hv.2.2 p hp, hsep.2 p hp⟩) htl hsP hF
    refine Sp.bind (sp_acceptTag tag hv.1 hsT (hd_pre pre hsQ hN))
      (Sp.bind (sp_prefixOps pre hsQ hN) ?_ rfl) rfl
    by_cases hp : ∃ b e, nd = .paren b e
    · obtain ⟨b, e, rfl⟩ := hp
      rw [paren_kv] at hsN ⊢
      obtain ⟨w1, t1, hw1, rfl, h3⟩ := scA_cons_v (k := .lparen) hsN
      obtain ⟨t2, hE, h4⟩ := scA_append _ h3
      obtain ⟨w2, m2, hw2, rfl, h5⟩ := scA_cons_v (k := .rparen) h4
      cases scA_nil_inv h5
      exact Sp.bind (sp_terminal_paren rec (w1 ++ t1))
        (sp_parenExpr rec _ b hnd hsub hw1 hE (hposts (Tr.mk hw2 P))) (by simp)
    · have hnp : ∀ b e, nd ≠ .paren b e := fun b e h => hp ⟨b, e, h⟩
      obtain ⟨F', hF', hterm⟩ := sp_terminal rec hnd hsub hnp hsN hP
      exact Sp.bind hterm (hposts hF') rfl

/-- the test at the head of the loop of `accept_expression`: `~`, else `|`; both continue alike -/
theorem k_op {β : Type} (b : Bool) {C D : M β} {tl tl' : Text} {x : β} {K : List KV}
    (k : Sp C tl x tl' K) :
    Sp (do
      let y ← optChar 126 .sequenceOp
      if y then C
      else do
        let z ← optChar 124 .choiceOp
        if z then C else D) ([if b then 124 else 126] ++ tl) x tl' (opKV b :: K) := by
  cases b with
  | true => exact k_optChar_no (by simp) <| k_optChar k
  | false => exact k_optChar k

theorem sp_exprLoop (rec : M Unit) : ∀ (ts : List (Bool × CTerm)),
    (∀ x ∈ ts, TermOK rec x.2 ∧ x.2.Valid) → ∀ (n : Nat) (inp tl : Text), inp.length < n →
    Hd closer tl → ScA (tailKV ts) inp tl → Sp (exprLoop rec n) inp () tl (tailKV ts)
  | _, _, 0, _, _, hn, _, _ => absurd hn (Nat.not_lt_zero _)
  | [], _, n + 1, inp, tl, _, htl, hs => by
    cases scA_nil_inv hs
    exact k_triv_none ((htl.mono @afterTerm_of_closer).stop @tokc_afterTerm) <|
      k_optChar_no (head_ne_of_hd htl (by decide)) <|
      k_optChar_no (head_ne_of_hd htl (by decide)) <| Sp.pure () _
  | (b, t) :: r, hT, n + 1, inp, tl, hn, htl, hs => by
    have hT' : ∀ x ∈ r, TermOK rec x.2 ∧ x.2.Valid := fun x hx => hT x (List.mem_cons_of_mem _ hx)
    obtain ⟨ht, hv⟩ := hT (b, t) List.mem_cons_self
    rw [tailKV_cons] at hs ⊢
    obtain ⟨w, m, hw, rfl, h1⟩ := scA_cons_op hs
    obtain ⟨R, hFst, hTail⟩ := scA_append _ h1
    have hlen : R.length < n := by
      have := scA_length hFst
      simp at hn; omega
    exact k_triv_none (stop_tokc _ (by cases b <;> decide)) <| k_op b <|
      k_triv hw ((hd_term hv hFst).stop @tokc_termStart) <|
      Sp.bind (ht m R (hd_tail r hTail htl) hFst)
        (sp_exprLoop rec r hT' n R tl hlen htl hTail) rfl

theorem exprStep_ok (rec : M Unit) {t : CTerm} {ts : List (Bool × CTerm)}
    (ht : TermOK rec t ∧ t.Valid) (hts : ∀ x ∈ ts, TermOK rec x.2 ∧ x.2.Valid) :
    ExprOK (exprStep rec) (mkCExpr t ts) := by
  intro bar F inp tl htl hs hF
  have hv : (mkCExpr t ts).Valid := mkCExpr_valid.2 ⟨ht.2, fun x hx => (hts x hx).2⟩
  have hst : Stop inp := (hd_barExpr bar hv hs).stop @tokc_exprStart
  obtain ⟨t1, hBar, h1⟩ := scA_append _ hs
  have ht1 : Hd termStart t1 := hd_expr hv h1
  rw [mkCExpr_kv] at h1 ⊢
  obtain ⟨R, hFst, hTail⟩ := scA_append _ h1
  exact k_triv_tr hF hst <| Sp.bind (sp_leadingChoice bar hBar ht1) (Sp.bind
    (ht.1 t1 R (hd_tail ts hTail htl) hFst)
    (Sp.sized fun n hn => sp_exprLoop rec ts hts n R tl hn htl hTail) rfl) rfl

theorem lp_sub (tag : Option Text) (pre : List Bool) (post : List CPost) (b : Bool) (e : CExpr) :
    lp e.kv < lp (CTerm.mk tag pre (.paren b e) post).kv ∧
      lp e.kv < lp (CTerm.mk tag pre (.push b e) post).kv := by
  have h1 : lp [(TK.lparen, [40])] = 1 := by decide
  have h2 : lp [(TK.push, sPUSH), (TK.lparen, [40])] = 1 := by decide
  dsimp only [CTerm.kv, CNode.kv]
  simp only [lp_append, h1, h2]
  omega

theorem lp_tailKV_mem {x : Bool × CTerm} : ∀ {ts : List (Bool × CTerm)}, x ∈ ts →
    lp x.2.kv ≤ lp (tailKV ts)
  | (b, t) :: r, h => by
    rw [tailKV_cons, lp_cons, lp_append]
    rcases List.mem_cons.1 h with rfl | h
    · show lp t.kv ≤ _
      omega
    · have := lp_tailKV_mem h
      omega

/-- the depth fuel suffices: it only has to exceed the number of `(` tokens of the expression -/
theorem acceptExpression_ok : ∀ (fuel : Nat) (e : CExpr), e.Valid → e.Sep → lp e.kv < fuel →
    ExprOK (acceptExpression fuel) e
  | 0, _, _, _, h => absurd h (Nat.not_lt_zero _)
  | f + 1, e, hv, hs, h => by
    obtain ⟨t, ts, rfl⟩ := exists_mkCExpr e
    obtain ⟨hvt, hvts⟩ := mkCExpr_valid.1 hv
    obtain ⟨hst, hsts⟩ := mkCExpr_sep.1 hs
    rw [mkCExpr_kv, lp_append] at h
    have term : ∀ t' : CTerm, t'.Valid → t'.Sep → lp t'.kv < f + 1 →
        TermOK (acceptExpression f) t' ∧ t'.Valid := by
      intro t' htv hts hle
      refine ⟨acceptTerm_ok _ htv hts ?_, htv⟩
      cases t' with
      | mk tag pre nd post =>
        cases nd with
        | push b e' =>
          exact acceptExpression_ok f e' htv.2.1 hts.1 (by
            have := (lp_sub tag pre post b e').2; omega)
        | paren b e' =>
          exact acceptExpression_ok f e' htv.2.1 hts.1 (by
            have := (lp_sub tag pre post b e').1; omega)
        | _ => trivial
    exact exprStep_ok _ (term t hvt hst (by omega)) fun x hx =>
      term x.2 (hvts x hx) (hsts x hx) (by have := lp_tailKV_mem hx; omega)

/-- every `(` token takes a character of the text -/
theorem scA_lp {K : List KV} {t tl : Text} (h : ScA K t tl) : lp K + tl.length ≤ t.length := by
  induction h with
  | nil _ => simp [lp]
  | cons kv hsp _ _ ih =>
    rw [lp_cons]
    split
    · rename_i hkv
      cases (by simpa using hkv : kv = (.lparen, [40]))
      cases (spellsA_verb (by decide) (by decide)).1 hsp
      simp; omega
    · simp; omega

/-! ### rules, doc comments, the grammar -/

theorem sp_docMarker (marker : TK) (m : Text) (inner : Fn) (other : M (Option Fn)) {F X : Text}
    (hF : Tr F (m ++ X)) (hst : Stop (m ++ X)) :
    Sp (do triv; let b ← scanEmit (mLit m) marker; if b then pure (some inner) else other)
      F (some inner) X [(marker, m)] :=
  k_triv_tr hF hst <| k_scanEmit (mLit_of m X) <| Sp.pure _ _

theorem sp_stateFn_gdoc {F X : Text} (hF : Tr F (sGDOC ++ X)) :
    Sp (stateFn .grammar) F (some .grammarDocInner) X [(.grammarDoc, sGDOC)] :=
  sp_docMarker .grammarDoc sGDOC .grammarDocInner _ hF (stop_doc X).2

theorem sp_stateFn_rdoc {F X : Text} (hF : Tr F (sRDOC ++ X)) :
    Sp (stateFn .grammarRule) F (some .ruleDocInner) X [(.ruleDoc, sRDOC)] :=
  sp_docMarker .ruleDoc sRDOC .ruleDocInner _ hF (stop_doc X).1

theorem sp_docLine (outer : Fn) {sp l rest : Text} (hsp : DocSp sp l) (h : NoLF l)
    (hd : DocEnd l rest) :
    Sp (do docInner; pure (some outer)) (sp ++ (l ++ rest)) (some outer) rest
      [(.commentText, l)] :=
  Sp.bind (sp_docInner hsp h hd) (Sp.pure _ _) rfl

/-- where the rules begin: a rule name, a `///` line, or the end of the text -/
def RuleStart (X : Text) : Prop := X = [] ∨ Hd isIdentStart X ∨ ∃ r, X = 47 :: 47 :: 47 :: r

theorem RuleStart.stop {X : Text} (h : RuleStart X) : Stop X := by
  rcases h with h | h | ⟨r, h⟩
  · subst h; exact stop_nil
  · exact h.stop @tokc_identStart
  · subst h; exact (stop_doc r).1

theorem RuleStart.no_gdoc {X : Text} (h : RuleStart X) : mLit sGDOC X = none := by
  rcases h with h | h | ⟨r, h⟩
  · subst h; rfl
  · obtain ⟨c, r, rfl, hc⟩ := h.dest
    exact mLit_ne r (ne_of_class hc)
  · subst h; simp [mLit, sGDOC, startsWith]

theorem sp_stateFn_grammar_rules {F X : Text} (hF : Tr F X) (hX : RuleStart X) :
    Sp (stateFn .grammar) F (some .grammarRule) X [] :=
  k_triv_tr hF hX.stop <| k_scanEmit_no hX.no_gdoc <| Sp.pure _ _

/-- the end of the text at the rule level: trivia, possibly an unterminated line comment -/
theorem sp_stateFn_end {F e : Text} (hF : Tr F e) (he : EndC e) :
    Sp (stateFn .grammarRule) F none [] [] := by
  have hlast : Sp (fun s : St => if s.rest.isEmpty then SR.ok (none : Option Fn) s
      else error .expectedRule s) [] none [] [] := by
    intro s hs
    exact ⟨s, by simp [hs], hs, by simp⟩
  exact Sp.bind (sp_triv_end hF he) (k_scanEmit_no (t := []) rfl <|
    k_triv_none stop_nil <| k_scanEmit_no (t := []) rfl hlast) rfl

/-- the end of the text at the grammar level (no rule, no `///` line) -/
theorem sp_stateFn_grammar_end {F e : Text} (hF : Tr F e) (he : EndC e) :
    Sp (stateFn .grammar) F (some .grammarRule) [] [] :=
  Sp.bind (sp_triv_end hF he) (k_scanEmit_no (t := []) rfl <| Sp.pure _ _) rfl

/-- started on `F`, the state function `fn` and its successors emit `K` and reach the end of the
    text, under every bound the totality proof accepts (`run_sat`) -/
def RunsAt (fn : Fn) (F : Text) (K : List KV) : Prop :=
  ∀ n, 3 * F.length + rank fn < n → Sp (run n fn) F () [] K

theorem run_succ (n : Nat) (fn : Fn) :
    run (n + 1) fn = (stateFn fn >>= fun next =>
      match next with
      | some fn' => run n fn'
      | none => pure ()) := rfl

/-- a call that lowers the measure of `run_sat` (`Step.of_lt`: it consumes a character;
    `Step.of_rank`: it hands over to a state function of lower rank) -/
theorem RunsAt.step {fn fn' : Fn} {F F' : Text} {k1 k2 K : List KV}
    (h1 : Sp (stateFn fn) F (some fn') F' k1) (hst : Step fn (some fn') F'.length F.length)
    (hK : K = k1 ++ k2) (h2 : RunsAt fn' F' k2) : RunsAt fn F K
  | 0, hn => absurd hn (Nat.not_lt_zero _)
  | n + 1, hn => by
    rw [run_succ]
    exact Sp.bind h1 (h2 n (Nat.lt_of_lt_of_le (hst fn' rfl) (Nat.le_of_lt_succ hn))) hK

theorem RunsAt.last {fn : Fn} {F : Text} {K : List KV} (h1 : Sp (stateFn fn) F none [] K) :
    RunsAt fn F K
  | 0, hn => absurd hn (Nat.not_lt_zero _)
  | n + 1, _ => by
    rw [run_succ]
    exact Sp.bind h1 (Sp.pure () []) (List.append_nil K).symm

/-- `scan_grammar_rule` from the rule name to the closing brace -/
theorem sp_ruleTail {r : CRule} (hv : r.Valid) (hsep : r.Sep) {t more : Text}
    (hs : ScA r.headKV t more) :
    ∃ F', Tr F' more ∧ F'.length < t.length ∧ Sp ruleTail t (some .grammarRule) F' r.headKV := by
  obtain ⟨_, hname, hmod, hbody⟩ := hv
  obtain ⟨c, rn, hc, hcs, _, _⟩ := isIdent_dest hname
  rw [headKV_cons] at hs ⊢
  obtain ⟨w1, m1, hw1, rfl, h1⟩ := scA_cons_v (k := .identifier) hs
  obtain ⟨w2, t1, hw2, rfl, h2⟩ := scA_cons_v (k := .assignOp) h1
  obtain ⟨t2, hM, h3⟩ := scA_append _ h2
  obtain ⟨w3, t3, hw3, rfl, h4⟩ := scA_cons_v (k := .lbrace) h3
  obtain ⟨t4, hE, h5⟩ := scA_append _ h4
  obtain ⟨w4, m4, hw4, rfl, h6⟩ := scA_cons_v (k := .rbrace) h5
  cases scA_nil_inv h6
  have hM' : ScA (modKV r.mod) t1 (123 :: (w3 ++ t3)) := hM
  have hstart : Stop (r.name ++ (w1 ++ ([61] ++ (w2 ++ t1)))) := by
    rw [hc]; exact stop_tokc _ (tokc_identStart hcs)
  have hexpr : Sp (fun s => acceptExpression (s.rest.length + 1) s) (w3 ++ t3) ()
      ([125] ++ (w4 ++ more)) (barKV r.bar ++ r.body.kv) := Sp.sized fun n hn =>
    acceptExpression_ok n r.body hbody hsep (by
        have := scA_lp hE
        rw [lp_append] at this
        simp at hn; omega) r.bar _ _ _
      (hd_lit (p := closer) _ rfl) hE (Tr.mk hw3 t3)
  have hlen : (w4 ++ more).length < (r.name ++ (w1 ++ ([61] ++ (w2 ++ t1)))).length := by
    have i1 := scA_length hM
    have i2 := scA_length hE
    simp at i1 i2 ⊢; omega
  exact ⟨w4 ++ more, Tr.mk hw4 more, hlen,
    k_triv_none hstart <|
    k_scanEmit (mIdentifier_of hname (hd_nic_w hw1 _ (by decide))) <|
    k_triv hw1 (stop_tokc (c := 61) _ (by decide)) <| k_expect <|
    k_triv hw2 (stop_mod r.mod hmod hM') <|
    Sp.bind (sp_optModifier r.mod hmod hM') (k_expect (c := 123) <|
      Sp.bind hexpr (k_expect <| Sp.pure _ _) rfl) rfl⟩

theorem ruleText_hd {r : CRule} (hv : r.Valid) {t more : Text} (hs : ScA r.headKV t more) :
    Hd isIdentStart t := by
  obtain ⟨c, rn, hc, hcs, _, _⟩ := isIdent_dest hv.2.1
  rw [headKV_cons] at hs
  obtain ⟨w1, m1, _, rfl, _⟩ := scA_cons_v (k := .identifier) hs
  rw [hc]
  exact hcs

theorem sp_stateFn_rule {F t more : Text} (hF : Tr F t) {r : CRule} (hv : r.Valid) (hsep : r.Sep)
    (hs : ScA r.headKV t more) :
    ∃ F', Tr F' more ∧ F'.length < F.length ∧
      Sp (stateFn .grammarRule) F (some .grammarRule) F' r.headKV := by
  have hd := ruleText_hd hv hs
  obtain ⟨c, Y, hY, hcs⟩ := hd.dest
  have hnd : mLit sRDOC t = none := by
    rw [hY]
    exact mLit_ne Y (ne_of_class hcs)
  obtain ⟨F', hF', hlt, htail⟩ := sp_ruleTail hv hsep hs
  exact ⟨F', hF', Nat.lt_of_lt_of_le hlt hF.length_le,
    k_triv_tr hF (hd.stop @tokc_identStart) <| k_scanEmit_no hnd htail⟩

open IS

/-- doc lines (`//!` before the rules: `outer = grammar`; `///`: `outer = grammarRule`), then
    whatever the continuation scans -/
theorem run_docs (outer inner : Fn) (marker : TK) (m : Text) (hm : 1 ≤ m.length)
    (hrank : rank outer < rank inner)
    (hO : ∀ F X, Tr F (m ++ X) → Sp (stateFn outer) F (some inner) X [(marker, m)])
    (hI : ∀ sp l rest, DocSp sp l → NoLF l → DocEnd l rest →
      Sp (stateFn inner) (sp ++ (l ++ rest)) (some outer) rest [(.commentText, l)]) :
    ∀ (docs : List Text), (∀ l ∈ docs, NoLF l) → ∀ {t tl : Text} {K : List KV},
    DocsText' m docs t tl → (∀ F, Tr F tl → RunsAt outer F K) →
    ∀ F, Tr F t → RunsAt outer F (docsKV marker m docs ++ K)
  | [], _, _, _, _, hd, hk => by cases (hd : _ = _); exact hk
  | l :: docs, hd, _, tl, K, hdt, hk => by
    intro F hF
    obtain ⟨sp, ws, t', hsp, hws, rfl, hde, hrest⟩ := hdt
    have h1 : (sp ++ (l ++ (ws ++ t'))).length + 1 ≤ F.length := by
      have := hF.length_le
      rw [List.length_append] at this
      omega
    have h2 : (ws ++ t').length ≤ (sp ++ (l ++ (ws ++ t'))).length := by
      simp only [List.length_append]
      omega
    exact RunsAt.step (hO F _ hF) (.of_lt h1) (by simp) <|
      RunsAt.step (hI sp l _ hsp (hd l List.mem_cons_self) hde) (.of_rank hrank h2) rfl <|
      run_docs outer inner marker m hm hrank hO hI docs (fun l' h' => hd l' (List.mem_cons_of_mem _ h'))
        hrest hk (ws ++ t') (Tr.mk hws t')

theorem run_rdocs : ∀ (docs : List Text), (∀ l ∈ docs, NoLF l) → ∀ {t tl : Text} {K : List KV},
    DocsText' sRDOC docs t tl → (∀ F, Tr F tl → RunsAt .grammarRule F K) →
    ∀ F, Tr F t → RunsAt .grammarRule F (docsKV .ruleDoc sRDOC docs ++ K) :=
  run_docs .grammarRule .ruleDocInner .ruleDoc sRDOC (by decide) (by decide)
    (fun _ _ hF => sp_stateFn_rdoc hF) (fun _ _ _ hsp h hd => sp_docLine .grammarRule hsp h hd)

theorem run_gdocs : ∀ (docs : List Text), (∀ l ∈ docs, NoLF l) → ∀ {t tl : Text} {K : List KV},
    DocsText' sGDOC docs t tl → (∀ F, Tr F tl → RunsAt .grammar F K) →
    ∀ F, Tr F t → RunsAt .grammar F (docsKV .grammarDoc sGDOC docs ++ K) :=
  run_docs .grammar .grammarDocInner .grammarDoc sGDOC (by decide) (by decide)
    (fun _ _ hF => sp_stateFn_gdoc hF) (fun _ _ _ hsp h hd => sp_docLine .grammar hsp h hd)

theorem run_rules : ∀ (rules : List CRule), (∀ r ∈ rules, r.Valid ∧ r.Sep) →
    ∀ {t tl : Text} {K : List KV}, CRulesText rules t tl →
    (∀ F, Tr F tl → RunsAt .grammarRule F K) →
    ∀ F, Tr F t → RunsAt .grammarRule F ((rules.map CRule.kv).flatten ++ K)
  | [], _, _, _, _, hrt, hk => by cases (hrt : _ = _); exact hk
  | r :: rules, hv, _, tl, K, hrt, hk => by
    obtain ⟨hr, hrs⟩ := hv r List.mem_cons_self
    obtain ⟨t1, t2, hdocs, hsc, hrest⟩ := hrt
    have := run_rdocs r.docs hr.1 hdocs fun F' hF' => by
      obtain ⟨F'', hF'', hlt, hstep⟩ := sp_stateFn_rule hF' hr hrs hsc
      exact RunsAt.step hstep (.of_lt hlt) rfl <|
        run_rules rules (fun r' h' => hv r' (List.mem_cons_of_mem _ h')) hrest hk F'' hF''
    simpa [CRule.kv, docsKV] using this

theorem rulesText_start : ∀ (rules : List CRule), (∀ r ∈ rules, r.Valid) → ∀ (trailing : List Text)
    {t1 t2 e : Text}, CRulesText rules t1 t2 → DocsText' sRDOC trailing t2 e →
    (rules = [] ∧ trailing = [] ∧ t1 = e) ∨ RuleStart t1 := by
  intro rules hv trailing t1 t2 e hr ht
  have docStart : ∀ (l : Text) (ls : List Text) {t tl : Text}, DocsText' sRDOC (l :: ls) t tl →
      RuleStart t := by
    intro l ls t tl h
    obtain ⟨sp, ws, t', _, _, rfl, _, _⟩ := h
    exact Or.inr (Or.inr ⟨_, by simp [sRDOC]; rfl⟩)
  cases rules with
  | nil =>
    cases (hr : t1 = t2)
    cases trailing with
    | nil => exact Or.inl ⟨rfl, rfl, ht⟩
    | cons l ls => exact Or.inr (docStart l ls ht)
  | cons r rs =>
    right
    obtain ⟨u1, u2, hdocs, hsc, _⟩ := hr
    cases hd : r.docs with
    | nil =>
      rw [hd] at hdocs
      cases (hdocs : t1 = u1)
      exact Or.inr (Or.inl (ruleText_hd (hv r (List.mem_cons_self ..)) hsc))
    | cons l ls => rw [hd] at hdocs; exact docStart l ls hdocs

theorem run_grammar (c : CGrammar) (hv : c.Valid) (hsep : c.Sep) {t : Text}
    (ht : CGrammarText c t) : RunsAt .grammar t c.kv := by
  obtain ⟨hg, hr, htr⟩ := hv
  obtain ⟨lead, t0, t1, t2, e, hlead, rfl, hgd, hrt, htd, he⟩ := ht
  have hEnd : ∀ F, Tr F e → RunsAt .grammarRule F [] := fun F hF =>
    RunsAt.last (sp_stateFn_end hF he)
  have hRules := run_rules c.rules (fun r h => ⟨hr r h, hsep r h⟩) hrt
    (run_rdocs c.trailing htr htd hEnd)
  have hG : ∀ F, Tr F t1 → RunsAt .grammar F
      ((c.rules.map CRule.kv).flatten ++ (docsKV .ruleDoc sRDOC c.trailing ++ [])) := by
    intro F hF
    rcases rulesText_start c.rules hr c.trailing hrt htd with ⟨h1, h2, h3⟩ | hRS
    · subst h3
      rw [h1, h2]
      exact RunsAt.step (sp_stateFn_grammar_end hF he) (.of_rank (by decide) (Nat.zero_le _)) rfl
        (RunsAt.last (sp_stateFn_end (Tr.refl []) (.inl rfl)))
    · exact RunsAt.step (sp_stateFn_grammar_rules hF hRS) (.of_rank (by decide) hF.length_le) rfl
        (hRules t1 (Tr.refl t1))
  have := run_gdocs c.gdocs hg hgd hG (lead ++ t0) (Tr.mk hlead t0)
  simpa [CGrammar.kv, docsKV] using this

end TRT

/-- **Scanner ACCEPT half**, the converse of `IS.scan_inv` for separated trees.  Every layout of
    a concrete syntax tree with valid lexemes, and a comma between any two numbers in braces, is
    accepted by the scanner, and the tokens are the tree's. -/
theorem scan_accept_c (c : CGrammar) (hv : c.Valid) (hsep : c.Sep) {t : Text}
    (ht : CGrammarText c t) : ∃ toks, scan t = .ok toks ∧ kvOf toks = c.kv := by
  obtain ⟨s', e, _, o⟩ := TRT.run_grammar c hv hsep ht (3 * t.length + 3)
    (Nat.add_lt_add_left (by decide) _) (St.init t) rfl
  refine ⟨s'.toks.reverse, ?_, ?_⟩
  · dsimp only [scan]
    rw [e]
  · simpa [RT.out, St.init, kvOf] using o

end Front
end Pest
