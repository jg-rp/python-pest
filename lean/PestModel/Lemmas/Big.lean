/-
  Lemmas/Big.lean — the big-step relation of the specification L0.

  `Big g inp j s r`: job `j` started in state `s` answers `r`, and `r` is never `oof`.  A job is an
  expression or one of the helpers of `L0.step` (`Job.eval` says which: `ruleApply`, `seqL`,
  `choiceL`, `repLoop` and the trivia in front of one of its turns, `skip`, `skipLoop`, and `trySkip`
  as the answer `attemptR`).  The rules follow the branches of those definitions in Spec.lean;
  where a rule is not literally a branch the reason stands at the rule.
  The answer of a node that looks at the answer of its child once is a function of that answer
  (`optK`, `notK`, `wrapK`, …), so `fail` and `stuck` need no rules of their own.

  `Big.sound`: a derivation is an evaluation for all large fuel and loop budget.  With the converse
  (`Big.of_eval`, `big_iff` in Lemmas/BigSim.lean) the relation is the fuelled function, fuel
  forgotten: a proof about "the answer once fuel suffices" is an induction on the derivation (as
  `Big.post`), and a proof that an answer is reached is a term built from the rules (as in
  Lemmas/Term.lean).  Fuel stays where a statement is about a given fuel: `run_mono`, the one-step
  simulations behind `conv_sim` (Lemmas/Algebra.lean) and the optimizer.

  The other spellings of "the answer once fuel suffices", most of them fixed because statements of
  the properties use them, and how each relates to `Big`:
  `Conv`, `SeqC`, `ChoiceC`, `SkipC`, `RuleC` (Mono, Algebra): `∃ n, … = r ∧ r ≠ .oof`; each is `Big`
    at the job of that helper (`big_conv`, `big_seq`, `big_choice`, `big_skip`, `big_rule`: all `big_iff`).
  `Ev`, `EvRep` (Ev.lean): `∃ N, ∀ n ≥ N, … = r`; the conclusions of `Big.ev`, `Big.sound` unfolded;
    back by `Ev.big`.  `Tgt inp g' e s r` (OptSoundBase) is `Ev g' inp e s r` with the arguments in
    another order, spelt with `Evt` ("for all large fuel", the optimizer's own).
  `Term.Ans g inp j s` is `∃ r, Big g inp j s r`; `Term.T` (fixed) is `∃ n, run … ≠ .oof`, `Term.T_iff`.
  `Ev2` below is the two-budget "for all large n and l" that `Big.sound` is stated with.
-/
import PestModel.Lemmas.Mono

namespace Pest

def R0.isOk : R0 → Bool
  | .ok _ _ => true
  | _ => false

namespace L0

variable {g : Grammar} {inp : Input}

theorem skip_of_atomic {rec : Sem0} {k : Nat} {s : S0} (ha : s.atomic = true) :
    skip g rec k s = .ok s [] := by
  simp only [skip, ha, ↓reduceIte]

theorem skip_of_fused {rec : Sem0} {k : Nat} {s : S0} {r : Rule} (ha : s.atomic = false)
    (hf : g.fusedSkip = some r) : skip g rec k s = ruleApply rec r.name r.mod r.body s := by
  simp only [skip, ha, hf, Bool.false_eq_true, ↓reduceIte]

theorem skip_of_noTrivia {rec : Sem0} {k : Nat} {s : S0} (hf : g.fusedSkip = none)
    (hn : ((g.lookup "WHITESPACE").isNone && (g.lookup "COMMENT").isNone) = true) :
    skip g rec k s = .ok s [] := by
  by_cases ha : s.atomic = true
  · exact skip_of_atomic ha
  · simp only [skip, ha, hf, hn, Bool.false_eq_true, ↓reduceIte]

theorem skip_of_loop {rec : Sem0} {k : Nat} {s : S0} (ha : s.atomic = false) (hf : g.fusedSkip = none)
    (hn : ((g.lookup "WHITESPACE").isNone && (g.lookup "COMMENT").isNone) = false) :
    skip g rec k s = skipLoop rec (g.lookup "WHITESPACE") (g.lookup "COMMENT") k s [] := by
  simp only [skip, ha, hf, hn, Bool.false_eq_true, ↓reduceIte]

theorem callRule_none {rec : Sem0} {n : String} {s : S0} (h : g.lookup n = none) :
    callRule g rec n s = .stuck := by
  simp only [callRule, h]

theorem callRule_some {rec : Sem0} {n : String} {rl : Rule} {s : S0} (h : g.lookup n = some rl) :
    callRule g rec n s = ruleApply rec rl.name rl.mod rl.body s := by
  simp only [callRule, h]

def optK (s : S0) : R0 → R0
  | .fail => .ok s []
  | r => r

def andK (s : S0) : R0 → R0
  | .ok _ _ => .ok s []
  | r => r

def notK (s : S0) : R0 → R0
  | .ok _ _ => .fail
  | .fail => .ok s []
  | r => r

def pushK (inp : Input) (s : S0) : R0 → R0
  | .ok s' ps => .ok { s' with stk := slice inp s.pos s'.pos :: s'.stk } ps
  | r => r

def wrapK (name : String) (mod : Nat) (s : S0) : R0 → R0
  | .ok s' ps => ruleWrap name mod s s' ps
  | r => r

theorem step_opt (k : Nat) (rec : Sem0) (e : Expr) (s : S0) :
    step g inp k rec (.opt e) s = optK s (rec e s) := by
  dsimp only [step, optK]
  cases rec e s <;> rfl

theorem step_andP (k : Nat) (rec : Sem0) (e : Expr) (s : S0) :
    step g inp k rec (.andP e) s = andK s (rec e s) := by
  dsimp only [step, andK]
  cases rec e s <;> rfl

theorem step_notP (k : Nat) (rec : Sem0) (e : Expr) (s : S0) :
    step g inp k rec (.notP e) s = notK s (rec e s) := by
  dsimp only [step, notK]
  cases rec e s <;> rfl

theorem step_push (k : Nat) (rec : Sem0) (e : Expr) (s : S0) :
    step g inp k rec (.push e) s = pushK inp s (rec e s) := by
  dsimp only [step, pushK]
  cases rec e s <;> rfl

theorem ruleApply_eq (rec : Sem0) (name : String) (mod : Nat) (body : Expr) (s : S0) :
    ruleApply rec name mod body s =
      wrapK name mod s (rec body { s with atomic := ruleAtomic name mod s.atomic }) := by
  unfold ruleApply wrapK
  cases rec body { s with atomic := ruleAtomic name mod s.atomic } <;> rfl

/-- how `e*` ends when trivia or `e` does not succeed -/
def repK (s : S0) (acc : List Pair) : R0 → R0
  | .fail => .ok s acc
  | r => r

def tryOf : R0 → Try0
  | .ok s ps => .matched s ps
  | .fail => .no
  | r => .stop r

/-- `trySkip` without the detour through `Try0` -/
def attemptR (rec : Sem0) (ro : Option Rule) (s : S0) : R0 :=
  match ro with
  | none => .fail
  | some rl => ruleApply rec rl.name rl.mod rl.body s

theorem trySkip_eq (rec : Sem0) (ro : Option Rule) (s : S0) : trySkip rec ro s = tryOf (attemptR rec ro s) := by
  cases ro with
  | none => rfl
  | some rl =>
    simp only [trySkip, attemptR]
    cases ruleApply rec rl.name rl.mod rl.body s <;> rfl

theorem skipLoop_succ (rec : Sem0) (ws cm : Option Rule) (l : Nat) (s : S0) (acc : List Pair) :
    skipLoop rec ws cm (l + 1) s acc =
      match attemptR rec ws s with
      | .ok s1 ps => skipLoop rec ws cm l s1 (acc ++ ps)
      | .fail =>
        match attemptR rec cm s with
        | .ok s1 ps => skipLoop rec ws cm l s1 (acc ++ ps)
        | .fail => .ok s acc
        | r => r
      | r => r := by
  dsimp only [skipLoop]
  rw [trySkip_eq, trySkip_eq]
  cases attemptR rec ws s with
  | fail => cases attemptR rec cm s <;> rfl
  | _ => rfl

section K
variable {s s' : S0} {ps acc : List Pair} {r : R0} {n : String} {m : Nat}

theorem optK_ok (h : optK s r = .ok s' ps) : r = .ok s' ps ∨ (s' = s ∧ ps = []) := by
  cases r with
  | ok _ _ => exact .inl h
  | fail => cases h; exact .inr ⟨rfl, rfl⟩
  | _ => cases h

theorem andK_ok (h : andK s r = .ok s' ps) : s' = s ∧ ps = [] := by
  cases r with
  | ok _ _ => cases h; exact ⟨rfl, rfl⟩
  | _ => cases h

theorem notK_ok (h : notK s r = .ok s' ps) : s' = s ∧ ps = [] := by
  cases r with
  | fail => cases h; exact ⟨rfl, rfl⟩
  | _ => cases h

theorem pushK_ok (h : pushK inp s r = .ok s' ps) :
    ∃ s1, r = .ok s1 ps ∧ s' = { s1 with stk := slice inp s.pos s1.pos :: s1.stk } := by
  cases r with
  | ok s1 _ => cases h; exact ⟨s1, rfl, rfl⟩
  | _ => cases h

theorem wrapK_ok (h : wrapK n m s r = .ok s' ps) :
    ∃ s1 ps1, r = .ok s1 ps1 ∧ ruleWrap n m s s1 ps1 = .ok s' ps := by
  cases r with
  | ok s1 ps1 => exact ⟨s1, ps1, rfl, h⟩
  | _ => cases h

theorem repK_ok (hr : r.isOk = false) (h : repK s acc r = .ok s' ps) : s' = s ∧ ps = acc := by
  cases r with
  | ok _ _ => cases hr
  | fail => cases h; exact ⟨rfl, rfl⟩
  | _ => cases h

theorem ruleWrap_ok (n : String) (m : Nat) (s s1 : S0) (ps1 : List Pair) :
    ∃ ps, ruleWrap n m s s1 ps1 = .ok { s1 with atomic := s.atomic } ps := by
  unfold ruleWrap
  by_cases h : hasBit m SILENT = true
  · exact ⟨_, if_pos h⟩
  · exact ⟨_, if_neg h⟩

theorem ruleWrap_silent {s1 : S0} {ps1 : List Pair} (h : hasBit m SILENT = true) :
    ruleWrap n m s s1 ps1 = .ok { s1 with atomic := s.atomic } ps1 :=
  if_pos h

theorem ruleWrap_pair {s1 : S0} {ps1 : List Pair} (h : hasBit m SILENT = false) :
    ruleWrap n m s s1 ps1 = .ok { s1 with atomic := s.atomic }
      [.mk n m s.pos s1.pos (if hasBit m ATOMIC then visibleList ps1 else ps1) none] :=
  if_neg (Bool.eq_false_iff.1 h)

theorem ruleWrap_cases {s1 : S0} {ps1 : List Pair} (h : ruleWrap n m s s1 ps1 = .ok s' ps) :
    s' = { s1 with atomic := s.atomic } ∧
      ((hasBit m SILENT = true ∧ ps = ps1) ∨
       (hasBit m SILENT = false ∧ ∃ ch, ps = [.mk n m s.pos s1.pos ch none] ∧
          (ch = ps1 ∨ ch = visibleList ps1))) := by
  cases hS : hasBit m SILENT with
  | true => cases (ruleWrap_silent hS).symm.trans h; exact ⟨rfl, .inl ⟨rfl, rfl⟩⟩
  | false =>
    cases (ruleWrap_pair hS).symm.trans h
    refine ⟨rfl, .inr ⟨rfl, _, rfl, ?_⟩⟩
    cases hasBit m ATOMIC
    · exact .inl rfl
    · exact .inr rfl

theorem ruleWrap_state {s1 : S0} {ps1 : List Pair} (h : ruleWrap n m s s1 ps1 = .ok s' ps) :
    s' = { s1 with atomic := s.atomic } := (ruleWrap_cases h).1

/-- The answer functions say what becomes of `ok` and of `fail` and pass the rest on.  So two facts
    hold of each for one reason: none makes `stuck` of anything else, and none runs out of fuel
    unless its argument did. -/
theorem stuck_of_answer {f : R0 → R0} (h : f r = .stuck) (hok : ∀ s ps, f (.ok s ps) ≠ .stuck)
    (hfail : f .fail ≠ .stuck) (hoof : f .oof ≠ .stuck) : r = .stuck := by
  cases r with
  | stuck => rfl
  | ok s ps => exact absurd h (hok s ps)
  | fail => exact absurd h hfail
  | oof => exact absurd h hoof

theorem answer_ne_oof {f : R0 → R0} (h : r ≠ .oof) (hok : ∀ s ps, f (.ok s ps) ≠ .oof)
    (hfail : f .fail ≠ .oof) (hstuck : f .stuck ≠ .oof) : f r ≠ .oof := by
  cases r with
  | oof => exact absurd rfl h
  | ok s ps => exact hok s ps
  | fail => exact hfail
  | stuck => exact hstuck

theorem wrapK_ok_ne {x : R0} (hx : ∀ s' ps, x ≠ .ok s' ps) (s1 : S0) (ps1 : List Pair) :
    wrapK n m s (.ok s1 ps1) ≠ x := by
  obtain ⟨ps, e⟩ := ruleWrap_ok n m s s1 ps1
  exact fun e0 => hx _ _ (e0.symm.trans e)

end K

inductive Job where
  | expr (e : Expr)
  | rule (name : String) (mod : Nat) (body : Expr)
  | seq (es : List Expr) (acc : List Pair)
  | choice (es : List Expr)
  | rep (e : Expr) (first : Bool) (acc : List Pair)
  /-- the trivia in front of a turn of `e*`: none in front of the first -/
  | gap (first : Bool)
  | skip
  | loop (ws cm : Option Rule) (acc : List Pair)
  | attempt (ro : Option Rule)

/-- every expression the job holds satisfies `D` -/
def Job.All (D : Expr → Prop) : Job → Prop
  | .expr e => D e
  | .rule _ _ b => D b
  | .seq es _ => ∀ e ∈ es, D e
  | .choice es => ∀ e ∈ es, D e
  | .rep e _ _ => D e
  | .gap _ => True
  | .skip => True
  | .loop ws cm _ => (∀ r, ws = some r → D r.body) ∧ (∀ r, cm = some r → D r.body)
  | .attempt ro => ∀ r, ro = some r → D r.body

/-- the function of Spec.lean a job stands for; `k` is the budget `step` hands down, `l` the
    number of turns left in a loop -/
def Job.eval (g : Grammar) (rec : Sem0) (k l : Nat) : Job → S0 → R0
  | .expr e, s => rec e s
  | .rule n m b, s => ruleApply rec n m b s
  | .seq es acc, s => seqL g rec k es s acc
  | .choice es, s => choiceL rec es s
  | .rep e first acc, s => repLoop g rec e l k first s acc
  | .gap first, s => if first then .ok s [] else L0.skip g rec k s
  | .skip, s => L0.skip g rec k s
  | .loop ws cm acc, s => skipLoop rec ws cm l s acc
  | .attempt ro, s => attemptR rec ro s

inductive Big (g : Grammar) (inp : Input) : Job → S0 → R0 → Prop
  -- `step`, node by node.  A terminal answers what the table decides (`L0.step_leaf`); the rules
  -- `big_str_ok` … below the relation spell that out for single terminals.
  | leaf {e s} : isLeaf e = true → Big g inp (.expr e) s ((leafAct g inp e s.pos s.stk).run0 s)
  | identNone {n t s} : g.lookup n = none → Big g inp (.expr (.ident n t)) s .stuck
  | ident {n t rl s r} : g.lookup n = some rl → Big g inp (.rule rl.name rl.mod rl.body) s r →
      Big g inp (.expr (.ident n t)) s r
  | ruleE {n m sm b s r} : Big g inp (.rule n m b) s r → Big g inp (.expr (.rule n m sm b)) s r
  | seqE {e es s r} : seqView e = some es → Big g inp (.seq es []) s r → Big g inp (.expr e) s r
  | choiceE {es s r} : Big g inp (.choice es) s r → Big g inp (.expr (.choice es)) s r
  | repE {e s r} : Big g inp (.rep e true []) s r → Big g inp (.expr (.rep e)) s r
  | opt {e s r} : Big g inp (.expr e) s r → Big g inp (.expr (.opt e)) s (optK s r)
  | andP {e s r} : Big g inp (.expr e) s r → Big g inp (.expr (.andP e)) s (andK s r)
  | notP {e s r} : Big g inp (.expr e) s r → Big g inp (.expr (.notP e)) s (notK s r)
  | push {e s r} : Big g inp (.expr e) s r → Big g inp (.expr (.push e)) s (pushK inp s r)
  | group {e t s r} : Big g inp (.expr e) s r → Big g inp (.expr (.group e t)) s r
  | rule {n m b s r} : Big g inp (.expr b) { s with atomic := ruleAtomic n m s.atomic } r →
      Big g inp (.rule n m b) s (wrapK n m s r)
  -- `seqL` goes on after `ok` only, `choiceL` after `fail` only: hence the two guards.  `seqSkipFail`
  -- is the branch of `seqL` (Spec.lean) after a `skip` that fails, which is live: a fused `SKIP`
  -- rule whose body fails makes `skip` fail (the comment there holds of the bodies the optimizer builds).
  | seqNil {s acc} : Big g inp (.seq [] acc) s (.ok s acc)
  | seqStop {e rest acc s r} : Big g inp (.expr e) s r → r.isOk = false → Big g inp (.seq (e :: rest) acc) s r
  | seqLast {e acc s s1 ps} : Big g inp (.expr e) s (.ok s1 ps) → Big g inp (.seq [e] acc) s (.ok s1 (acc ++ ps))
  | seqMore {e e2 rest acc s s1 ps s2 tps r} : Big g inp (.expr e) s (.ok s1 ps) →
      Big g inp .skip s1 (.ok s2 tps) → Big g inp (.seq (e2 :: rest) (acc ++ ps ++ tps)) s2 r →
      Big g inp (.seq (e :: e2 :: rest) acc) s r
  | seqSkipFail {e e2 rest acc s s1 ps r} : Big g inp (.expr e) s (.ok s1 ps) →
      Big g inp .skip s1 .fail → Big g inp (.seq (e2 :: rest) (acc ++ ps)) s1 r →
      Big g inp (.seq (e :: e2 :: rest) acc) s r
  | seqSkipStuck {e e2 rest acc s s1 ps} : Big g inp (.expr e) s (.ok s1 ps) →
      Big g inp .skip s1 .stuck → Big g inp (.seq (e :: e2 :: rest) acc) s .stuck
  | choiceNil {s} : Big g inp (.choice []) s .fail
  | choiceStop {e rest s r} : Big g inp (.expr e) s r → r ≠ .fail → Big g inp (.choice (e :: rest)) s r
  | choiceNext {e rest s r} : Big g inp (.expr e) s .fail → Big g inp (.choice rest) s r →
      Big g inp (.choice (e :: rest)) s r
  -- `repLoop`.  Job `gap` is its `let afterSkip`, which has no function of its own in Spec.lean.  A
  -- turn ends the loop when the gap or `e` does not succeed; `repK` is applied to such answers only.
  | gapFirst {s} : Big g inp (.gap true) s (.ok s [])
  | gapSkip {s r} : Big g inp .skip s r → Big g inp (.gap false) s r
  | repGapStop {e first acc s r} : Big g inp (.gap first) s r → r.isOk = false →
      Big g inp (.rep e first acc) s (repK s acc r)
  | repStop {e first acc s s1 tps r} : Big g inp (.gap first) s (.ok s1 tps) → Big g inp (.expr e) s1 r →
      r.isOk = false → Big g inp (.rep e first acc) s (repK s acc r)
  | repMore {e first acc s s1 tps s2 ps r} : Big g inp (.gap first) s (.ok s1 tps) →
      Big g inp (.expr e) s1 (.ok s2 ps) → Big g inp (.rep e false (acc ++ tps ++ ps)) s2 r →
      Big g inp (.rep e first acc) s r
  -- `skip`.  `skipNoTrivia` asks nothing of the flag (it overlaps `skipAtomic`, with the same answer):
  -- a grammar without trivia rules then needs no case distinction, as in `skip_of_noTrivia`.
  | skipAtomic {s} : s.atomic = true → Big g inp .skip s (.ok s [])
  | skipNoTrivia {s} : g.fusedSkip = none →
      ((g.lookup "WHITESPACE").isNone && (g.lookup "COMMENT").isNone) = true → Big g inp .skip s (.ok s [])
  | skipFused {s rl r} : s.atomic = false → g.fusedSkip = some rl → Big g inp (.rule rl.name rl.mod rl.body) s r →
      Big g inp .skip s r
  | skipLoop {s r} : s.atomic = false → g.fusedSkip = none →
      ((g.lookup "WHITESPACE").isNone && (g.lookup "COMMENT").isNone) = false →
      Big g inp (.loop (g.lookup "WHITESPACE") (g.lookup "COMMENT") []) s r → Big g inp .skip s r
  -- `trySkip`, as the answer `attemptR`, and `skipLoop` (`skipLoop_succ`)
  | attemptNone {s} : Big g inp (.attempt none) s .fail
  | attemptSome {rl s r} : Big g inp (.rule rl.name rl.mod rl.body) s r → Big g inp (.attempt (some rl)) s r
  | loopWs {ws cm acc s s1 ps r} : Big g inp (.attempt ws) s (.ok s1 ps) →
      Big g inp (.loop ws cm (acc ++ ps)) s1 r → Big g inp (.loop ws cm acc) s r
  | loopWsStuck {ws cm acc s} : Big g inp (.attempt ws) s .stuck → Big g inp (.loop ws cm acc) s .stuck
  | loopCm {ws cm acc s s1 ps r} : Big g inp (.attempt ws) s .fail → Big g inp (.attempt cm) s (.ok s1 ps) →
      Big g inp (.loop ws cm (acc ++ ps)) s1 r → Big g inp (.loop ws cm acc) s r
  | loopCmStuck {ws cm acc s} : Big g inp (.attempt ws) s .fail → Big g inp (.attempt cm) s .stuck →
      Big g inp (.loop ws cm acc) s .stuck
  | loopDone {ws cm acc s} : Big g inp (.attempt ws) s .fail → Big g inp (.attempt cm) s .fail →
      Big g inp (.loop ws cm acc) s (.ok s acc)

/-- the rule `leaf`, with the decision named -/
theorem big_leaf {e : Expr} {s : S0} {a : LeafAct} (hl : isLeaf e = true)
    (h : leafAct g inp e s.pos s.stk = a) : Big g inp (.expr e) s (a.run0 s) :=
  h ▸ .leaf hl

theorem big_str_ok {x : Str} {s : S0} (h : startsWithAt inp x s.pos = true) :
    Big g inp (.expr (.str x)) s (.ok (adv s x.length) []) :=
  big_leaf (a := .ok (s.pos + x.length) .keep) rfl (if_pos h)

theorem big_str_fail {x : Str} {s : S0} (h : startsWithAt inp x s.pos = false) : Big g inp (.expr (.str x)) s .fail :=
  big_leaf (a := .fail) rfl (if_neg (Bool.eq_false_iff.1 h))

theorem big_ci_ok {x : Str} {s : S0} (h : startsWithAtCI inp x s.pos = true) :
    Big g inp (.expr (.ci x)) s (.ok (adv s x.length) []) :=
  big_leaf (a := .ok (s.pos + x.length) .keep) rfl (if_pos h)

theorem big_ci_fail {x : Str} {s : S0} (h : startsWithAtCI inp x s.pos = false) : Big g inp (.expr (.ci x)) s .fail :=
  big_leaf (a := .fail) rfl (if_neg (Bool.eq_false_iff.1 h))

theorem big_range_ok {a b c : CP} {s : S0} (hc : inp[s.pos]? = some c) (h : a ≤ c ∧ c ≤ b) :
    Big g inp (.expr (.range a b)) s (.ok (adv s 1) []) :=
  big_leaf (a := .ok (s.pos + 1) .keep) rfl (by
    dsimp only [leafAct]
    rw [hc]
    refine if_pos ?_
    simpa only [L1.inRange, Bool.and_eq_true, decide_eq_true_eq] using h)

theorem big_range_fail {a b : CP} {s : S0} (h : ∀ c, inp[s.pos]? = some c → ¬ (a ≤ c ∧ c ≤ b)) :
    Big g inp (.expr (.range a b)) s .fail :=
  big_leaf (a := .fail) rfl (by
    dsimp only [leafAct]
    split
    · next c hc =>
      refine if_neg fun hab => h c hc ?_
      simpa only [L1.inRange, Bool.and_eq_true, decide_eq_true_eq] using hab
    · rfl)

theorem big_any_ok {s : S0} (h : s.pos < inp.size) : Big g inp (.expr .anyB) s (.ok (adv s 1) []) :=
  big_leaf (a := .ok (s.pos + 1) .keep) rfl (if_pos h)

theorem big_any_fail {s : S0} (h : ¬ s.pos < inp.size) : Big g inp (.expr .anyB) s .fail :=
  big_leaf (a := .no) rfl (if_neg h)

theorem big_soi {s : S0} (h : s.pos = 0) : Big g inp (.expr .soiB) s (.ok s []) :=
  big_leaf (a := .ok s.pos .keep) rfl (if_pos (beq_iff_eq.2 h))

theorem big_eoi {s : S0} (h : s.pos = inp.size) : Big g inp (.expr .eoiB) s (.ok s []) :=
  big_leaf (a := .ok s.pos .keep) rfl (if_pos (beq_iff_eq.2 h))

theorem Big.ne_oof {j : Job} {s : S0} {r : R0} (h : Big g inp j s r) : r ≠ .oof := by
  induction h with
  | leaf _ => exact LeafAct.run0_ne_oof _ _
  | opt _ ih | andP _ ih | notP _ ih | push _ ih | repGapStop _ _ ih | repStop _ _ _ _ ih =>
    exact answer_ne_oof ih nofun nofun nofun
  | rule _ ih => exact answer_ne_oof ih (wrapK_ok_ne nofun) nofun nofun
  | identNone | seqNil | seqLast | seqSkipStuck | choiceNil | gapFirst | skipAtomic | skipNoTrivia | attemptNone
  | loopWsStuck | loopCmStuck | loopDone => exact R0.noConfusion
  | _ => assumption

def Ev2 (P : Nat → Nat → Prop) : Prop := ∃ N, ∀ n l, N ≤ n → N ≤ l → P n l

theorem Ev2.of_forall {P : Nat → Nat → Prop} (h : ∀ n l, P n l) : Ev2 P := ⟨0, fun n l _ _ => h n l⟩

theorem Ev2.of_succ {P : Nat → Nat → Prop} (h : ∀ n l, P (n + 1) l) : Ev2 P :=
  ⟨1, fun n l hn _ => by
    cases n with
    | zero => exact absurd hn (Nat.not_succ_le_zero _)
    | succ m => exact h m l⟩

theorem Ev2.mono {P Q : Nat → Nat → Prop} (h : Ev2 P) (f : ∀ n l, P n l → Q n l) : Ev2 Q := by
  obtain ⟨N, h⟩ := h
  exact ⟨N, fun n l hn hl => f n l (h n l hn hl)⟩

theorem Ev2.and {P Q : Nat → Nat → Prop} (h : Ev2 P) (h' : Ev2 Q) : Ev2 fun n l => P n l ∧ Q n l := by
  obtain ⟨N, h⟩ := h
  obtain ⟨N', h'⟩ := h'
  exact ⟨max N N', fun n l hn hl =>
    ⟨h n l (Nat.le_trans (Nat.le_max_left N N') hn) (Nat.le_trans (Nat.le_max_left N N') hl),
     h' n l (Nat.le_trans (Nat.le_max_right N N') hn) (Nat.le_trans (Nat.le_max_right N N') hl)⟩⟩

theorem Ev2.diag {P : Nat → Nat → Prop} (h : Ev2 P) : Ev2 fun n _ => P n n := by
  obtain ⟨N, h⟩ := h
  exact ⟨N, fun n _ hn _ => h n n hn hn⟩

theorem Ev2.fuel {P Q : Nat → Nat → Prop} (h : Ev2 P) (f : ∀ n l, P n n → Q (n + 1) l) : Ev2 Q := by
  obtain ⟨N, h⟩ := h
  refine ⟨N + 1, fun n l hn _ => ?_⟩
  cases n with
  | zero => exact absurd hn (Nat.not_succ_le_zero _)
  | succ m => exact f m l (h m m (Nat.le_of_succ_le_succ hn) (Nat.le_of_succ_le_succ hn))

theorem Ev2.turn {P Q : Nat → Nat → Prop} (h : Ev2 P) (f : ∀ n l, P n l → Q n (l + 1)) : Ev2 Q := by
  obtain ⟨N, h⟩ := h
  refine ⟨N + 1, fun n l hn hl => ?_⟩
  cases l with
  | zero => exact absurd hl (Nat.not_succ_le_zero _)
  | succ l' => exact f n l' (h n l' (Nat.le_of_succ_le hn) (Nat.le_of_succ_le_succ hl))

/-- a derivation is an evaluation, for all large fuel and loop budget: each rule adds one unit of
    fuel (`Ev2.fuel`) or one turn of a loop (`Ev2.turn`) to what its premises need -/
theorem Big.sound {j : Job} {s : S0} {r : R0} (h : Big g inp j s r) :
    Ev2 fun n l => j.eval g (run g inp n) n l s = r := by
  induction h with
  | leaf hl => exact .of_succ fun n l => step_leaf hl n _ _
  | identNone hl => exact .of_succ fun n l => callRule_none hl
  | ident hl _ ih => exact ih.fuel fun n l a => (callRule_some hl).trans a
  | ruleE _ ih => exact ih.fuel fun n l a => a
  | seqE hv _ ih => exact ih.fuel fun n l a => (step_seqView g inp n _ hv _).trans a
  | choiceE _ ih => exact ih.fuel fun n l a => a
  | repE _ ih => exact ih.fuel fun n l a => a
  | opt _ ih =>
    exact ih.fuel fun n l a => by
      dsimp only [Job.eval, run] at a ⊢
      rw [step_opt, a]
  | andP _ ih =>
    exact ih.fuel fun n l a => by
      dsimp only [Job.eval, run] at a ⊢
      rw [step_andP, a]
  | notP _ ih =>
    exact ih.fuel fun n l a => by
      dsimp only [Job.eval, run] at a ⊢
      rw [step_notP, a]
  | push _ ih =>
    exact ih.fuel fun n l a => by
      dsimp only [Job.eval, run] at a ⊢
      rw [step_push, a]
  | group _ ih => exact ih.fuel fun n l a => a
  | rule _ ih =>
    exact ih.mono fun n l a => by
      dsimp only [Job.eval] at a ⊢
      rw [ruleApply_eq, a]
  | seqNil => exact .of_forall fun _ _ => rfl
  | @seqStop e rest acc s r _ hok ih =>
    cases r with
    | ok _ _ => cases hok
    | _ =>
      exact ih.mono fun n l a => by
        dsimp only [Job.eval] at a ⊢
        simp only [seqL, a]
  | seqLast _ ih =>
    exact ih.mono fun n l a => by
      dsimp only [Job.eval] at a ⊢
      simp only [seqL, a, List.isEmpty_nil, if_true]
  | seqMore _ _ _ ih1 ih2 ih3 =>
    exact (ih1.and (ih2.and ih3)).mono fun n l ⟨a, b, c⟩ => by
      dsimp only [Job.eval] at a b c ⊢
      rw [seqL, a]
      simp only [List.isEmpty_cons, Bool.false_eq_true, if_false]
      rw [b]
      exact c
  | seqSkipFail _ _ _ ih1 ih2 ih3 =>
    exact (ih1.and (ih2.and ih3)).mono fun n l ⟨a, b, c⟩ => by
      dsimp only [Job.eval] at a b c ⊢
      rw [seqL, a]
      simp only [List.isEmpty_cons, Bool.false_eq_true, if_false]
      rw [b]
      exact c
  | seqSkipStuck _ _ ih1 ih2 =>
    exact (ih1.and ih2).mono fun n l ⟨a, b⟩ => by
      dsimp only [Job.eval] at a b ⊢
      rw [seqL, a]
      simp only [List.isEmpty_cons, Bool.false_eq_true, if_false]
      rw [b]
  | choiceNil => exact .of_forall fun _ _ => rfl
  | choiceStop _ hne ih =>
    exact ih.mono fun n l a => by
      dsimp only [Job.eval] at a ⊢
      simp only [choiceL, a]
  | choiceNext _ _ ih1 ih2 =>
    exact (ih1.and ih2).mono fun n l ⟨a, b⟩ => by
      dsimp only [Job.eval] at a b ⊢
      simp only [choiceL, a, b]
  | gapFirst => exact .of_forall fun _ _ => rfl
  | gapSkip _ ih => exact ih.mono fun n l a => a
  | @repGapStop e first acc s r _ hok ih =>
    cases r with
    | ok _ _ => cases hok
    | _ =>
      exact ih.turn fun n l a => by
        dsimp only [Job.eval] at a ⊢
        simp only [repLoop, a, repK]
  | @repStop e first acc s s1 tps r _ _ hok ih1 ih2 =>
    cases r with
    | ok _ _ => cases hok
    | _ =>
      exact (ih1.and ih2).turn fun n l ⟨a, b⟩ => by
        dsimp only [Job.eval] at a b ⊢
        simp only [repLoop, a, b, repK]
  | repMore _ _ _ ih1 ih2 ih3 =>
    exact (ih1.and (ih2.and ih3)).turn fun n l ⟨a, b, c⟩ => by
      dsimp only [Job.eval] at a b c ⊢
      simp only [repLoop, a, b]
      exact c
  | skipAtomic ha => exact .of_forall fun _ _ => skip_of_atomic ha
  | skipNoTrivia hf hn => exact .of_forall fun _ _ => skip_of_noTrivia hf hn
  | skipFused ha hf _ ih => exact ih.mono fun n l a => (skip_of_fused ha hf).trans a
  | skipLoop ha hf hn _ ih => exact ih.diag.mono fun n l a => (skip_of_loop ha hf hn).trans a
  | attemptNone => exact .of_forall fun _ _ => rfl
  | attemptSome _ ih => exact ih
  | loopWs _ _ ih1 ih2 =>
    exact (ih1.and ih2).turn fun n l ⟨a, b⟩ => by
      dsimp only [Job.eval] at a b ⊢
      rw [skipLoop_succ, a]
      exact b
  | loopWsStuck _ ih =>
    exact ih.turn fun n l a => by
      dsimp only [Job.eval] at a ⊢
      rw [skipLoop_succ, a]
  | loopCm _ _ _ ih1 ih2 ih3 =>
    exact (ih1.and (ih2.and ih3)).turn fun n l ⟨a, b, c⟩ => by
      dsimp only [Job.eval] at a b c ⊢
      rw [skipLoop_succ, a, b]
      exact c
  | loopCmStuck _ _ ih1 ih2 =>
    exact (ih1.and ih2).turn fun n l ⟨a, b⟩ => by
      dsimp only [Job.eval] at a b ⊢
      rw [skipLoop_succ, a, b]
  | loopDone _ _ ih1 ih2 =>
    exact (ih1.and ih2).turn fun n l ⟨a, b⟩ => by
      dsimp only [Job.eval] at a b ⊢
      rw [skipLoop_succ, a, b]

/-- a job answers the same for all large fuel, the loop budget being the fuel as in `run` -/
theorem Big.evDiag {j : Job} {s : S0} {r : R0} (h : Big g inp j s r) :
    ∃ N, ∀ m, N ≤ m → j.eval g (run g inp m) m m s = r := by
  obtain ⟨N, hN⟩ := h.sound
  exact ⟨N, fun m hm => hN m m hm hm⟩

theorem Big.ev {e : Expr} {s : S0} {r : R0} (h : Big g inp (.expr e) s r) :
    ∃ N, ∀ n, N ≤ n → run g inp n e s = r := h.evDiag

theorem Big.det {j : Job} {s : S0} {r r' : R0} (h : Big g inp j s r) (h' : Big g inp j s r') : r = r' := by
  obtain ⟨N, hN⟩ := h.sound.and h'.sound
  obtain ⟨a, b⟩ := hN N N (Nat.le_refl _) (Nat.le_refl _)
  exact a.symm.trans b

/-- Single nodes are inverted through the equations `conv_*` of Lemmas/Algebra.lean, which check
    faster than `cases` on the relation; this one is here because the JSON proofs pass from a choice
    that fails to its alternatives. -/
theorem Big.choice_inv {es : List Expr} {s : S0} {r : R0} (h : Big g inp (.expr (.choice es)) s r) :
    Big g inp (.choice es) s r := by
  cases h with
  | choiceE h => exact h
  | leaf hl => cases hl
  | seqE hv _ => cases hv

theorem left_lt {n p q d : Nat} (hpq : p < q) (hq : q ≤ n) (hd : n - p ≤ d) : n - q < d :=
  Nat.lt_of_lt_of_le (Nat.sub_lt_sub_left (Nat.lt_of_lt_of_le hpq hq) hpq) hd

/-- **A trivia loop whose turns move the position answers**, by induction on the input left: if, from
    every state `I` admits, both attempts answer and one that matches ends further right, inside the
    input and in `I`, then the loop answers from every such state; it does not fail, and it is stuck
    only if an attempt is (`S`).  `Term.Ans.rep` is the same argument for job `.rep`, whose turn has
    three parts; the loops of the optimizer's proofs (`loop_conv`, `loopW`) prove an equation for the
    answer, which their induction carries through each turn, and share only the measure (`left_lt`). -/
theorem Big.loop_answers {I : S0 → Prop} {S : Prop} {ws cm : Option Rule}
    (hA : ∀ ro, ro = ws ∨ ro = cm → ∀ s, I s → ∃ r, Big g inp (.attempt ro) s r ∧ (r = .stuck → S) ∧
      ∀ s1 ps, r = .ok s1 ps → s.pos < s1.pos ∧ s1.pos ≤ inp.size ∧ I s1) :
    ∀ (d : Nat) (s : S0) (acc : List Pair), inp.size - s.pos ≤ d → I s →
      ∃ r, Big g inp (.loop ws cm acc) s r ∧ r ≠ .fail ∧ (r = .stuck → S) := by
  intro d
  induction d using Nat.strongRecOn with
  | ind d ih =>
    intro s acc hd hi
    -- after an attempt that matched the position has moved, so the induction hypothesis applies
    have next : ∀ {s1 : S0} (ps1 : List Pair), s.pos < s1.pos ∧ s1.pos ≤ inp.size ∧ I s1 →
        ∃ r, Big g inp (.loop ws cm (acc ++ ps1)) s1 r ∧ r ≠ .fail ∧ (r = .stuck → S) :=
      fun ps1 m => ih _ (left_lt m.1 m.2.1 hd) _ _ (Nat.le_refl _) m.2.2
    obtain ⟨t1, h1, k1, m1⟩ := hA ws (.inl rfl) s hi
    cases t1 with
    | oof => exact absurd rfl h1.ne_oof
    | stuck => exact ⟨_, .loopWsStuck h1, nofun, fun _ => k1 rfl⟩
    | ok s1 ps1 =>
      obtain ⟨x, h2, hx⟩ := next ps1 (m1 s1 ps1 rfl)
      exact ⟨x, .loopWs h1 h2, hx⟩
    | fail =>
      obtain ⟨t2, h2, k2, m2⟩ := hA cm (.inr rfl) s hi
      cases t2 with
      | oof => exact absurd rfl h2.ne_oof
      | stuck => exact ⟨_, .loopCmStuck h1 h2, nofun, fun _ => k2 rfl⟩
      | ok s1 ps1 =>
        obtain ⟨x, h3, hx⟩ := next ps1 (m2 s1 ps1 rfl)
        exact ⟨x, .loopCm h1 h2 h3, hx⟩
      | fail => exact ⟨_, .loopDone h1 h2, nofun, nofun⟩

end L0
end Pest
