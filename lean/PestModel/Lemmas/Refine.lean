/-
  Lemmas/Refine.lean — the interpreter mirror L1 refines the specification L0, with equal
  fuel: `Good (L1.run g inp n) (L0.run g inp n)` for every `n`, when the fused trivia rule
  cannot fail (`SkipTotal g`).

  `Rel c r1 r0` relates the L1 result of a call started in `c` with the L0 result of the
  same expression started in `abs0 c`:
    out of fuel ↔ out of fuel;  KeyError ↔ stuck (undefined rule), no other exception;
    success ↔ success with the same position / stack / atomicity and the same pairs up to
    tags, and the frame is intact;
    failure ↔ failure, no pairs, and the frame is intact (so every catcher's `restore`
    gives back exactly the state L0 simply re-uses).
  At the end the theorem is read as an equation, for users that want the specification's answer
  and not the frame: `L0.run … (abs0 c) = C08.obs (L1.run … c)` (`C08.interp_obs`, `parse_obs`).
-/
import PestModel.Lemmas.Frame

namespace Pest
open DStack

theorem eraseTagsL_append (a b : List Pair) : eraseTagsL (a ++ b) = eraseTagsL a ++ eraseTagsL b := by
  induction a with
  | nil => simp [eraseTagsL]
  | cons p ps ih => simp [eraseTagsL, ih]

mutual
theorem visible_erase : ∀ p : Pair, visibleList (eraseTagsL [p]) = eraseTagsL p.visible
  | .mk n m s e ch t => by
    by_cases h : (hasBit m COMPOUND || hasBit m NONATOMIC) = true
    · simp [eraseTagsL, Pair.eraseTags, visibleList, Pair.visible, h]
    · simp only [eraseTagsL, Pair.eraseTags, visibleList, Pair.visible, h, List.append_nil]
      exact visibleList_erase ch
theorem visibleList_erase : ∀ ps : List Pair, visibleList (eraseTagsL ps) = eraseTagsL (visibleList ps)
  | [] => by simp [eraseTagsL, visibleList]
  | p :: ps => by
    have h1 := visible_erase p
    have h2 := visibleList_erase ps
    simp only [eraseTagsL, visibleList, List.append_nil] at h1
    simp only [eraseTagsL, visibleList, eraseTagsL_append, h1, h2]
end

def Rel (c : PState) : R1 → R0 → Prop
  | .oof, r0 => r0 = .oof
  | .exc k, r0 => k = .keyError ∧ r0 = .stuck
  | .done true c' ps, r0 => r0 = .ok (abs0 c') (eraseTagsL ps) ∧ Frame c c'
  | .done false c' ps, r0 => r0 = .fail ∧ ps = [] ∧ Frame c c'

/-- for `parse_trivia`, whose Boolean result nobody reads: it always "succeeds" -/
def RelT (c : PState) : R1 → R0 → Prop
  | .oof, r0 => r0 = .oof
  | .exc k, r0 => k = .keyError ∧ r0 = .stuck
  | .done _ c' ps, r0 => r0 = .ok (abs0 c') (eraseTagsL ps) ∧ Frame c c'

/-- `r1` refines `r0`.  `tot` (a node of one of the three shapes of `totalBody` never answers
    "no match") is carried along for the fused trivia rule: `parse_trivia` ignores the Boolean
    that `skip.parse` returns and would carry on from the garbage a failure leaves, where L0 keeps
    the state before; the two agree because that call cannot fail (`SkipTotal`, used in
    `parseTrivia_rel`). -/
structure Good (r1 : Sem1) (r0 : Sem0) : Prop where
  rel : ∀ e c, Pre c → Rel c (r1 e c) (r0 e (abs0 c))
  tot : ∀ e c c' ps, totalBody e = true → r1 e c ≠ .done false c' ps

/-- the fused trivia rule, if there is one, has a body that cannot fail (true of what
    `_optimize_skip_rule` builds: `Repeat(…)`, an `OptimizedChoiceRepeat` or a `SkipUntil`) -/
def SkipTotal (g : Grammar) : Prop := ∀ r, g.fusedSkip = some r → totalBody r.body = true

theorem SkipTotal.of_noFused {g : Grammar} (h : g.fusedSkip = none) : SkipTotal g :=
  fun r hr => by rw [h] at hr; cases hr

theorem Rel.mono_start {c d : PState} {r1 : R1} {r0 : R0} (f : Frame c d) (h : Rel d r1 r0) :
    Rel c r1 r0 := by
  cases r1 with
  | oof => exact h
  | exc k => exact h
  | done m c' ps =>
    cases m with
    | true => exact ⟨h.1, f.trans h.2⟩
    | false => exact ⟨h.1, h.2.1, f.trans h.2.2⟩

theorem Rel.ite {c : PState} {p : Prop} [Decidable p] {a b : R1} {a0 b0 : R0}
    (ha : p → Rel c a a0) (hb : ¬p → Rel c b b0) :
    Rel c (if p then a else b) (if p then a0 else b0) := ite_ind₂ (P := Rel c) ha hb

theorem RelT.mono_start {c d : PState} {r1 : R1} {r0 : R0} (f : Frame c d) (h : RelT d r1 r0) :
    RelT c r1 r0 := by
  cases r1 with
  | oof => exact h
  | exc k => exact h
  | done m c' ps => exact ⟨h.1, f.trans h.2⟩

@[elab_as_elim]
theorem Rel.elim {d : PState} {r1 : R1} {r0 : R0} {motive : R1 → R0 → Prop} (h : Rel d r1 r0)
    (oof : motive .oof .oof) (exc : motive (.exc .keyError) .stuck)
    (ok : ∀ c' ps, Frame d c' → motive (.done true c' ps) (.ok (abs0 c') (eraseTagsL ps)))
    (fail : ∀ c', Frame d c' → motive (.done false c' []) .fail) : motive r1 r0 := by
  cases r1 with
  | oof => cases h; exact oof
  | exc k => obtain ⟨rfl, rfl⟩ := h; exact exc
  | done m c' ps =>
    cases m with
    | true => obtain ⟨rfl, f⟩ := h; exact ok c' ps f
    | false => obtain ⟨rfl, rfl, f⟩ := h; exact fail c' f

@[elab_as_elim]
theorem RelT.elim {d : PState} {r1 : R1} {r0 : R0} {motive : R1 → R0 → Prop} (h : RelT d r1 r0)
    (oof : motive .oof .oof) (exc : motive (.exc .keyError) .stuck)
    (done : ∀ m c' ps, Frame d c' → motive (.done m c' ps) (.ok (abs0 c') (eraseTagsL ps))) :
    motive r1 r0 := by
  cases r1 with
  | oof => cases h; exact oof
  | exc k => obtain ⟨rfl, rfl⟩ := h; exact exc
  | done m c' ps => obtain ⟨rfl, f⟩ := h; exact done m c' ps f

variable (g : Grammar) (inp : Input)

theorem failT_rel {c : PState} (p : Pre c) : Rel c (L1.failT c) .fail := by
  obtain ⟨c', hc, e⟩ := failT_inside p.rne
  rw [e]
  exact ⟨rfl, rfl, (fail_frame p hc).1⟩

theorem ruleWrap_exit (name : String) (mod : Nat) {c c2 : PState} {rs : DStack String}
    (f : Frame c (L1.exitState name mod true c2 rs)) (children : List Pair) :
    L0.ruleWrap name mod (abs0 c) (abs0 c2) (eraseTagsL children) =
      .ok (abs0 (L1.exitState name mod true c2 rs))
        (eraseTagsL (L1.exitPairs name mod c.pos true c2 children)) := by
  have a4 : abs0 (L1.exitState name mod true c2 rs) = { abs0 c2 with atomic := (abs0 c).atomic } := by
    simp only [abs0, f.av]; rfl
  rw [a4]
  unfold L0.ruleWrap L1.exitPairs
  by_cases hS : hasBit mod SILENT = true
  · simp only [hS, ↓reduceIte, Bool.not_true, Bool.false_eq_true]
  · by_cases hat : hasBit mod ATOMIC = true <;>
      simp [hS, hat, eraseTagsL, Pair.eraseTags, abs0, visibleList_erase]

/-- a rule may be entered from outside every rule (`PreW`): `Parser.parse` does -/
theorem ruleParse_rel {r1 : Sem1} {r0 : Sem0} (h : Good r1 r0) (name : String) (mod : Nat)
    (body : Expr) (c : PState) (p : PreW c) :
    Rel c (L1.ruleParse r1 name mod body c) (L0.ruleApply r0 name mod body (abs0 c)) := by
  unfold L1.ruleParse L0.ruleApply
  have he := rule_enter name mod c p
  generalize L1.ruleEnter name mod { c with rstack := c.rstack.push name } = en at he
  have hb := h.rel body en he.pre
  rw [he.abs] at hb
  refine hb.elim rfl ⟨rfl, rfl⟩ (fun c2 children f => ?_) (fun c2 f => ?_)
  · obtain ⟨rs, hpop, hf⟩ := rule_exit p he f
    dsimp only []
    rw [L1.ruleExit_eq, hpop]
    exact ⟨ruleWrap_exit name mod (hf true) children, hf true⟩
  · obtain ⟨rs, hpop, hf⟩ := rule_exit p he f
    dsimp only []
    rw [L1.ruleExit_eq, hpop]
    exact ⟨rfl, rfl, hf false⟩

theorem withTag_rel (tag : Option String) (c : PState) (p : Pre c) (body : PState → R1) (r0 : R0)
    (hbody : ∀ d, Pre d → abs0 d = abs0 c → Rel d (body d) r0) :
    Rel c (L1.withTag tag c body) r0 := by
  unfold L1.withTag
  cases tag with
  | none => exact hbody c p rfl
  | some t =>
    dsimp only []
    have fd : Frame c { c with tagStack := t :: c.tagStack } := (Frame.refl p).setTag _
    exact (hbody _ (fd.pre p) rfl).elim rfl ⟨rfl, rfl⟩
      (fun c' ps f => ⟨rfl, fd.trans (f.setTag _)⟩) (fun c' f => ⟨rfl, rfl, fd.trans (f.setTag _)⟩)

theorem callRule_rel {r1 : Sem1} {r0 : Sem0} (h : Good r1 r0) (name : String) (c : PState)
    (p : PreW c) : Rel c (L1.callRule g r1 name c) (L0.callRule g r0 name (abs0 c)) := by
  unfold L1.callRule L0.callRule
  cases g.lookup name with
  | none => exact ⟨rfl, rfl⟩
  | some r => exact ruleParse_rel h r.name r.mod r.body c p

def StopRel (r : R1) (r0 : R0) : Prop :=
  (r = .oof ∧ r0 = .oof) ∨ (r = .exc .keyError ∧ r0 = .stuck)

def TryRel (c : PState) : L1.TryR → L0.Try0 → Prop
  | .matched c' ps, t0 => t0 = .matched (abs0 c') (eraseTagsL ps) ∧ Frame c c'
  | .no c1, t0 => t0 = .no ∧ Frame c c1 ∧ abs0 c1 = abs0 c
  | .stop r, t0 => ∃ r0, t0 = .stop r0 ∧ StopRel r r0

@[elab_as_elim]
theorem TryRel.elim {c : PState} {t1 : L1.TryR} {t0 : L0.Try0} {motive : L1.TryR → L0.Try0 → Prop}
    (h : TryRel c t1 t0)
    (matched : ∀ c' ps, Frame c c' → motive (.matched c' ps) (.matched (abs0 c') (eraseTagsL ps)))
    (no : ∀ c1, Frame c c1 → abs0 c1 = abs0 c → motive (.no c1) .no)
    (oof : motive (.stop .oof) (.stop .oof)) (exc : motive (.stop (.exc .keyError)) (.stop .stuck)) :
    motive t1 t0 := by
  cases t1 with
  | matched c' ps => obtain ⟨rfl, f⟩ := h; exact matched c' ps f
  | no c1 => obtain ⟨rfl, f, a⟩ := h; exact no c1 f a
  | stop r =>
    obtain ⟨r0, rfl, hs⟩ := h
    rcases hs with ⟨rfl, rfl⟩ | ⟨rfl, rfl⟩
    · exact oof
    · exact exc

theorem tryTrivia_rel {r1 : Sem1} {r0 : Sem0} (h : Good r1 r0) (r : Option Rule) (c : PState)
    (p : Pre c) : TryRel c (L1.tryTrivia r1 r c) (L0.trySkip r0 r (abs0 c)) := by
  unfold L1.tryTrivia L0.trySkip
  cases r with
  | none => exact ⟨rfl, Frame.refl p, rfl⟩
  | some r =>
    dsimp only []
    refine (ruleParse_rel h r.name r.mod r.body c.checkpoint (pre_checkpoint p).weak).elim
      ⟨_, rfl, .inl ⟨rfl, rfl⟩⟩ ⟨_, rfl, .inr ⟨rfl, rfl⟩⟩ (fun c' ps f => ?_) (fun c' f => ?_)
    · obtain ⟨f', a'⟩ := ok_after f
      exact ⟨by rw [a'], f'⟩
    · obtain ⟨f', a'⟩ := restore_after f
      exact ⟨rfl, f', a'⟩

theorem triviaLoop_rel {r1 : Sem1} {r0 : Sem0} (h : Good r1 r0) (ws cm : Option Rule) :
    ∀ (k : Nat) (c : PState) (acc : List Pair), Pre c →
      RelT c (L1.triviaLoop r1 ws cm k c acc) (L0.skipLoop r0 ws cm k (abs0 c) (eraseTagsL acc)) := by
  intro k
  induction k with
  | zero => intro c acc _; simp [L1.triviaLoop, L0.skipLoop, RelT]
  | succ k ih =>
    intro c acc p
    simp only [L1.triviaLoop, L0.skipLoop]
    refine (tryTrivia_rel h ws c p).elim (fun c' ps f1 => ?_) (fun c1 f1 a1 => ?_) rfl ⟨rfl, rfl⟩
    · have := ih c' (acc ++ ps) (f1.pre p)
      rw [eraseTagsL_append] at this
      exact this.mono_start f1
    · have h2 := tryTrivia_rel h cm c1 (f1.pre p)
      rw [a1] at h2
      dsimp only []
      refine h2.elim (fun c' ps f2 => ?_) (fun c2 f2 a2 => ⟨by rw [a2, a1], f1.trans f2⟩) rfl ⟨rfl, rfl⟩
      have := ih c' (acc ++ ps) (f2.pre (f1.pre p))
      rw [eraseTagsL_append] at this
      exact this.mono_start (f1.trans f2)

theorem ruleParse_total {r1 : Sem1} (name : String) (mod : Nat) (body : Expr) (c : PState)
    (hb : ∀ d d' ps, r1 body d ≠ .done false d' ps) (c' : PState) (ps : List Pair) :
    L1.ruleParse r1 name mod body c ≠ .done false c' ps := by
  unfold L1.ruleParse
  generalize L1.ruleEnter name mod { c with rstack := c.rstack.push name } = en
  cases hr : r1 body en with
  | oof => exact R1.noConfusion
  | exc k => exact R1.noConfusion
  | done matched c2 children =>
    cases matched with
    | false => exact absurd hr (hb en c2 children)
    | true =>
      dsimp only []
      rw [L1.ruleExit_eq]
      cases c2.rstack.pop with
      | none => exact R1.noConfusion
      | some q => intro hx; cases hx

theorem parseTrivia_rel {r1 : Sem1} {r0 : Sem0} (h : Good r1 r0) (hs : SkipTotal g) (k : Nat)
    (c : PState) (p : Pre c) : RelT c (L1.parseTrivia g r1 k c) (L0.skip g r0 k (abs0 c)) := by
  unfold L1.parseTrivia L0.skip
  by_cases ha : c.adepth.val > 0
  · simp [ha, abs0, RelT, Frame.refl p, eraseTagsL]
  · have : (abs0 c).atomic = false := by simp [abs0, ha]
    simp only [ha, ↓reduceIte, this, Bool.false_eq_true]
    cases hsk : g.fusedSkip with
    | some skip =>
      dsimp only []
      have hb := ruleParse_rel h skip.name skip.mod skip.body c p.weak
      have ht := ruleParse_total skip.name skip.mod skip.body c
        (fun d d' ps => h.tot skip.body d d' ps (hs skip hsk))
      generalize L1.ruleParse r1 skip.name skip.mod skip.body c = r at hb ht ⊢
      match r, hb, ht with
      | .oof, hb, _ | .exc _, hb, _ | .done true _ _, hb, _ => exact hb
      | .done false c' ps, _, ht => exact absurd rfl (ht c' ps)
    | none =>
      dsimp only []
      by_cases hn : ((g.lookup "WHITESPACE").isNone && (g.lookup "COMMENT").isNone) = true
      · simp [hn, RelT, Frame.refl p, eraseTagsL]
      · simp only [hn, Bool.false_eq_true, ↓reduceIte]
        have pc : Pre { c with suppress := true } := p.of_eq
        have fc : Frame c { c with suppress := true } := Frame.of_eq p
        have hl := triviaLoop_rel h (g.lookup "WHITESPACE") (g.lookup "COMMENT") k
          { c with suppress := true } [] pc
        have ea : abs0 { c with suppress := true } = abs0 c := rfl
        rw [ea] at hl
        simp only [eraseTagsL] at hl
        exact hl.elim rfl ⟨rfl, rfl⟩ fun m c' ps f =>
          ⟨rfl, fc.trans (f.trans (Frame.of_eq (f.pre pc)))⟩

theorem seqParse_rel {r1 : Sem1} {r0 : Sem0} (h : Good r1 r0) (hs : SkipTotal g) (k : Nat) :
    ∀ (es : List Expr) (c : PState) (acc : List Pair), Pre c →
      Rel c (L1.seqParse g r1 k es c acc) (L0.seqL g r0 k es (abs0 c) (eraseTagsL acc)) := by
  intro es
  induction es with
  | nil => intro c acc p; exact ⟨rfl, Frame.refl p⟩
  | cons e rest ih =>
    intro c acc p
    simp only [L1.seqParse, L0.seqL]
    refine (h.rel e c p).elim rfl ⟨rfl, rfl⟩ (fun c1 ps f => ?_) (fun c1 f => ⟨rfl, rfl, f⟩)
    refine .ite (fun _ => ⟨by rw [eraseTagsL_append], f⟩) fun _ => ?_
    refine (parseTrivia_rel g h hs k c1 (f.pre p)).elim rfl ⟨rfl, rfl⟩ fun m2 c2 tps f2 => ?_
    have := ih c2 (acc ++ ps ++ tps) (f2.pre (f.pre p))
    rw [eraseTagsL_append, eraseTagsL_append] at this
    exact this.mono_start (f.trans f2)

theorem choiceParse_rel {r1 : Sem1} {r0 : Sem0} (h : Good r1 r0) :
    ∀ (es : List Expr) (c : PState), Pre c →
      Rel c (L1.choiceParse r1 es c) (L0.choiceL r0 es (abs0 c)) := by
  intro es
  induction es with
  | nil => intro c p; exact ⟨rfl, rfl, Frame.refl p⟩
  | cons e rest ih =>
    intro c p
    simp only [L1.choiceParse, L0.choiceL]
    refine (h.rel e c.checkpoint (pre_checkpoint p)).elim rfl ⟨rfl, rfl⟩ (fun c1 ps f => ?_)
      (fun c1 f => ?_)
    · obtain ⟨f', a'⟩ := ok_after f
      exact ⟨by rw [a'], f'⟩
    · obtain ⟨f', a'⟩ := restore_after f
      have := ih c1.restore (f'.pre p)
      rw [a'] at this
      exact this.mono_start f'

theorem repLoop_rel {r1 : Sem1} {r0 : Sem0} (h : Good r1 r0) (hs : SkipTotal g) (e : Expr) (kk : Nat) :
    ∀ (k : Nat) (first : Bool) (c : PState) (acc : List Pair), Pre c →
      Rel c (L1.repLoop g r1 e k kk first c acc) (L0.repLoop g r0 e k kk first (abs0 c) (eraseTagsL acc)) := by
  intro k
  induction k with
  | zero => intro first c acc _; rfl
  | succ k ih =>
    intro first c acc p
    simp only [L1.repLoop, L0.repLoop]
    have pc := pre_checkpoint p
    have hT : RelT c.checkpoint
        (if first = true then R1.done true c.checkpoint [] else L1.parseTrivia g r1 kk c.checkpoint)
        (if first = true then R0.ok (abs0 c) [] else L0.skip g r0 kk (abs0 c)) := by
      by_cases hf : first = true
      · simp [hf, RelT, Frame.refl pc, abs0_checkpoint, eraseTagsL]
      · simp only [hf, Bool.false_eq_true, ↓reduceIte]
        have := parseTrivia_rel g h hs kk c.checkpoint pc
        rwa [abs0_checkpoint] at this
    refine hT.elim rfl ⟨rfl, rfl⟩ fun m c1 tps f1 => ?_
    dsimp only []
    refine (h.rel e c1 (f1.pre pc)).elim rfl ⟨rfl, rfl⟩ (fun c2 ps f2 => ?_) (fun c2 f2 => ?_)
    · obtain ⟨f', a'⟩ := ok_after (f1.trans f2)
      have := ih false c2.ok (acc ++ tps ++ ps) (f'.pre p)
      rw [a', eraseTagsL_append, eraseTagsL_append] at this
      exact this.mono_start f'
    · obtain ⟨f', a'⟩ := restore_after (f1.trans f2)
      exact ⟨by rw [a'], f'⟩

theorem repLoop_never_false (r1 : Sem1) (e : Expr) (kk : Nat) :
    ∀ (k : Nat) (first : Bool) (c : PState) (acc : List Pair) (c' : PState) (ps : List Pair),
      L1.repLoop g r1 e k kk first c acc ≠ .done false c' ps := by
  intro k
  induction k with
  | zero => intro first c acc c' ps; simp [L1.repLoop]
  | succ k ih =>
    intro first c acc c' ps
    simp only [L1.repLoop]
    cases (if first = true then R1.done true c.checkpoint [] else L1.parseTrivia g r1 kk c.checkpoint) with
    | oof => simp
    | exc kx => simp
    | done m c1 tps =>
      dsimp only []
      cases r1 e c1 with
      | oof => simp
      | exc kx => simp
      | done m2 c2 ps2 =>
        cases m2 with
        | true => exact ih false c2.ok _ c' ps
        | false => simp

theorem L1.step_total (k : Nat) (r1 : Sem1) {e : Expr} (ht : totalBody e = true) (c c' : PState)
    (ps : List Pair) : L1.step g inp k r1 e c ≠ .done false c' ps := by
  cases e with
  | rep e => exact repLoop_never_false g r1 e k k true c [] c' ps
  | optChoice alts star =>
    cases star with
    | false => cases ht
    | true =>
      dsimp only [L1.step, L1.optMatch]
      by_cases hemp : alts.isEmpty = true <;> simp [hemp]
  | skipUntil subs => intro hx; cases hx
  | _ => cases ht

theorem leaf_rel (e : Expr) {c : PState} (p : Pre c) :
    Rel c ((leafAct g inp e c.pos c.ustack.items).run1 c)
      ((leafAct g inp e c.pos c.ustack.items).run0 (abs0 c)) := by
  have moved : ∀ {us : DStack Str} (q : Nat), L1.StackStep c.ustack us →
      Frame c { c with ustack := us, pos := q } := fun q st =>
    (Frame.stackStep p st).trans (Frame.of_eq ((Frame.stackStep p st).pre p))
  cases h : leafAct g inp e c.pos c.ustack.items with
  | fail => exact failT_rel p
  | no => exact ⟨rfl, rfl, Frame.refl p⟩
  | ok q op =>
    cases op with
    | keep => exact ⟨rfl, moved q .same⟩
    | push x => exact ⟨rfl, moved q (.push x)⟩
    | clear =>
      exact ⟨by simp [LeafAct.run0, StkOp.apply, abs0, (snapsOf_clear _ p.iu).2, eraseTagsL], moved q .clear⟩
    | pop =>
      dsimp only [LeafAct.run1]
      cases hp : c.ustack.pop with
      | none => exact absurd (items_of_pop_none hp) (leafAct_pop h)
      | some x =>
        exact ⟨by simp [LeafAct.run0, StkOp.apply, abs0, pop_items hp, eraseTagsL], moved q (.pop hp)⟩

theorem step_leaf_rel {e : Expr} (he : e.isLeaf = true) (hp : e ≠ .popAll) (k : Nat) (r1 : Sem1)
    (r0 : Sem0) {c : PState} (p : Pre c) :
    Rel c (L1.step g inp k r1 e c) (L0.step g inp k r0 e (abs0 c)) := by
  rw [L1.step_leaf_eq he hp, L0.step_leaf_eq he]
  exact leaf_rel g inp e p

theorem step_good {r1 : Sem1} {r0 : Sem0} (hs : SkipTotal g) (k : Nat) (h : Good r1 r0) :
    Good (L1.step g inp k r1) (L0.step g inp k r0) := by
  constructor
  · intro e c p
    cases e with
    | ident name tag =>
      dsimp only [L1.step, L0.step]
      apply withTag_rel tag c p
      intro d pd ad
      rw [← ad]
      exact callRule_rel g h name d pd.weak
    | rule name mod sm body => exact ruleParse_rel h name mod body c p.weak
    | seq _ | rep1 _ | repExact _ _ | repMin _ _ | repMax _ _ | repMinMax _ _ _ =>
      exact seqParse_rel g h hs k _ c [] p
    | choice es => exact choiceParse_rel h es c p
    | opt e =>
      dsimp only [L1.step, L0.step]
      refine (h.rel e c.checkpoint (pre_checkpoint p)).elim rfl ⟨rfl, rfl⟩ (fun c1 ps f => ?_)
        (fun c1 f => ?_)
      · obtain ⟨f', a'⟩ := ok_after f
        exact ⟨by rw [a'], f'⟩
      · obtain ⟨f', a'⟩ := restore_after f
        exact ⟨by rw [a']; rfl, f'⟩
    | rep e => exact repLoop_rel g h hs e k k true c [] p
    | andP e =>
      dsimp only [L1.step, L0.step]
      refine (h.rel e c.checkpoint (pre_checkpoint p)).elim rfl ⟨rfl, rfl⟩ (fun c1 ps f => ?_)
        (fun c1 f => ?_)
      · obtain ⟨f', a'⟩ := restore_after f
        exact ⟨by rw [a']; rfl, f'⟩
      · exact ⟨rfl, rfl, (restore_after f).1⟩
    | notP e =>
      dsimp only [L1.step, L0.step]
      have pc := pre_checkpoint p
      have pn : Pre { c.checkpoint with negDepth := c.checkpoint.negDepth + 1 } := pc.of_eq
      have f0 : Frame c.checkpoint { c.checkpoint with negDepth := c.checkpoint.negDepth + 1 } :=
        Frame.of_eq pc
      have he : Rel _ (r1 e { c.checkpoint with negDepth := c.checkpoint.negDepth + 1 }) (r0 e (abs0 c)) :=
        h.rel e _ pn
      refine he.elim rfl ⟨rfl, rfl⟩ (fun c1 ps f => ?_) (fun c1 f => ?_)
      · obtain ⟨f', _⟩ := restore_after (f0.trans f)
        obtain ⟨c3, h3⟩ := fail_isSome (f'.pre p).rne (L1.failedName e) true
        obtain ⟨f3, _⟩ := fail_frame (f'.pre p) h3
        dsimp only []
        rw [if_pos rfl, h3]
        exact ⟨rfl, rfl, f'.trans (f3.trans (Frame.of_eq (f3.pre (f'.pre p))))⟩
      · obtain ⟨f', a'⟩ := restore_after (f0.trans f)
        exact ⟨by rw [← a']; rfl, f'.trans (Frame.of_eq (f'.pre p))⟩
    | group e tag =>
      dsimp only [L1.step, L0.step]
      apply withTag_rel tag c p
      intro d pd ad
      rw [← ad]
      exact h.rel e d pd
    | push e =>
      dsimp only [L1.step, L0.step]
      exact (h.rel e c p).elim rfl ⟨rfl, rfl⟩
        (fun c1 ps f => ⟨by simp [abs0, push_items], f.push _⟩) (fun c1 f => ⟨rfl, rfl, f⟩)
    | popAll =>
      have hx := popAll_rel g inp c p k r1
      dsimp only [L0.step, L0.matchLits, abs0]
      generalize L1.step g inp k r1 .popAll c = r at hx ⊢
      match r, hx with
      | .done true c' ps, ⟨hm, hu, hps, f⟩ =>
        rw [hm, hps]
        exact ⟨by rw [abs0, hu, f.av]; rfl, f⟩
      | .done false c' ps, ⟨hm, hps, f, _⟩ =>
        rw [hm]
        exact ⟨rfl, hps, f⟩
    | _ => exact step_leaf_rel g inp rfl (by nofun) k r1 r0 p
  · exact fun e c c' ps ht => L1.step_total g inp k r1 ht c c' ps

theorem run_good (hs : SkipTotal g) : ∀ n, Good (L1.run g inp n) (L0.run g inp n) := by
  intro n
  induction n with
  | zero => exact ⟨fun _ _ _ => rfl, fun _ _ _ _ _ => by simp [L1.run]⟩
  | succ n ih => exact step_good g inp hs n ih

theorem Rel.of_fail {d : PState} {r1 : R1} (h : Rel d r1 .fail) : ∃ c, r1 = .done false c [] := by
  generalize hr : R0.fail = r0 at h
  refine h.elim (fun e => ?_) (fun e => ?_) (fun _ _ _ e => ?_) (fun c _ _ => ⟨c, rfl⟩) hr <;> cases e

theorem parse_rel (hs : SkipTotal g) (fuel : Nat) (start : String) (k : Nat) :
    Rel (.init k) (L1.parse g inp fuel start k) (L0.parse g inp fuel start k) := by
  have h := callRule_rel g (run_good g inp hs fuel) start (.init k) (preW_init k)
  have ha : abs0 (PState.init k) = ⟨k, [], false⟩ := by
    simp [abs0, PState.init, DStack.empty, SnapInt.zero0]
  rw [ha] at h
  exact h

/-! ### the theorem as an equation

    `obs` and the two equations bear the namespace of property C08 (Props/C08.lean), whose
    statements are written with `obs`; they stand here because they are `run_good` read once more. -/

namespace C08

variable {g inp}

/-- what L0 can see of a result of L1 -/
def obs : R1 → R0
  | .done true c ps => .ok (abs0 c) (eraseTagsL ps)
  | .done false _ _ => .fail
  | .exc _ => .stuck
  | .oof => .oof

theorem obs_oof {r : R1} : obs r = .oof ↔ r = .oof := by
  cases r with
  | done m c ps => cases m <;> simp [obs]
  | oof => simp [obs]
  | exc k => simp [obs]

theorem obs_ok {r : R1} {s : S0} {qs : List Pair} (h : obs r = .ok s qs) :
    ∃ c ps, r = .done true c ps ∧ abs0 c = s ∧ eraseTagsL ps = qs := by
  cases r with
  | done b c ps =>
    cases b with
    | true => cases h; exact ⟨c, ps, rfl, rfl, rfl⟩
    | false => cases h
  | _ => cases h

theorem rel_obs {c : PState} {r1 : R1} {r0 : R0} (h : Rel c r1 r0) : r0 = obs r1 := by
  cases r1 with
  | oof => exact h
  | exc k => exact h.2
  | done m c' ps =>
    cases m with
    | true => exact h.1
    | false => exact h.1

theorem interp_obs (hs : SkipTotal g) (n : Nat) (e : Expr) (c : PState) (p : Pre c) :
    L0.run g inp n e (abs0 c) = obs (L1.run g inp n e c) :=
  rel_obs ((run_good g inp hs n).rel e c p)

theorem parse_obs (hs : SkipTotal g) (fuel : Nat) (start : String) (k : Nat) :
    L0.parse g inp fuel start k = obs (L1.parse g inp fuel start k) :=
  rel_obs (parse_rel g inp hs fuel start k)

theorem not_exc_of_obs {r : R1} {r0 : R0} (h : r0 = obs r) (hn : r0 ≠ .stuck) (x : PyExc) : r ≠ .exc x :=
  fun hx => hn (by rw [h, hx]; rfl)

theorem done_of_obs {r : R1} (h1 : obs r ≠ .oof) (h2 : obs r ≠ .stuck) : ∃ m c ps, r = .done m c ps := by
  cases r with
  | oof => exact absurd rfl h1
  | exc x => exact absurd rfl h2
  | done m c ps => exact ⟨m, c, ps, rfl⟩

theorem interp_done_of_spec (hs : SkipTotal g) {fuel : Nat} {start : String} {k : Nat}
    (h0 : L0.parse g inp fuel start k ≠ .oof) (hns : L0.parse g inp fuel start k ≠ .stuck) :
    ∃ m c ps, L1.parse g inp fuel start k = .done m c ps :=
  done_of_obs (parse_obs hs fuel start k ▸ h0) (parse_obs hs fuel start k ▸ hns)

end C08
end Pest
