/-
  Lemmas/Algebra.lean — the algebra of L0 (for property C08).

  The fuel-independent meaning (`Conv`) of a node is read off the meanings of its parts (`SeqC`,
  `ChoiceC`, `SkipC`, `RuleC`: the big-step relation of Lemmas/Big.lean at the helper jobs, which
  is where fuel is dealt with).  On that reading rest the laws (groups are transparent; an element
  of a sequence or choice that answers as a block does can be replaced by the block, `seq_splice`
  and `choice_splice`, so sequences and choices re-associate; `e | e = e`; `(e ~ NEVER) | e = e`,
  `(!e ~ NEVER) | e = e` where implicit trivia answers (`TriviaTotal`); a silent rule is its body)
  and the simulation theorem `conv_sim`: a relation `Q` on expressions that one step of the
  semantics preserves (Lemmas/BigSim.lean), up to the rule tables of two grammars, is preserved by
  the meaning.
  Congruence, rewriting inside rule bodies and the extraction of a sub-expression into a fresh
  silent rule follow from it, for expressions and for whole parses (`ParseC`, `GEquiv`).  The
  numbers (1)–(7) in the docstrings are those of the rewrites in the header of Props/C08.lean.

  The reading of a single node (`conv_group`, `conv_opt`, `conv_ident`, …) opens one unit of fuel
  by hand (`conv_succ`) although it is an inversion of `Big`: `cases` on a derivation at one node
  walks all the rules of the relation and is several times slower to check.  The list jobs
  (`seqC_cons`, `choiceC_cons`), where by hand the fuel of the head and that of the rest would have
  to be joined, invert `Big`.
-/
import PestModel.Lemmas.BigSim

namespace Pest
namespace L0

theorem ListRel2.of_index {α β : Type} {R : α → β → Prop} : ∀ (l : List α) (l' : List β) (_ : l.length = l'.length)
    (_ : ∀ i (h1 : i < l.length) (h2 : i < l'.length), R l[i] l'[i]), ListRel2 R l l'
  | [], [], _, _ => .nil
  | [], _ :: _, hl, _ => nomatch hl
  | _ :: _, [], hl, _ => nomatch hl
  | _ :: l, _ :: l', hl, h =>
    .cons (h 0 (Nat.zero_lt_succ _) (Nat.zero_lt_succ _))
      (ListRel2.of_index l l' (Nat.succ.inj hl) fun i h1 h2 => h (i + 1) (Nat.succ_lt_succ h1) (Nat.succ_lt_succ h2))

theorem ListRel2.append {α β : Type} {R : α → β → Prop} {as as' : List α} {bs bs' : List β}
    (h : ListRel2 R as bs) (h' : ListRel2 R as' bs') : ListRel2 R (as ++ as') (bs ++ bs') := by
  induction h with
  | nil => exact h'
  | cons hab _ ih => exact .cons hab ih

theorem ListRel2.flip {α β : Type} {R : α → β → Prop} {as : List α} {bs : List β} (h : ListRel2 R as bs) :
    ListRel2 (fun b a => R a b) bs as := by
  induction h with
  | nil => exact .nil
  | cons hab _ ih => exact .cons hab ih

theorem ListRel2.mono {α β : Type} {R R' : α → β → Prop} (hR : ∀ a b, R a b → R' a b) {as : List α} {bs : List β}
    (h : ListRel2 R as bs) : ListRel2 R' as bs := by
  induction h with
  | nil => exact .nil
  | cons hab _ ih => exact .cons (hR _ _ hab) ih

theorem ListRel2.replicate {α β : Type} {R : α → β → Prop} {a : α} {b : β} (h : R a b) (n : Nat) :
    ListRel2 R (List.replicate n a) (List.replicate n b) := by
  induction n with
  | zero => exact .nil
  | succ n ih => exact .cons h ih

/-! ### the readings -/

section defs
variable (g : Grammar) (inp : Input)

def SkipC (s : S0) (r : R0) : Prop := ∃ n, skip g (run g inp n) n s = r ∧ r ≠ .oof
def SeqC (es : List Expr) (s : S0) (acc : List Pair) (r : R0) : Prop :=
  ∃ n, seqL g (run g inp n) n es s acc = r ∧ r ≠ .oof
def ChoiceC (es : List Expr) (s : S0) (r : R0) : Prop := ∃ n, choiceL (run g inp n) es s = r ∧ r ≠ .oof
def RuleC (name : String) (mod : Nat) (body : Expr) (s : S0) (r : R0) : Prop :=
  ∃ n, ruleApply (run g inp n) name mod body s = r ∧ r ≠ .oof

end defs

variable {g : Grammar} {inp : Input}

/-- the readings are the big-step relation at the helper jobs (both sides unfold to the same text) -/
theorem big_seq {es : List Expr} {s : S0} {acc : List Pair} {r : R0} :
    Big g inp (.seq es acc) s r ↔ SeqC g inp es s acc r := big_iff
theorem big_choice {es : List Expr} {s : S0} {r : R0} : Big g inp (.choice es) s r ↔ ChoiceC g inp es s r := big_iff
theorem big_skip {s : S0} {r : R0} : Big g inp .skip s r ↔ SkipC g inp s r := big_iff
theorem big_rule {name : String} {mod : Nat} {body : Expr} {s : S0} {r : R0} :
    Big g inp (.rule name mod body) s r ↔ RuleC g inp name mod body s r := big_iff

theorem Conv.ev {e : Expr} {s : S0} {r : R0} (h : Conv g inp e s r) :
    ∃ N, ∀ m, N ≤ m → run g inp m e s = r := (big_conv.2 h).ev

theorem RuleC.ev {name : String} {mod : Nat} {body : Expr} {s : S0} {r : R0}
    (h : RuleC g inp name mod body s r) :
    ∃ n, ∀ m, n ≤ m → ruleApply (run g inp m) name mod body s = r := (big_rule.2 h).evDiag

theorem Conv.ne {e : Expr} {s : S0} {r : R0} (h : Conv g inp e s r) : r ≠ .oof := by
  obtain ⟨_, _, hr⟩ := h; exact hr

theorem SkipC.ne {s : S0} {r : R0} (h : SkipC g inp s r) : r ≠ .oof := by
  obtain ⟨_, _, hr⟩ := h; exact hr

theorem SkipC.det {s : S0} {r r' : R0} (h : SkipC g inp s r) (h' : SkipC g inp s r') : r = r' :=
  (big_skip.2 h).det (big_skip.2 h')

theorem SeqC.det {es : List Expr} {s : S0} {acc : List Pair} {r r' : R0}
    (h : SeqC g inp es s acc r) (h' : SeqC g inp es s acc r') : r = r' :=
  (big_seq.2 h).det (big_seq.2 h')

theorem ChoiceC.det {es : List Expr} {s : S0} {r r' : R0}
    (h : ChoiceC g inp es s r) (h' : ChoiceC g inp es s r') : r = r' :=
  (big_choice.2 h).det (big_choice.2 h')

theorem Conv.atomic {e : Expr} {s s' : S0} {ps : List Pair} (h : Conv g inp e s (.ok s' ps)) :
    s'.atomic = s.atomic := (big_conv.2 h).atomic

theorem conv_succ {e : Expr} {s : S0} {r : R0} :
    Conv g inp e s r ↔ ∃ n, step g inp n (run g inp n) e s = r ∧ r ≠ .oof := by
  constructor
  · rintro ⟨n, h, hr⟩
    cases n with
    | zero => exact absurd h.symm hr
    | succ n => exact ⟨n, h, hr⟩
  · rintro ⟨n, h, hr⟩
    exact ⟨n + 1, h, hr⟩

theorem conv_seq {es : List Expr} {s : S0} {r : R0} :
    Conv g inp (.seq es) s r ↔ SeqC g inp es s [] r := conv_succ

theorem conv_choice {es : List Expr} {s : S0} {r : R0} :
    Conv g inp (.choice es) s r ↔ ChoiceC g inp es s r := conv_succ

theorem conv_rule {name : String} {mod : Nat} {sm : Bool} {body : Expr} {s : S0} {r : R0} :
    Conv g inp (.rule name mod sm body) s r ↔ RuleC g inp name mod body s r := conv_succ

theorem conv_seqView {x : Expr} {es : List Expr} (h : seqView x = some es) {s : S0} {r : R0} :
    Conv g inp x s r ↔ SeqC g inp es s [] r := by
  rw [conv_succ]
  simp only [step_seqView g inp _ _ h]
  exact Iff.rfl

theorem conv_unary {x e : Expr} {s s1 : S0} {r : R0} (f : R0 → R0)
    (hf : ∀ r, f r = .oof ↔ r = .oof)
    (hx : ∀ k (rec : Sem0), step g inp k rec x s = f (rec e s1)) :
    Conv g inp x s r ↔ ∃ r1, Conv g inp e s1 r1 ∧ r = f r1 := by
  rw [conv_succ]
  constructor
  · rintro ⟨n, h, hr⟩
    rw [hx] at h
    refine ⟨run g inp n e s1, ⟨n, rfl, ?_⟩, h.symm⟩
    intro e0; rw [e0, (hf _).2 rfl] at h; exact hr h.symm
  · rintro ⟨r1, ⟨n, h, hr1⟩, rfl⟩
    refine ⟨n, by rw [hx, h], ?_⟩
    intro e0; exact hr1 ((hf _).1 e0)

/-- whatever its tag: L0 has no tags -/
theorem conv_group {e : Expr} {t : Option String} {s : S0} {r : R0} :
    Conv g inp (.group e t) s r ↔ Conv g inp e s r := conv_succ

theorem conv_opt {e : Expr} {s : S0} {r : R0} :
    Conv g inp (.opt e) s r ↔ ∃ r1, Conv g inp e s r1 ∧ r = optK s r1 := by
  apply conv_unary (optK s)
  · intro r; cases r <;> simp [optK]
  · intro k rec; exact step_opt k rec e s

theorem conv_andP {e : Expr} {s : S0} {r : R0} :
    Conv g inp (.andP e) s r ↔ ∃ r1, Conv g inp e s r1 ∧ r = andK s r1 := by
  apply conv_unary (andK s)
  · intro r; cases r <;> simp [andK]
  · intro k rec; exact step_andP k rec e s

theorem conv_notP {e : Expr} {s : S0} {r : R0} :
    Conv g inp (.notP e) s r ↔ ∃ r1, Conv g inp e s r1 ∧ r = notK s r1 := by
  apply conv_unary (notK s)
  · intro r; cases r <;> simp [notK]
  · intro k rec; exact step_notP k rec e s

theorem conv_push {e : Expr} {s : S0} {r : R0} :
    Conv g inp (.push e) s r ↔ ∃ r1, Conv g inp e s r1 ∧ r = pushK inp s r1 := by
  apply conv_unary (pushK inp s)
  · intro r; cases r <;> simp [pushK]
  · intro k rec; exact step_push k rec e s

theorem conv_str {x : Str} {s : S0} {r : R0} :
    Conv g inp (.str x) s r ↔
      r = (if startsWithAt inp x s.pos then .ok (adv s x.length) [] else .fail) := by
  have h0 : Conv g inp (.str x) s (if startsWithAt inp x s.pos then .ok (adv s x.length) [] else .fail) := by
    cases h : startsWithAt inp x s.pos with
    | true => exact big_conv.1 (big_str_ok h)
    | false => exact big_conv.1 (big_str_fail h)
  exact ⟨fun h => h.det g inp h0, fun h => h ▸ h0⟩

/-- the answer with the flag of its end state set to `a` -/
def reflag (a : Bool) : R0 → R0
  | .ok s ps => .ok { s with atomic := a } ps
  | r => r

theorem reflag_ne_oof {a : Bool} {r : R0} (h : reflag a r ≠ .oof) : r ≠ .oof := fun x => h (by rw [x]; rfl)

theorem wrapK_silent {name : String} {mod : Nat} (h : hasBit mod SILENT = true) (s : S0) (r : R0) :
    wrapK name mod s r = reflag s.atomic r := by
  cases r with
  | ok s1 ps => exact ruleWrap_silent h
  | _ => rfl

theorem ruleApply_silent (rec : Sem0) {name : String} {mod : Nat} (h : hasBit mod SILENT = true) (body : Expr)
    (s : S0) :
    ruleApply rec name mod body s = reflag s.atomic (rec body { s with atomic := ruleAtomic name mod s.atomic }) := by
  rw [ruleApply_eq, wrapK_silent h]

theorem ruleC_iff {name : String} {mod : Nat} {body : Expr} {s : S0} {r : R0} :
    RuleC g inp name mod body s r ↔
      ∃ r1, Conv g inp body { s with atomic := ruleAtomic name mod s.atomic } r1 ∧ r = wrapK name mod s r1 := by
  rw [← conv_rule (sm := false)]
  apply conv_unary (wrapK name mod s)
  · intro r
    cases r with
    | ok s1 ps1 => exact ⟨fun h => absurd h (wrapK_ok_ne (x := .oof) nofun s1 ps1), nofun⟩
    | _ => exact Iff.rfl
  · intro k rec; exact ruleApply_eq rec name mod body s

theorem conv_ident {name : String} {t : Option String} {s : S0} {r : R0} :
    Conv g inp (.ident name t) s r ↔
      (match g.lookup name with
       | none => r = .stuck
       | some rl => RuleC g inp rl.name rl.mod rl.body s r) := by
  rw [conv_succ]
  dsimp only [step, callRule]
  cases g.lookup name with
  | none =>
    constructor
    · rintro ⟨_, h, _⟩; exact h.symm
    · rintro rfl; exact ⟨0, rfl, nofun⟩
  | some rl => exact Iff.rfl

/-! ### sequences -/

/-- what follows the first element of a sequence, given that element's answer `r1` -/
def SeqK (g : Grammar) (inp : Input) (rest : List Expr) (acc : List Pair) (r1 r : R0) : Prop :=
  match r1 with
  | .ok s1 ps =>
    if rest.isEmpty then r = .ok s1 (acc ++ ps)
    else ∃ r2, SkipC g inp s1 r2 ∧
      (match r2 with
       | .ok s2 tps => SeqC g inp rest s2 (acc ++ ps ++ tps) r
       | .fail => SeqC g inp rest s1 (acc ++ ps) r
       | _ => r = r2)
  | _ => r = r1

theorem seqC_nil {s : S0} {acc : List Pair} {r : R0} : SeqC g inp [] s acc r ↔ r = .ok s acc := by
  constructor
  · rintro ⟨_, h, _⟩; exact h.symm
  · rintro rfl; exact ⟨0, rfl, by simp⟩

theorem seqC_cons {e : Expr} {rest : List Expr} {s : S0} {acc : List Pair} {r : R0} :
    SeqC g inp (e :: rest) s acc r ↔ ∃ r1, Conv g inp e s r1 ∧ SeqK g inp rest acc r1 r := by
  simp only [← big_conv, ← big_seq]
  constructor
  · intro h
    cases h with
    | @seqStop _ _ _ _ r h hok => cases r with | ok _ _ => cases hok | _ => exact ⟨_, h, rfl⟩
    | seqLast h => exact ⟨_, h, rfl⟩
    | seqMore h1 h2 h3 => exact ⟨_, h1, _, big_skip.1 h2, big_seq.1 h3⟩
    | seqSkipFail h1 h2 h3 => exact ⟨_, h1, _, big_skip.1 h2, big_seq.1 h3⟩
    | seqSkipStuck h1 h2 => exact ⟨_, h1, _, big_skip.1 h2, rfl⟩
  · rintro ⟨r1, h1, hk⟩
    cases r1 with
    | oof => exact absurd rfl h1.ne_oof
    | fail | stuck => cases hk; exact .seqStop h1 rfl
    | ok s1 ps =>
      cases rest with
      | nil => cases hk; exact .seqLast h1
      | cons e2 rest =>
        obtain ⟨r2, h2, hk⟩ := hk
        have h2 := big_skip.2 h2
        cases r2 with
        | oof => exact absurd rfl h2.ne_oof
        | stuck => cases hk; exact .seqSkipStuck h1 h2
        | fail => exact .seqSkipFail h1 h2 (big_seq.2 hk)
        | ok s2 tps => exact .seqMore h1 h2 (big_seq.2 hk)

theorem seqC_single {e : Expr} {s : S0} {r : R0} : SeqC g inp [e] s [] r ↔ Conv g inp e s r := by
  rw [seqC_cons]
  constructor
  · rintro ⟨r1, h1, hk⟩
    cases r1 <;> simp [SeqK] at hk <;> subst hk <;> exact h1
  · intro h
    refine ⟨r, h, ?_⟩
    cases r <;> simp [SeqK]

def prepend (acc : List Pair) : R0 → R0
  | .ok s ps => .ok s (acc ++ ps)
  | r => r

theorem seqK_prepend {cs : List Expr} {acc P : List Pair} {rb r : R0} :
    SeqK g inp cs acc (prepend P rb) r ↔ SeqK g inp cs (acc ++ P) rb r := by
  cases rb <;> simp only [SeqK, prepend, List.append_assoc]

theorem seqK_congr {A B : List Expr} (hE : A.isEmpty = B.isEmpty)
    (h : ∀ s acc r, SeqC g inp A s acc r ↔ SeqC g inp B s acc r) {acc : List Pair} {r1 r : R0} :
    SeqK g inp A acc r1 r ↔ SeqK g inp B acc r1 r := by
  cases r1 with
  | ok s1 ps =>
    simp only [SeqK, hE]
    by_cases hb : B.isEmpty = true
    · simp only [hb, ↓reduceIte]
    · simp only [hb, Bool.false_eq_true, ↓reduceIte]
      apply exists_congr
      intro r2
      cases r2 <;> simp only [h]
  | _ => simp only [SeqK]

theorem seqK_nil {P : List Pair} {r1 r : R0} : SeqK g inp [] P r1 r ↔ r = prepend P r1 := by
  cases r1 <;> simp only [SeqK, prepend, List.isEmpty_nil, ↓reduceIte]

theorem exists_assoc {α β : Type} {p : α → Prop} {q : α → β → Prop} {k : β → Prop} :
    (∃ b, (∃ a, p a ∧ q a b) ∧ k b) ↔ ∃ a, p a ∧ ∃ b, q a b ∧ k b :=
  ⟨fun ⟨b, ⟨a, hp, hq⟩, hk⟩ => ⟨a, hp, b, hq, hk⟩, fun ⟨a, hp, b, hq, hk⟩ => ⟨b, ⟨a, hp, hq⟩, hk⟩⟩

theorem seqK_ok {rest : List Expr} (h : rest.isEmpty = false) {acc : List Pair} {s1 : S0} {ps : List Pair} {r : R0} :
    SeqK g inp rest acc (.ok s1 ps) r ↔ ∃ r2, SkipC g inp s1 r2 ∧
      (match r2 with
       | .ok s2 tps => SeqC g inp rest s2 (acc ++ ps ++ tps) r
       | .fail => SeqC g inp rest s1 (acc ++ ps) r
       | _ => r = r2) := by
  simp only [SeqK, h, Bool.false_eq_true, ↓reduceIte]

theorem seqK_block {B cs : List Expr} (hB : B.isEmpty = false)
    (ih : ∀ s acc P r, SeqC g inp (B ++ cs) s (acc ++ P) r ↔
      ∃ rb, SeqC g inp B s P rb ∧ SeqK g inp cs acc rb r) {acc P : List Pair} {r1 r : R0} :
    SeqK g inp (B ++ cs) (acc ++ P) r1 r ↔ ∃ rb, SeqK g inp B P r1 rb ∧ SeqK g inp cs acc rb r := by
  cases r1 with
  | ok s1 ps =>
    have hne : (B ++ cs).isEmpty = false := by
      cases B with
      | nil => cases hB
      | cons _ _ => rfl
    simp only [seqK_ok hne, seqK_ok hB, List.append_assoc]
    rw [exists_assoc]
    apply exists_congr
    intro r2
    apply and_congr_right
    intro _
    cases r2 with
    | ok _ _ | fail => exact ih _ _ _ _
    | stuck | oof => simp only [exists_eq_left]; exact Iff.rfl
  | fail | stuck | oof => exact ⟨fun h => ⟨_, rfl, h⟩, fun ⟨_, h1, h2⟩ => by cases h1; exact h2⟩

/-- a non-empty block `b :: bs` inside a sequence behaves like one element whose answer is the
    block's answer; `P` = the pairs collected inside the block so far -/
theorem seqC_block_acc (b : Expr) (bs cs : List Expr) :
    ∀ (s : S0) (acc P : List Pair) (r : R0),
      SeqC g inp ((b :: bs) ++ cs) s (acc ++ P) r ↔
        ∃ rb, SeqC g inp (b :: bs) s P rb ∧ SeqK g inp cs acc rb r := by
  induction bs generalizing b with
  | nil =>
    intro s acc P r
    simp only [List.cons_append, List.nil_append, seqC_cons, seqK_nil]
    rw [exists_assoc]
    simp only [exists_eq_left, seqK_prepend]
  | cons b2 bs ih =>
    intro s acc P r
    rw [List.cons_append]
    simp only [seqC_cons]
    rw [exists_assoc]
    apply exists_congr
    intro r1
    apply and_congr_right
    intro _
    exact seqK_block rfl (ih b2)

theorem seqC_block (b : Expr) (bs cs : List Expr) (s : S0) (acc : List Pair) (r : R0) :
    SeqC g inp ((b :: bs) ++ cs) s acc r ↔
      ∃ rb, SeqC g inp (b :: bs) s [] rb ∧ SeqK g inp cs acc rb r := by
  have h := seqC_block_acc (g := g) (inp := inp) b bs cs s acc [] r
  rwa [List.append_nil] at h

theorem seqC_congr_right {X Y : List Expr} (hE : X.isEmpty = Y.isEmpty)
    (h : ∀ s acc r, SeqC g inp X s acc r ↔ SeqC g inp Y s acc r) :
    ∀ (as : List Expr) (s : S0) (acc : List Pair) (r : R0),
      SeqC g inp (as ++ X) s acc r ↔ SeqC g inp (as ++ Y) s acc r := by
  intro as
  induction as with
  | nil => intro s acc r; exact h s acc r
  | cons a as ih =>
    intro s acc r
    simp only [List.cons_append, seqC_cons]
    apply exists_congr
    intro r1
    apply and_congr_right
    intro _
    apply seqK_congr
    · cases as <;> simp [hE]
    · exact ih

/-! ### choices -/

def ChoiceK (g : Grammar) (inp : Input) (rest : List Expr) (s : S0) (r1 r : R0) : Prop :=
  match r1 with
  | .fail => ChoiceC g inp rest s r
  | _ => r = r1

theorem choiceC_nil {s : S0} {r : R0} : ChoiceC g inp [] s r ↔ r = .fail := by
  constructor
  · rintro ⟨_, h, _⟩; exact h.symm
  · rintro rfl; exact ⟨0, rfl, by simp⟩

theorem choiceC_cons {e : Expr} {rest : List Expr} {s : S0} {r : R0} :
    ChoiceC g inp (e :: rest) s r ↔ ∃ r1, Conv g inp e s r1 ∧ ChoiceK g inp rest s r1 r := by
  simp only [← big_conv, ← big_choice]
  constructor
  · intro h
    cases h with
    | @choiceStop _ _ _ r h hne => cases r with | fail => exact absurd rfl hne | _ => exact ⟨_, h, rfl⟩
    | choiceNext h1 h2 => exact ⟨_, h1, big_choice.1 h2⟩
  · rintro ⟨r1, h1, hk⟩
    cases r1 with
    | fail => exact .choiceNext h1 (big_choice.2 hk)
    | oof => exact absurd rfl h1.ne_oof
    | _ => cases hk; exact .choiceStop h1 R0.noConfusion

theorem choiceC_single {e : Expr} {s : S0} {r : R0} : ChoiceC g inp [e] s r ↔ Conv g inp e s r := by
  rw [choiceC_cons]
  constructor
  · rintro ⟨r1, h1, hk⟩
    cases r1 <;> simp [ChoiceK, choiceC_nil] at hk <;> subst hk <;> exact h1
  · intro h
    refine ⟨r, h, ?_⟩
    cases r <;> simp [ChoiceK, choiceC_nil]

theorem choiceK_congr {A B : List Expr} {s : S0} (h : ∀ r, ChoiceC g inp A s r ↔ ChoiceC g inp B s r)
    {r1 r : R0} : ChoiceK g inp A s r1 r ↔ ChoiceK g inp B s r1 r := by
  cases r1 <;> simp only [ChoiceK, h]

theorem choiceC_append {as bs : List Expr} {s : S0} :
    ∀ {r : R0}, ChoiceC g inp (as ++ bs) s r ↔ ∃ r1, ChoiceC g inp as s r1 ∧ ChoiceK g inp bs s r1 r := by
  induction as with
  | nil =>
    intro r
    simp only [List.nil_append, choiceC_nil]
    constructor
    · intro h; exact ⟨.fail, rfl, h⟩
    · rintro ⟨r1, rfl, h⟩; exact h
  | cons a as ih =>
    intro r
    simp only [List.cons_append, choiceC_cons]
    constructor
    · rintro ⟨ra, ha, hk⟩
      cases ra with
      | fail =>
        simp only [ChoiceK] at hk
        obtain ⟨r1, h1, hk1⟩ := ih.1 hk
        exact ⟨r1, ⟨.fail, ha, h1⟩, hk1⟩
      | ok s1 ps => simp only [ChoiceK] at hk; subst hk; exact ⟨_, ⟨_, ha, rfl⟩, rfl⟩
      | stuck => simp only [ChoiceK] at hk; subst hk; exact ⟨_, ⟨_, ha, rfl⟩, rfl⟩
      | oof => exact absurd rfl ha.ne
    · rintro ⟨r1, ⟨ra, ha, hk1⟩, hk⟩
      refine ⟨ra, ha, ?_⟩
      cases ra with
      | fail => simp only [ChoiceK] at hk1 ⊢; exact ih.2 ⟨r1, hk1, hk⟩
      | ok s1 ps => simp only [ChoiceK] at hk1 ⊢; subst hk1; simpa [ChoiceK] using hk
      | stuck => simp only [ChoiceK] at hk1 ⊢; subst hk1; simpa [ChoiceK] using hk
      | oof => exact absurd rfl ha.ne

theorem choiceC_congr_right {X Y as : List Expr} {s : S0} (h : ∀ r, ChoiceC g inp X s r ↔ ChoiceC g inp Y s r)
    {r : R0} : ChoiceC g inp (as ++ X) s r ↔ ChoiceC g inp (as ++ Y) s r := by
  rw [choiceC_append, choiceC_append]
  apply exists_congr
  intro r1
  apply and_congr_right
  intro _
  exact choiceK_congr h

/-! ### the laws -/

def EquivAt (g : Grammar) (inp : Input) (e e' : Expr) : Prop :=
  ∀ (s : S0) (r : R0), Conv g inp e s r ↔ Conv g inp e' s r

theorem EquivAt.refl (e : Expr) : EquivAt g inp e e := fun _ _ => Iff.rfl
theorem EquivAt.symm {e e' : Expr} (h : EquivAt g inp e e') : EquivAt g inp e' e := fun s r => (h s r).symm
theorem EquivAt.trans {a b c : Expr} (h1 : EquivAt g inp a b) (h2 : EquivAt g inp b c) :
    EquivAt g inp a c := fun s r => (h1 s r).trans (h2 s r)

theorem EquivE.refl (g : Grammar) (e : Expr) : EquivE g g e e := fun _ _ _ => Iff.rfl
theorem EquivE.symm {g g' : Grammar} {e e' : Expr} (h : EquivE g g' e e') : EquivE g' g e' e :=
  fun inp s r => (h inp s r).symm
theorem EquivE.trans {g1 g2 g3 : Grammar} {a b c : Expr} (h1 : EquivE g1 g2 a b) (h2 : EquivE g2 g3 b c) :
    EquivE g1 g3 a c := fun inp s r => (h1 inp s r).trans (h2 inp s r)
theorem EquivE.at {g : Grammar} {e e' : Expr} (h : EquivE g g e e') (inp : Input) : EquivAt g inp e e' :=
  h inp

/-- (1) redundant parentheses -/
theorem group_id (e : Expr) (t : Option String) : EquivAt g inp (.group e t) e := fun _ _ => conv_group

theorem seq_splice {x b : Expr} {bs : List Expr}
    (hx : ∀ s r, Conv g inp x s r ↔ SeqC g inp (b :: bs) s [] r) (as cs : List Expr) :
    EquivAt g inp (.seq (as ++ [x] ++ cs)) (.seq (as ++ (b :: bs) ++ cs)) := by
  intro s r
  rw [conv_seq, conv_seq, List.append_assoc, List.append_assoc]
  apply seqC_congr_right (by simp)
  intro s acc r
  rw [List.singleton_append, seqC_cons, seqC_block]
  simp only [hx]

theorem choice_splice {x : Expr} {bs : List Expr}
    (hx : ∀ s r, Conv g inp x s r ↔ ChoiceC g inp bs s r) (as cs : List Expr) :
    EquivAt g inp (.choice (as ++ [x] ++ cs)) (.choice (as ++ bs ++ cs)) := by
  intro s r
  rw [conv_choice, conv_choice, List.append_assoc, List.append_assoc]
  apply choiceC_congr_right
  intro r
  rw [List.singleton_append, choiceC_cons, choiceC_append]
  simp only [hx]

/-- (2) a parenthesised **non-empty** sequence inside a sequence can be flattened (and back) -/
theorem seq_assoc (as : List Expr) (b : Expr) (bs cs : List Expr) (t : Option String) :
    EquivAt g inp (.seq (as ++ [.group (.seq (b :: bs)) t] ++ cs)) (.seq (as ++ (b :: bs) ++ cs)) :=
  seq_splice (fun _ _ => conv_group.trans conv_seq) as cs

/-- (2) the same for a directly nested sequence -/
theorem seq_flatten (as : List Expr) (b : Expr) (bs cs : List Expr) :
    EquivAt g inp (.seq (as ++ [.seq (b :: bs)] ++ cs)) (.seq (as ++ (b :: bs) ++ cs)) :=
  seq_splice (fun _ _ => conv_seq) as cs

theorem seq_assoc_right (a b c : Expr) (t : Option String) :
    EquivAt g inp (.seq [a, .group (.seq [b, c]) t]) (.seq [a, b, c]) :=
  seq_assoc [a] b [c] [] t

theorem seq_assoc_left (a b c : Expr) (t : Option String) :
    EquivAt g inp (.seq [.group (.seq [a, b]) t, c]) (.seq [a, b, c]) :=
  seq_assoc [] a [b] [c] t

/-- (2') a parenthesised choice inside a choice can be flattened (also when it is empty) -/
theorem choice_assoc (as bs cs : List Expr) (t : Option String) :
    EquivAt g inp (.choice (as ++ [.group (.choice bs) t] ++ cs)) (.choice (as ++ bs ++ cs)) :=
  choice_splice (fun _ _ => conv_group.trans conv_choice) as cs

theorem choice_flatten (as bs cs : List Expr) :
    EquivAt g inp (.choice (as ++ [.choice bs] ++ cs)) (.choice (as ++ bs ++ cs)) :=
  choice_splice (fun _ _ => conv_choice) as cs

theorem choice_assoc_right (a b c : Expr) (t : Option String) :
    EquivAt g inp (.choice [a, .group (.choice [b, c]) t]) (.choice [a, b, c]) :=
  choice_assoc [a] [b, c] [] t

theorem choice_assoc_left (a b c : Expr) (t : Option String) :
    EquivAt g inp (.choice [.group (.choice [a, b]) t, c]) (.choice [a, b, c]) :=
  choice_assoc [] [a, b] [c] t

/-- (3) `(e | e) = e` -/
theorem dup_choice (e : Expr) (t : Option String) : EquivAt g inp (.group (.choice [e, e]) t) e := by
  intro s r
  rw [conv_group, conv_choice, choiceC_cons]
  constructor
  · rintro ⟨r1, h1, hk⟩
    cases r1 with
    | fail => simp only [ChoiceK] at hk; exact choiceC_single.1 hk
    | ok s1 ps => simp only [ChoiceK] at hk; subst hk; exact h1
    | stuck => simp only [ChoiceK] at hk; subst hk; exact h1
    | oof => exact absurd rfl h1.ne
  · intro h
    refine ⟨r, h, ?_⟩
    cases r with
    | fail => simp only [ChoiceK]; exact choiceC_single.2 h
    | _ => simp only [ChoiceK]

/-! ### a literal that cannot match; total trivia -/

def NeverAt (inp : Input) (x : Str) : Prop := ∀ p, startsWithAt inp x p = false

theorem neverAt_of_head {c : CP} {rest : Str} (h : ∀ i : Nat, inp[i]? ≠ some c) : NeverAt inp (c :: rest) := by
  intro p
  simp only [startsWithAt]
  cases hp : inp[p]? with
  | none => simp
  | some d =>
    by_cases hd : d = c
    · subst hd; exact absurd hp (h p)
    · simp [hd]

/-- a decidable sufficient condition for `NeverAt` -/
theorem neverAt_of_all {c : CP} {rest : Str} (h : inp.toList.all (fun d => d != c) = true) :
    NeverAt inp (c :: rest) := by
  apply neverAt_of_head
  intro i hi
  obtain ⟨hlt, he⟩ := Array.getElem?_eq_some_iff.1 hi
  have hm : c ∈ inp.toList := by rw [← he]; exact Array.mem_toList_iff.2 (Array.getElem_mem hlt)
  have := List.all_eq_true.1 h c hm
  simp at this

/-- the syntactic condition of the property text: the first character of `x` does not occur
    in `inp` -/
def NeverIn (x : Str) (inp : Input) : Prop := ∃ c rest, x = c :: rest ∧ ∀ i : Nat, inp[i]? ≠ some c

theorem NeverIn.neverAt {x : Str} (h : NeverIn x inp) : NeverAt inp x := by
  obtain ⟨c, rest, rfl, hc⟩ := h
  exact neverAt_of_head hc

theorem conv_never {x : Str} (hx : NeverAt inp x) {s : S0} {r : R0} :
    Conv g inp (.str x) s r ↔ r = .fail := by
  rw [conv_str, hx s.pos]; simp

/-- the answer of `… ~ NEVER` once trivia after `…` answered `r2` -/
def failOr : R0 → R0
  | .ok _ _ => .fail
  | r => r

theorem seqC_never {x : Str} (hx : NeverAt inp x) {s : S0} {A : List Pair} {r : R0} :
    SeqC g inp [.str x] s A r ↔ r = .fail := by
  rw [seqC_cons]
  constructor
  · rintro ⟨r1, h1, hk⟩
    rw [conv_never hx] at h1; subst h1
    simpa [SeqK] using hk
  · rintro rfl
    exact ⟨.fail, (conv_never hx).2 rfl, by simp [SeqK]⟩

theorem seqK_never {x : Str} (hx : NeverAt inp x) {acc : List Pair} {s1 : S0} {ps : List Pair} {r1 : R0} :
    SeqK g inp [.str x] acc (.ok s1 ps) r1 ↔ ∃ r2, SkipC g inp s1 r2 ∧ r1 = failOr r2 := by
  rw [seqK_ok rfl]
  apply exists_congr
  intro r2
  cases r2 <;> simp only [seqC_never hx, failOr]

/-- `(a ~ NEVER) | e`, with redundant parentheses as the rewrite writes them -/
theorem conv_guard {a e : Expr} {x : Str} {t1 t2 : Option String} {s : S0} {r : R0} :
    Conv g inp (.group (.choice [.group (.seq [a, .str x]) t1, e]) t2) s r ↔
      ∃ r1, (∃ ra, Conv g inp a s ra ∧ SeqK g inp [.str x] [] ra r1) ∧
        (match r1 with | .fail => Conv g inp e s r | _ => r = r1) := by
  rw [conv_group, conv_choice, choiceC_cons]
  apply exists_congr
  intro r1
  rw [conv_group, conv_seq, seqC_cons]
  apply and_congr_right
  intro _
  cases r1 <;> simp only [ChoiceK, choiceC_single]

/-- implicit trivia at `s` answers (does not diverge) and does not hit an undefined rule -/
def SkipOK (g : Grammar) (inp : Input) (s : S0) : Prop := ∃ r2, SkipC g inp s r2 ∧ r2 ≠ .stuck

/-- implicit trivia answers from every state.  It holds (`triviaTotal_of_progress`) of a grammar
    without a fused SKIP whose WHITESPACE / COMMENT rules are `TryProgress`; pest's own validator
    demands of trivia rules that they reference only defined rules, cannot match the empty string
    in a loop and are not left-recursive. -/
def TriviaTotal (g : Grammar) (inp : Input) : Prop := ∀ s, SkipOK g inp s

theorem skipOK_of_atomic {s : S0} (h : s.atomic = true) : SkipOK g inp s :=
  ⟨.ok s [], ⟨0, skip_of_atomic h, R0.noConfusion⟩, R0.noConfusion⟩

def TryProgress (g : Grammar) (inp : Input) (rl : Option Rule) : Prop :=
  ∀ s, ∃ r, Big g inp (.attempt rl) s r ∧
    (match r with
     | .ok s' _ => s.pos < s'.pos ∧ s'.pos ≤ inp.size
     | .fail => True
     | _ => False)

theorem tryProgress_none : TryProgress g inp none :=
  fun _ => ⟨.fail, .attemptNone, trivial⟩

theorem tryProgress_str (rl : Rule) (c : CP) (cs : Str) (hb : rl.body = .str (c :: cs)) :
    TryProgress g inp (some rl) := by
  intro s
  have h1 := (conv_str (g := g) (inp := inp) (x := c :: cs)
    (s := { s with atomic := ruleAtomic rl.name rl.mod s.atomic })).2 rfl
  rw [← hb, ← big_conv] at h1
  have h2 := Big.attemptSome (Big.rule h1)
  by_cases hm : startsWithAt inp (c :: cs) s.pos = true
  · obtain ⟨ps, hw⟩ := ruleWrap_ok rl.name rl.mod s
      (adv { s with atomic := ruleAtomic rl.name rl.mod s.atomic } (c :: cs).length) []
    simp only [hm, ↓reduceIte, wrapK, hw] at h2
    refine ⟨_, h2, ?_⟩
    have := Prim.startsWithAt_le hm
    simp only [List.length_cons] at this
    simp only [adv, List.length_cons]; omega
  · simp only [hm, Bool.false_eq_true, ↓reduceIte, wrapK] at h2
    exact ⟨_, h2, trivial⟩

/-- the loop ends because every round consumes input: `Big.loop_answers`, where no attempt is stuck -/
theorem skipLoop_total {ws cm : Option Rule} (hws : TryProgress g inp ws) (hcm : TryProgress g inp cm)
    (s : S0) (acc : List Pair) : ∃ s' ps, Big g inp (.loop ws cm acc) s (.ok s' ps) := by
  obtain ⟨r, h, hf, hst⟩ := Big.loop_answers (I := fun _ => True) (S := False)
    (fun ro ho s _ => by
      have hp : TryProgress g inp ro := by
        rcases ho with rfl | rfl
        · exact hws
        · exact hcm
      obtain ⟨r, h, p⟩ := hp s
      refine ⟨r, h, ?_, ?_⟩
      · rintro rfl; exact p
      · rintro s1 ps rfl; exact ⟨p.1, p.2, trivial⟩)
    (inp.size - s.pos) s acc (Nat.le_refl _) trivial
  cases r with
  | ok s' ps => exact ⟨s', ps, h⟩
  | fail => exact absurd rfl hf
  | stuck => exact (hst rfl).elim
  | oof => exact absurd rfl h.ne_oof

theorem triviaTotal_of_progress (hf : g.fusedSkip = none)
    (hws : TryProgress g inp (g.lookup "WHITESPACE")) (hcm : TryProgress g inp (g.lookup "COMMENT")) :
    TriviaTotal g inp := by
  intro s
  cases ha : s.atomic with
  | true => exact skipOK_of_atomic ha
  | false =>
    cases hn : ((g.lookup "WHITESPACE").isNone && (g.lookup "COMMENT").isNone) with
    | true => exact ⟨.ok s [], ⟨0, skip_of_noTrivia hf hn, R0.noConfusion⟩, R0.noConfusion⟩
    | false =>
      obtain ⟨s', ps, hl⟩ := skipLoop_total hws hcm s []
      exact ⟨.ok s' ps, big_skip.1 (.skipLoop ha hf hn hl), R0.noConfusion⟩

theorem triviaTotal_of_none (h1 : g.fusedSkip = none) (h2 : g.lookup "WHITESPACE" = none)
    (h3 : g.lookup "COMMENT" = none) : TriviaTotal g inp :=
  triviaTotal_of_progress h1 (h2 ▸ tryProgress_none) (h3 ▸ tryProgress_none)

/-- (4), exact form: what `(e ~ NEVER) | e` means in terms of `e` and the trivia after it -/
theorem never_seq_fwd {e : Expr} {x : Str} (hx : NeverAt inp x) {t1 t2 : Option String} {s : S0} {r : R0}
    (h : Conv g inp (.group (.choice [.group (.seq [e, .str x]) t1, e]) t2) s r) :
    Conv g inp e s r ∨
      (r = .stuck ∧ ∃ s1 ps, Conv g inp e s (.ok s1 ps) ∧ SkipC g inp s1 .stuck) := by
  obtain ⟨r1, ⟨ra, ha, hka⟩, hk⟩ := conv_guard.1 h
  cases ra with
  | ok s1 ps =>
    obtain ⟨r2, h2, rfl⟩ := (seqK_never hx).1 hka
    cases r2 with
    | ok s2 tps => exact Or.inl hk
    | fail => exact Or.inl hk
    | stuck => exact Or.inr ⟨hk, s1, ps, ha, h2⟩
    | oof => exact absurd rfl h2.ne
  | fail => simp only [SeqK] at hka; subst hka; exact Or.inl hk
  | stuck => simp only [SeqK] at hka; subst hka; simp only [] at hk; subst hk; exact Or.inl ha
  | oof => exact absurd rfl ha.ne

theorem never_seq_bwd {e : Expr} {x : Str} (hx : NeverAt inp x) (t1 t2 : Option String) {s : S0} {r : R0}
    (h : Conv g inp e s r) (hs : ∀ s1 ps, r = .ok s1 ps → SkipOK g inp s1) :
    Conv g inp (.group (.choice [.group (.seq [e, .str x]) t1, e]) t2) s r := by
  rw [conv_guard]
  cases r with
  | ok s1 ps =>
    obtain ⟨r2, h2, hne⟩ := hs s1 ps rfl
    refine ⟨.fail, ⟨_, h, (seqK_never hx).2 ⟨r2, h2, ?_⟩⟩, h⟩
    cases r2 with
    | stuck => exact absurd rfl hne
    | oof => exact absurd rfl h2.ne
    | _ => rfl
  | fail => exact ⟨.fail, ⟨_, h, by simp [SeqK]⟩, h⟩
  | stuck => exact ⟨.stuck, ⟨_, h, by simp [SeqK]⟩, rfl⟩
  | oof => exact absurd rfl h.ne

/-- (4) `(e ~ NEVER) | e = e` when implicit trivia is total -/
theorem never_seq (e : Expr) {x : Str} (hx : NeverAt inp x) (ht : TriviaTotal g inp) (t1 t2 : Option String) :
    EquivAt g inp (.group (.choice [.group (.seq [e, .str x]) t1, e]) t2) e := by
  intro s r
  constructor
  · intro h
    rcases never_seq_fwd hx h with h' | ⟨_, s1, _, _, h2⟩
    · exact h'
    · obtain ⟨r2, h2', hne⟩ := ht s1
      exact absurd (h2.det h2').symm hne
  · intro h; exact never_seq_bwd hx t1 t2 h (fun s1 _ _ => ht s1)

/-- (5), exact form -/
theorem never_notpred_fwd {e : Expr} {x : Str} (hx : NeverAt inp x) {t1 t2 : Option String} {s : S0} {r : R0}
    (h : Conv g inp (.group (.choice [.group (.seq [.notP e, .str x]) t1, e]) t2) s r) :
    Conv g inp e s r ∨ (r = .stuck ∧ Conv g inp e s .fail ∧ SkipC g inp s .stuck) := by
  obtain ⟨r1, ⟨ra, ha, hka⟩, hk⟩ := conv_guard.1 h
  obtain ⟨r0, h0, rfl⟩ := conv_notP.1 ha
  cases r0 with
  | ok s1 ps => simp only [notK, SeqK] at hka; subst hka; exact Or.inl hk
  | fail =>
    simp only [notK] at hka
    obtain ⟨r2, h2, rfl⟩ := (seqK_never hx).1 hka
    cases r2 with
    | ok s2 tps => exact Or.inl hk
    | fail => exact Or.inl hk
    | stuck => exact Or.inr ⟨hk, h0, h2⟩
    | oof => exact absurd rfl h2.ne
  | stuck => simp only [notK, SeqK] at hka; subst hka; simp only [] at hk; subst hk; exact Or.inl h0
  | oof => exact absurd rfl h0.ne

theorem never_notpred_bwd {e : Expr} {x : Str} (hx : NeverAt inp x) (t1 t2 : Option String) {s : S0} {r : R0}
    (h : Conv g inp e s r) (hs : r = .fail → SkipOK g inp s) :
    Conv g inp (.group (.choice [.group (.seq [.notP e, .str x]) t1, e]) t2) s r := by
  rw [conv_guard]
  cases r with
  | ok s1 ps =>
    exact ⟨.fail, ⟨_, conv_notP.2 ⟨_, h, rfl⟩, by simp [notK, SeqK]⟩, h⟩
  | fail =>
    obtain ⟨r2, h2, hne⟩ := hs rfl
    refine ⟨.fail, ⟨_, conv_notP.2 ⟨_, h, rfl⟩, ?_⟩, h⟩
    simp only [notK]
    refine (seqK_never hx).2 ⟨r2, h2, ?_⟩
    cases r2 with
    | stuck => exact absurd rfl hne
    | oof => exact absurd rfl h2.ne
    | _ => rfl
  | stuck => exact ⟨.stuck, ⟨_, conv_notP.2 ⟨_, h, rfl⟩, by simp [notK, SeqK]⟩, rfl⟩
  | oof => exact absurd rfl h.ne

/-- (5) `(!e ~ NEVER) | e = e` when implicit trivia is total -/
theorem never_notpred (e : Expr) {x : Str} (hx : NeverAt inp x) (ht : TriviaTotal g inp)
    (t1 t2 : Option String) :
    EquivAt g inp (.group (.choice [.group (.seq [.notP e, .str x]) t1, e]) t2) e := by
  intro s r
  constructor
  · intro h
    rcases never_notpred_fwd hx h with h' | ⟨_, _, h2⟩
    · exact h'
    · obtain ⟨r2, h2', hne⟩ := ht s
      exact absurd (h2.det h2').symm hne
  · intro h; exact never_notpred_bwd hx t1 t2 h (fun _ => ht s)

theorem silent_rule_inline {nm : String} {rl : Rule} (hl : g.lookup nm = some rl)
    (hS : hasBit rl.mod SILENT = true) (hA : hasBit rl.mod ATOMIC = false)
    (hC : hasBit rl.mod COMPOUND = false) (hN : hasBit rl.mod NONATOMIC = false)
    (hT : L1.isTriviaName rl.name = false) (t : Option String) :
    EquivAt g inp (.ident nm t) rl.body := by
  intro s r
  rw [conv_ident, hl]
  simp only []
  rw [ruleC_iff]
  have ha : ruleAtomic rl.name rl.mod s.atomic = s.atomic := by simp [ruleAtomic, hA, hC, hN, hT]
  rw [ha]
  -- the wrapper puts the caller's flag back (`wrapK_silent`), which the body has kept
  have hw : ∀ r1, Conv g inp rl.body s r1 → wrapK rl.name rl.mod s r1 = r1 := by
    intro r1 h1
    rw [wrapK_silent hS]
    cases r1 with
    | ok s1 ps => rw [reflag, ← h1.atomic]
    | _ => rfl
  constructor
  · rintro ⟨r1, h1, rfl⟩
    rw [hw r1 h1]
    exact h1
  · intro h
    exact ⟨r, h, (hw r h).symm⟩

/-! ### simulation -/

/-- **Simulation.**  `Q a` relates expressions of `g` to expressions of `g'`, both run from states
    with flag `a`.  If the trivia rules are related and every related pair is either known to be
    simulated or has, up to an implication inside the target grammar, the same top node over
    related parts (`CongA`), then what `x` answers in `g`, every related `x'` answers in `g'`:
    induction on `g`'s fuel with `step_sim` (Lemmas/BigSim.lean) as the step. -/
theorem conv_sim {g' : Grammar} {Q : Bool → Expr → Expr → Prop} (hu : g'.usets = g.usets) (hsk : SkipRel g g' Q)
    (hstep : ∀ a x x'', Q a x x'' →
      (∀ s r, s.atomic = a → Conv g inp x s r → Conv g' inp x'' s r) ∨
      (∃ x', CongA g g' Q a x x' ∧ ∀ s r, s.atomic = a → Conv g' inp x' s r → Conv g' inp x'' s r))
    {x x' : Expr} {s : S0} {r : R0} (hq : Q s.atomic x x') (hc : Conv g inp x s r) : Conv g' inp x' s r := by
  have key : ∀ n, RecSim g' inp Q (fun _ => True) (run g inp n) := by
    intro n
    induction n with
    | zero => intro x x' _ r _ _ h hne; exact absurd h.symm hne
    | succ n ih =>
      intro x x'' s r hq _ h hne
      rcases hstep _ x x'' hq with hb | ⟨x', hst, himp⟩
      · exact big_conv.2 (hb s r rfl ⟨n + 1, h, hne⟩)
      · have H : StepSim g g' inp Q (fun _ => True) (run g inp n) n :=
          ⟨ih, fun _ _ hi h hne => skip_sim ih (fun _ _ => trivial) hsk hi h hne, fun _ _ => trivial⟩
        exact big_conv.2 (himp s r rfl (big_conv.1 (step_sim hu H hst trivial h hne)))
  obtain ⟨n, h, hne⟩ := hc
  exact big_conv.1 (key n x x' s r hq trivial h hne)

def RuleRel (Q : Expr → Expr → Prop) : Option Rule → Option Rule → Prop
  | none, none => True
  | some r, some r' => r.name = r'.name ∧ r.mod = r'.mod ∧ Q r.body r'.body
  | _, _ => False

/-- `x` (run in `g`) and `x'` (run in `g'`) have the same top node, and everything one step of
    the semantics hands to the recursive call is related by `Q` -/
inductive Struct (g g' : Grammar) (Q : Expr → Expr → Prop) : Expr → Expr → Prop
  | leaf {x} : isLeaf x = true → Struct g g' Q x x
  | ident {n n' t t'} : RuleRel Q (g.lookup n) (g'.lookup n') → Struct g g' Q (.ident n t) (.ident n' t')
  | rule {n m sm sm' b b'} : Q b b' → Struct g g' Q (.rule n m sm b) (.rule n m sm' b')
  | seq {es es'} : ListRel2 Q es es' → Struct g g' Q (.seq es) (.seq es')
  | choice {es es'} : ListRel2 Q es es' → Struct g g' Q (.choice es) (.choice es')
  | opt {e e'} : Q e e' → Struct g g' Q (.opt e) (.opt e')
  | rep {e e'} : Q e e' → Struct g g' Q (.rep e) (.rep e')
  | rep1 {e e'} : Q e e' → Q (.rep e) (.rep e') → Struct g g' Q (.rep1 e) (.rep1 e')
  | repExact {e e' n} : Q e e' → Struct g g' Q (.repExact e n) (.repExact e' n)
  | repMin {e e' n} : Q e e' → Q (.rep e) (.rep e') → Struct g g' Q (.repMin e n) (.repMin e' n)
  | repMax {e e' n} : Q (.opt e) (.opt e') → Struct g g' Q (.repMax e n) (.repMax e' n)
  | repMinMax {e e' m n} : Q e e' → Q (.opt e) (.opt e') →
      Struct g g' Q (.repMinMax e m n) (.repMinMax e' m n)
  | andP {e e'} : Q e e' → Struct g g' Q (.andP e) (.andP e')
  | notP {e e'} : Q e e' → Struct g g' Q (.notP e) (.notP e')
  | group {e e' t t'} : Q e e' → Struct g g' Q (.group e t) (.group e' t')
  | push {e e'} : Q e e' → Struct g g' Q (.push e) (.push e')

/-- the hypotheses of the simulation theorem.  `step`: a related pair is either known to be
    simulated (first disjunct), or is simulated structurally up to an implication that holds
    inside the target grammar (second disjunct). -/
structure Sim (g g' : Grammar) (inp : Input) (Q : Expr → Expr → Prop) : Prop where
  usets : g'.usets = g.usets
  fused : RuleRel Q g.fusedSkip g'.fusedSkip
  ws : RuleRel Q (g.lookup "WHITESPACE") (g'.lookup "WHITESPACE")
  cm : RuleRel Q (g.lookup "COMMENT") (g'.lookup "COMMENT")
  step : ∀ x x'', Q x x'' →
    (∀ s r, Conv g inp x s r → Conv g' inp x'' s r) ∨
    (∃ x', Struct g g' Q x x' ∧ ∀ s r, Conv g' inp x' s r → Conv g' inp x'' s r)

theorem RuleRel.toA {Q : Expr → Expr → Prop} {r r' : Option Rule} (h : RuleRel Q r r') (a : Bool) :
    RuleRelA (fun _ => Q) a r r' := by
  cases r <;> cases r' <;> exact h

theorem Struct.toCongA {g g' : Grammar} {Q : Expr → Expr → Prop} {x x' : Expr} (h : Struct g g' Q x x') (a : Bool) :
    CongA g g' (fun _ => Q) a x x' := by
  cases h with
  | leaf hl => exact .leaf hl
  | ident hr => exact .ident (hr.toA a)
  | rule hq => exact .rule hq
  | seq hes => exact .seqlike rfl rfl hes
  | choice hes => exact .choice hes
  | opt hq => exact .opt hq
  | rep hq => exact .rep hq
  | rep1 hq hq' => exact .seqlike rfl rfl (.cons hq (.cons hq' .nil))
  | repExact hq => exact .seqlike rfl rfl (.replicate hq _)
  | repMin hq hq' => exact .seqlike rfl rfl ((ListRel2.replicate hq _).append (.cons hq' .nil))
  | repMax hq => exact .seqlike rfl rfl (.replicate hq _)
  | repMinMax hq hq' => exact .seqlike rfl rfl ((ListRel2.replicate hq _).append (.replicate hq' _))
  | andP hq => exact .andP hq
  | notP hq => exact .notP hq
  | group hq => exact .group hq
  | push hq => exact .push hq

/-- `conv_sim` for a relation that ignores the flag: under `Sim g g' inp Q`, whatever `x` answers
    in `g`, a `Q`-related `x'` answers in `g'` -/
theorem Sim.conv {g' : Grammar} {Q : Expr → Expr → Prop} (hS : Sim g g' inp Q) :
    ∀ {x x' : Expr}, Q x x' → ∀ {s : S0} {r : R0}, Conv g inp x s r → Conv g' inp x' s r := by
  intro x x' hq s r hc
  refine conv_sim (Q := fun _ => Q) hS.usets ⟨hS.fused.toA _, hS.ws.toA _, hS.cm.toA _⟩ (fun a u v huv => ?_) hq hc
  rcases hS.step u v huv with hb | ⟨w, hst, himp⟩
  · exact Or.inl fun s r _ => hb s r
  · exact Or.inr ⟨w, hst.toCongA a, fun s r _ => himp s r⟩

/-- the two grammars change places (for the converse direction, `cong_grammar_bwd`) -/
theorem CongA.flip {g g' : Grammar} {Q : Bool → Expr → Expr → Prop} {a : Bool} {x x' : Expr}
    (h : CongA g g' Q a x x') : CongA g' g (fun b u v => Q b v u) a x' x := by
  cases h with
  | leaf hl => exact .leaf hl
  | ident hr => exact .ident hr.flip
  | rule hq => exact .rule hq
  | seqlike hv hv' hes => exact .seqlike hv' hv hes.flip
  | choice hes => exact .choice hes.flip
  | opt hq => exact .opt hq
  | rep hq => exact .rep hq
  | andP hq => exact .andP hq
  | notP hq => exact .notP hq
  | group hq => exact .group hq
  | push hq => exact .push hq

theorem SkipRel.flip {g g' : Grammar} {Q : Bool → Expr → Expr → Prop} (h : SkipRel g g' Q) :
    SkipRel g' g (fun b u v => Q b v u) :=
  ⟨h.fused.flip, h.ws.flip, h.cm.flip⟩

/-! ### congruence: rewriting inside expressions and rule bodies -/

/-- `Cong B x x'`: `x'` is `x` with any number of sub-expressions, at any depth, replaced
    along `B` (simultaneously, not nested) -/
inductive Cong (B : Expr → Expr → Prop) : Expr → Expr → Prop
  | base {x x'} : B x x' → Cong B x x'
  | refl (x) : Cong B x x
  | rule {n m sm b b'} : Cong B b b' → Cong B (.rule n m sm b) (.rule n m sm b')
  | seq {es es'} : ListRel2 (Cong B) es es' → Cong B (.seq es) (.seq es')
  | choice {es es'} : ListRel2 (Cong B) es es' → Cong B (.choice es) (.choice es')
  | opt {e e'} : Cong B e e' → Cong B (.opt e) (.opt e')
  | rep {e e'} : Cong B e e' → Cong B (.rep e) (.rep e')
  | rep1 {e e'} : Cong B e e' → Cong B (.rep1 e) (.rep1 e')
  | repExact {e e' n} : Cong B e e' → Cong B (.repExact e n) (.repExact e' n)
  | repMin {e e' n} : Cong B e e' → Cong B (.repMin e n) (.repMin e' n)
  | repMax {e e' n} : Cong B e e' → Cong B (.repMax e n) (.repMax e' n)
  | repMinMax {e e' m n} : Cong B e e' → Cong B (.repMinMax e m n) (.repMinMax e' m n)
  | andP {e e'} : Cong B e e' → Cong B (.andP e) (.andP e')
  | notP {e e'} : Cong B e e' → Cong B (.notP e) (.notP e')
  | group {e e' t} : Cong B e e' → Cong B (.group e t) (.group e' t)
  | push {e e'} : Cong B e e' → Cong B (.push e) (.push e')

structure GrammarRel (B : Expr → Expr → Prop) (g g' : Grammar) : Prop where
  usets : g'.usets = g.usets
  rules : ∀ n, RuleRel (Cong B) (g.lookup n) (g'.lookup n)

theorem GrammarRel.refl (B : Expr → Expr → Prop) (g : Grammar) : GrammarRel B g g := by
  refine ⟨rfl, fun n => ?_⟩
  cases g.lookup n with
  | none => trivial
  | some r => exact ⟨rfl, rfl, .refl _⟩

theorem find_rel {Q : Expr → Expr → Prop} {rs rs' : List Rule} (n : String)
    (h : ListRel2 (fun r r' : Rule => r.name = r'.name ∧ r.mod = r'.mod ∧ Q r.body r'.body) rs rs') :
    RuleRel Q (rs.find? (·.name == n)) (rs'.find? (·.name == n)) := by
  induction h with
  | nil => trivial
  | @cons r r' rs rs' hr _ ih =>
    simp only [List.find?_cons, ← hr.1]
    cases (r.name == n) with
    | true => exact hr
    | false => exact ih

theorem GrammarRel.of_rules {B : Expr → Expr → Prop} {g g' : Grammar} (hu : g'.usets = g.usets)
    (h : ListRel2 (fun r r' : Rule => r.name = r'.name ∧ r.mod = r'.mod ∧ Cong B r.body r'.body) g.rules g'.rules) :
    GrammarRel B g g' :=
  ⟨hu, fun n => find_rel n h⟩

theorem GrammarRel.skipRel {B : Expr → Expr → Prop} {g g' : Grammar} (hG : GrammarRel B g g') :
    SkipRel g g' (fun _ => Cong B) :=
  ⟨fusedSkip_relA ((hG.rules _).toA _), (hG.rules _).toA _, (hG.rules _).toA _⟩

theorem GrammarRel.congA_refl {B : Expr → Expr → Prop} {g g' : Grammar} (hG : GrammarRel B g g')
    (x : Expr) (a : Bool) : CongA g g' (fun _ => Cong B) a x x :=
  .of_refl x a (fun _ c _ => .refl c) fun n _ _ => (hG.rules n).toA a

theorem Cong.congA {B : Expr → Expr → Prop} {g g' : Grammar} (hG : GrammarRel B g g')
    {x x' : Expr} (h : Cong B x x') (a : Bool) : B x x' ∨ CongA g g' (fun _ => Cong B) a x x' := by
  cases h with
  | base hb => exact Or.inl hb
  | refl => exact Or.inr (hG.congA_refl x a)
  | rule h => exact Or.inr (.rule h)
  | seq h => exact Or.inr (.seqlike rfl rfl h)
  | choice h => exact Or.inr (.choice h)
  | opt h => exact Or.inr (.opt h)
  | rep h => exact Or.inr (.rep h)
  | rep1 h => exact Or.inr (.seqlike rfl rfl (.cons h (.cons (.rep h) .nil)))
  | repExact h => exact Or.inr (.seqlike rfl rfl (.replicate h _))
  | repMin h => exact Or.inr (.seqlike rfl rfl ((ListRel2.replicate h _).append (.cons (.rep h) .nil)))
  | repMax h => exact Or.inr (.seqlike rfl rfl (.replicate (.opt h) _))
  | repMinMax h =>
    exact Or.inr (.seqlike rfl rfl ((ListRel2.replicate h _).append (.replicate (.opt h) _)))
  | andP h => exact Or.inr (.andP h)
  | notP h => exact Or.inr (.notP h)
  | group h => exact Or.inr (.group h)
  | push h => exact Or.inr (.push h)

/-- One direction asks of the `B`-pairs an implication *in the target grammar* only. -/
theorem cong_grammar_fwd {g' : Grammar} {B : Expr → Expr → Prop} (hG : GrammarRel B g g')
    (hB' : ∀ x x', B x x' → ∀ s r, Conv g' inp x s r → Conv g' inp x' s r)
    {x x' : Expr} (h : Cong B x x') {s : S0} {r : R0} (hc : Conv g inp x s r) : Conv g' inp x' s r := by
  refine conv_sim (Q := fun _ => Cong B) hG.usets hG.skipRel (fun a u v huv => Or.inr ?_) h hc
  rcases huv.congA hG a with hb | hst
  · exact ⟨u, hG.congA_refl u a, fun s r _ => hB' u v hb s r⟩
  · exact ⟨v, hst, fun _ _ _ h => h⟩

/-- The other direction asks for the converse implication *in the original grammar*.  Rewriting
    rule bodies along equivalences of the original grammar can lose termination —
    `a = _{ "x" }` ↦ `a = _{ a }` — but it cannot change an answer. -/
theorem cong_grammar_bwd {g' : Grammar} {B : Expr → Expr → Prop} (hG : GrammarRel B g g')
    (hB : ∀ x x', B x x' → ∀ s r, Conv g inp x' s r → Conv g inp x s r)
    {x x' : Expr} (h : Cong B x x') {s : S0} {r : R0} (hc : Conv g' inp x' s r) : Conv g inp x s r := by
  refine conv_sim (Q := fun _ u v => Cong B v u) hG.usets.symm hG.skipRel.flip (fun a u v huv => Or.inr ?_) h hc
  rcases huv.congA hG a with hb | hst
  · exact ⟨u, (hG.congA_refl u a).flip, fun s r _ => hB v u hb s r⟩
  · exact ⟨v, hst.flip, fun _ _ _ h => h⟩

theorem cong_grammar {g' : Grammar} {B : Expr → Expr → Prop} (hG : GrammarRel B g g')
    (hB : ∀ x x', B x x' → EquivAt g inp x x') (hB' : ∀ x x', B x x' → EquivAt g' inp x x')
    {x x' : Expr} (h : Cong B x x') (s : S0) (r : R0) : Conv g inp x s r ↔ Conv g' inp x' s r :=
  ⟨cong_grammar_fwd hG (fun a b hb s r => (hB' a b hb s r).1) h,
   cong_grammar_bwd hG (fun a b hb s r => (hB a b hb s r).2) h⟩

/-- (7) **congruence** within one grammar: equivalent parts give equivalent wholes -/
theorem cong_equiv {B : Expr → Expr → Prop} (hB : ∀ x x', B x x' → EquivAt g inp x x')
    {x x' : Expr} (h : Cong B x x') : EquivAt g inp x x' :=
  fun s r => cong_grammar (GrammarRel.refl B g) hB hB h s r

inductive Ctx where
  | hole
  | rule (n : String) (m : Nat) (sm : Bool) (C : Ctx)
  | seq (pre : List Expr) (C : Ctx) (post : List Expr)
  | choice (pre : List Expr) (C : Ctx) (post : List Expr)
  | opt (C : Ctx) | rep (C : Ctx) | rep1 (C : Ctx)
  | repExact (C : Ctx) (n : Nat) | repMin (C : Ctx) (n : Nat) | repMax (C : Ctx) (n : Nat)
  | repMinMax (C : Ctx) (m n : Nat)
  | andP (C : Ctx) | notP (C : Ctx) | group (C : Ctx) (t : Option String) | push (C : Ctx)

def Ctx.fill : Ctx → Expr → Expr
  | .hole, e => e
  | .rule n m sm C, e => .rule n m sm (C.fill e)
  | .seq pre C post, e => .seq (pre ++ [C.fill e] ++ post)
  | .choice pre C post, e => .choice (pre ++ [C.fill e] ++ post)
  | .opt C, e => .opt (C.fill e)
  | .rep C, e => .rep (C.fill e)
  | .rep1 C, e => .rep1 (C.fill e)
  | .repExact C n, e => .repExact (C.fill e) n
  | .repMin C n, e => .repMin (C.fill e) n
  | .repMax C n, e => .repMax (C.fill e) n
  | .repMinMax C m n, e => .repMinMax (C.fill e) m n
  | .andP C, e => .andP (C.fill e)
  | .notP C, e => .notP (C.fill e)
  | .group C t, e => .group (C.fill e) t
  | .push C, e => .push (C.fill e)

theorem Ctx.cong {B : Expr → Expr → Prop} {e e' : Expr} (h : B e e') (C : Ctx) :
    Cong B (C.fill e) (C.fill e') := by
  have hrefl : ∀ l : List Expr, ListRel2 (Cong B) l l := fun l => ListRel2.of_forall fun c _ => .refl c
  induction C with
  | hole => exact .base h
  | rule n m sm C ih => exact .rule ih
  | seq pre C post ih => exact .seq (((hrefl pre).append (.cons ih .nil)).append (hrefl post))
  | choice pre C post ih => exact .choice (((hrefl pre).append (.cons ih .nil)).append (hrefl post))
  | opt C ih => exact .opt ih
  | rep C ih => exact .rep ih
  | rep1 C ih => exact .rep1 ih
  | repExact C n ih => exact .repExact ih
  | repMin C n ih => exact .repMin ih
  | repMax C n ih => exact .repMax ih
  | repMinMax C m n ih => exact .repMinMax ih
  | andP C ih => exact .andP ih
  | notP C ih => exact .notP ih
  | group C t ih => exact .group ih
  | push C ih => exact .push ih

/-- (7) an equivalence may be used under any one-hole context -/
theorem equiv_in_ctx {e e' : Expr} (h : EquivAt g inp e e') (C : Ctx) :
    EquivAt g inp (C.fill e) (C.fill e') := by
  apply cong_equiv (B := fun a b => a = e ∧ b = e')
  · rintro x x' ⟨rfl, rfl⟩; exact h
  · exact C.cong ⟨rfl, rfl⟩

/-! ### whole parses -/

/-- the fuel-independent answer of `Parser.parse(start, input, k)` -/
def ParseC (g : Grammar) (inp : Input) (start : String) (k : Nat) (r : R0) : Prop :=
  ∃ fuel, parse g inp fuel start k = r ∧ r ≠ .oof

theorem parse_eq_callRule (fuel : Nat) (start : String) (k : Nat) :
    parse g inp fuel start k = callRule g (run g inp fuel) start ⟨k, [], false⟩ := by
  unfold parse callRule
  cases g.lookup start <;> rfl

theorem parseC_iff {start : String} {k : Nat} {r : R0} (t : Option String) :
    ParseC g inp start k r ↔ Conv g inp (.ident start t) ⟨k, [], false⟩ r := by
  rw [conv_succ]
  unfold ParseC
  simp only [parse_eq_callRule]
  exact Iff.rfl

def GEquiv (g g' : Grammar) (inp : Input) : Prop :=
  ∀ start k r, ParseC g inp start k r ↔ ParseC g' inp start k r

theorem GEquiv.refl (g : Grammar) (inp : Input) : GEquiv g g inp := fun _ _ _ => Iff.rfl
theorem GEquiv.symm {g g' : Grammar} (h : GEquiv g g' inp) : GEquiv g' g inp := fun a b c => (h a b c).symm
theorem GEquiv.trans {g1 g2 g3 : Grammar} (h1 : GEquiv g1 g2 inp) (h2 : GEquiv g2 g3 inp) :
    GEquiv g1 g3 inp := fun a b c => (h1 a b c).trans (h2 a b c)

/-- (7, grammar level) rewriting rule bodies along equivalences that hold in both grammars
    leaves every parse result unchanged -/
theorem cong_grammar_parse {g' : Grammar} {B : Expr → Expr → Prop} (hG : GrammarRel B g g')
    (hB : ∀ x x', B x x' → EquivAt g inp x x') (hB' : ∀ x x', B x x' → EquivAt g' inp x x') :
    GEquiv g g' inp := by
  intro start k r
  rw [parseC_iff none, parseC_iff none]
  exact cong_grammar hG hB hB' (.refl _) _ _

/-- … and along equivalences of the *original* grammar alone: the rewritten grammar may fail to
    answer (see `cong_grammar_bwd`), but what it answers the original answers -/
theorem cong_grammar_parse_bwd {g' : Grammar} {B : Expr → Expr → Prop} (hG : GrammarRel B g g')
    (hB : ∀ x x', B x x' → EquivAt g inp x x') {start : String} {k : Nat} {r : R0}
    (h : ParseC g' inp start k r) : ParseC g inp start k r := by
  rw [parseC_iff none] at h ⊢
  exact cong_grammar_bwd hG (fun a b hb s r => (hB a b hb s r).2) (.refl _) h

/-! ### extraction of a sub-expression into a fresh silent rule -/

mutual
def mentions (nm : String) : Expr → Bool
  | .ident n _ => n == nm
  | .rule _ _ _ b => mentions nm b
  | .seq es => mentionsL nm es
  | .choice es => mentionsL nm es
  | .opt e => mentions nm e
  | .rep e => mentions nm e
  | .rep1 e => mentions nm e
  | .repExact e _ => mentions nm e
  | .repMin e _ => mentions nm e
  | .repMax e _ => mentions nm e
  | .repMinMax e _ _ => mentions nm e
  | .andP e => mentions nm e
  | .notP e => mentions nm e
  | .group e _ => mentions nm e
  | .push e => mentions nm e
  | _ => false
def mentionsL (nm : String) : List Expr → Bool
  | [] => false
  | e :: es => mentions nm e || mentionsL nm es
end

theorem mentionsL_mem {nm : String} : ∀ {es : List Expr}, mentionsL nm es = false →
    ∀ c, c ∈ es → mentions nm c = false
  | [], _, c, hc => by cases hc
  | e :: es, h, c, hc => by
    simp only [mentionsL, Bool.or_eq_false_iff] at h
    rcases List.mem_cons.1 hc with rfl | hc
    · exact h.1
    · exact mentionsL_mem h.2 c hc

theorem mentions_sub {nm : String} {x c : Expr} (hs : Sub x c) (h : mentions nm x = false) :
    mentions nm c = false := by
  cases hs with
  | seq hc => exact mentionsL_mem h _ hc
  | choice hc => exact mentionsL_mem h _ hc
  | _ => exact h

def addRule (g : Grammar) (rl : Rule) : Grammar := { g with rules := g.rules ++ [rl] }

theorem lookup_addRule_ne {rl : Rule} {n : String} (h : rl.name ≠ n) :
    (addRule g rl).lookup n = g.lookup n := by
  simp [addRule, Grammar.lookup, List.find?_append, h]

theorem lookup_addRule_self {rl : Rule} (h : g.lookup rl.name = none) :
    (addRule g rl).lookup rl.name = some rl := by
  unfold Grammar.lookup at h
  simp [addRule, Grammar.lookup, List.find?_append, h]

def Unreferenced (g : Grammar) (nm : String) : Prop := ∀ rl, rl ∈ g.rules → mentions nm rl.body = false

theorem unreferenced_of_all {g : Grammar} {nm : String}
    (h : g.rules.all (fun rl => !mentions nm rl.body) = true) : Unreferenced g nm := by
  intro rl hrl
  have := List.all_eq_true.1 h rl hrl
  simpa using this

def Away (nm : String) (x x' : Expr) : Prop := x = x' ∧ mentions nm x = false

theorem away_rule_self {nm : String} (hu : Unreferenced g nm) (n : String) (a : Bool) :
    RuleRelA (fun _ => Away nm) a (g.lookup n) (g.lookup n) := by
  cases hl : g.lookup n with
  | none => trivial
  | some rl => exact ⟨rfl, rfl, rfl, hu rl (Prim.lookup_mem hl)⟩

theorem away_conv {nm : String} {g1 g2 : Grammar} (hu : g2.usets = g1.usets)
    (hl : ∀ n a, n ≠ nm → RuleRelA (fun _ => Away nm) a (g1.lookup n) (g2.lookup n))
    (h1 : nm ≠ "WHITESPACE") (h2 : nm ≠ "COMMENT") (h3 : nm ≠ "SKIP")
    {x : Expr} (hx : mentions nm x = false) {s : S0} {r : R0} (hc : Conv g1 inp x s r) : Conv g2 inp x s r := by
  refine conv_sim (Q := fun _ => Away nm) hu
    ⟨fusedSkip_relA (hl _ _ (Ne.symm h3)), hl _ _ (Ne.symm h1), hl _ _ (Ne.symm h2)⟩
    (fun a u v huv => Or.inr ?_) ⟨rfl, hx⟩ hc
  obtain ⟨rfl, hm⟩ := huv
  refine ⟨u, .of_refl u a (fun _ c hc => ⟨rfl, mentions_sub hc hm⟩) ?_, fun _ _ _ h => h⟩
  rintro n t rfl
  exact hl n a fun e => by subst e; simp [mentions] at hm

/-- (6a) adding a rule that nobody references changes nothing for expressions that do not
    mention it -/
theorem addRule_away {rl : Rule} (hu : Unreferenced g rl.name)
    (h1 : rl.name ≠ "WHITESPACE") (h2 : rl.name ≠ "COMMENT") (h3 : rl.name ≠ "SKIP")
    {x : Expr} (hx : mentions rl.name x = false) (s : S0) (r : R0) :
    Conv (addRule g rl) inp x s r ↔ Conv g inp x s r := by
  -- outside `rl.name` the two tables hold the same rules, so each side is `away_rule_self`
  have hl : ∀ n, n ≠ rl.name → (addRule g rl).lookup n = g.lookup n :=
    fun n hn => lookup_addRule_ne fun e => hn e.symm
  constructor
  · refine away_conv (g1 := addRule g rl) (g2 := g) rfl (fun n a hn => ?_) h1 h2 h3 hx
    rw [hl n hn]
    exact away_rule_self hu n a
  · refine away_conv (g1 := g) (g2 := addRule g rl) rfl (fun n a hn => ?_) h1 h2 h3 hx
    rw [hl n hn]
    exact away_rule_self hu n a

theorem silent_bits : hasBit SILENT SILENT = true ∧ hasBit SILENT ATOMIC = false ∧
    hasBit SILENT COMPOUND = false ∧ hasBit SILENT NONATOMIC = false := by decide

theorem silent_ident {g : Grammar} {nm : String} {e : Expr} {kind : RuleKind}
    (hl : g.lookup nm = some ⟨nm, SILENT, e, kind⟩) (h1 : nm ≠ "WHITESPACE") (h2 : nm ≠ "COMMENT")
    (t : Option String) : EquivAt g inp (.ident nm t) e :=
  silent_rule_inline hl silent_bits.1 silent_bits.2.1 silent_bits.2.2.1 silent_bits.2.2.2
    (by simp [L1.isTriviaName, h1, h2]) t

/-- (6b) **the fresh silent rule means what the extracted expression meant** -/
theorem extract_silent {nm : String} {e : Expr} {kind : RuleKind}
    (hfresh : g.lookup nm = none) (hu : Unreferenced g nm) (he : mentions nm e = false)
    (h1 : nm ≠ "WHITESPACE") (h2 : nm ≠ "COMMENT") (h3 : nm ≠ "SKIP") (t : Option String)
    (s : S0) (r : R0) :
    Conv (addRule g ⟨nm, SILENT, e, kind⟩) inp (.ident nm t) s r ↔ Conv g inp e s r := by
  have hl : (addRule g ⟨nm, SILENT, e, kind⟩).lookup nm = some ⟨nm, SILENT, e, kind⟩ :=
    lookup_addRule_self (rl := ⟨nm, SILENT, e, kind⟩) hfresh
  rw [silent_ident hl h1 h2 t s r]
  exact addRule_away (rl := ⟨nm, SILENT, e, kind⟩) hu h1 h2 h3 he s r

def RefTo (nm : String) (e : Expr) (x x' : Expr) : Prop := x = e ∧ ∃ t, x' = .ident nm t

/-- (6, expressions) `⟦C[e]⟧` in `g` is `⟦C[nm]⟧` in the extended grammar, for every context
    `C` (indeed for any number of replaced occurrences) that does not mention `nm` -/
theorem extract_silent_expr {nm : String} {e : Expr} {kind : RuleKind} {g2 : Grammar}
    (hfresh : g.lookup nm = none) (hu : Unreferenced g nm)
    (h1 : nm ≠ "WHITESPACE") (h2 : nm ≠ "COMMENT") (h3 : nm ≠ "SKIP")
    (hG : GrammarRel (RefTo nm e) (addRule g ⟨nm, SILENT, e, kind⟩) g2)
    (hnm : g2.lookup nm = some ⟨nm, SILENT, e, kind⟩)
    {x x' : Expr} (hx : mentions nm x = false) (hxx : Cong (RefTo nm e) x x') (s : S0) (r : R0) :
    Conv g inp x s r ↔ Conv g2 inp x' s r := by
  have hl : (addRule g ⟨nm, SILENT, e, kind⟩).lookup nm = some ⟨nm, SILENT, e, kind⟩ :=
    lookup_addRule_self (rl := ⟨nm, SILENT, e, kind⟩) hfresh
  rw [← addRule_away (rl := ⟨nm, SILENT, e, kind⟩) hu h1 h2 h3 hx s r]
  apply cong_grammar hG _ _ hxx
  · rintro x x' ⟨rfl, t, rfl⟩
    exact (silent_ident hl h1 h2 t).symm
  · rintro x x' ⟨rfl, t, rfl⟩
    exact (silent_ident hnm h1 h2 t).symm

/-- (6, complete) **extraction**: add the fresh silent rule `nm = _{ e }` and replace any
    occurrences of `e` in rule bodies (not in `nm`'s own body) by `nm`: every other start rule
    parses as before. -/
theorem extract_silent_grammar {nm : String} {e : Expr} {kind : RuleKind} {g2 : Grammar}
    (hfresh : g.lookup nm = none) (hu : Unreferenced g nm)
    (h1 : nm ≠ "WHITESPACE") (h2 : nm ≠ "COMMENT") (h3 : nm ≠ "SKIP")
    (hG : GrammarRel (RefTo nm e) (addRule g ⟨nm, SILENT, e, kind⟩) g2)
    (hnm : g2.lookup nm = some ⟨nm, SILENT, e, kind⟩)
    {start : String} (hs : start ≠ nm) (k : Nat) (r : R0) :
    ParseC g inp start k r ↔ ParseC g2 inp start k r := by
  rw [parseC_iff none, parseC_iff none]
  exact extract_silent_expr hfresh hu h1 h2 h3 hG hnm (by simp [mentions, hs]) (.refl _) _ _

/-! ### the rewrites of C08 together -/

inductive Rewrite (inp : Input) : Expr → Expr → Prop
  | paren (e : Expr) (t : Option String) : Rewrite inp e (.group e t)
  | seqAssoc (as : List Expr) (b : Expr) (bs cs : List Expr) (t : Option String) :
      Rewrite inp (.seq (as ++ (b :: bs) ++ cs)) (.seq (as ++ [.group (.seq (b :: bs)) t] ++ cs))
  | choiceAssoc (as bs cs : List Expr) (t : Option String) :
      Rewrite inp (.choice (as ++ bs ++ cs)) (.choice (as ++ [.group (.choice bs) t] ++ cs))
  | seqFlat (as : List Expr) (b : Expr) (bs cs : List Expr) :
      Rewrite inp (.seq (as ++ (b :: bs) ++ cs)) (.seq (as ++ [.seq (b :: bs)] ++ cs))
  | choiceFlat (as bs cs : List Expr) :
      Rewrite inp (.choice (as ++ bs ++ cs)) (.choice (as ++ [.choice bs] ++ cs))
  | dup (e : Expr) (t : Option String) : Rewrite inp e (.group (.choice [e, e]) t)
  | neverSeq (e : Expr) (x : Str) (t1 t2 : Option String) : NeverAt inp x →
      Rewrite inp e (.group (.choice [.group (.seq [e, .str x]) t1, e]) t2)
  | neverNot (e : Expr) (x : Str) (t1 t2 : Option String) : NeverAt inp x →
      Rewrite inp e (.group (.choice [.group (.seq [.notP e, .str x]) t1, e]) t2)
  | symm {x x' : Expr} : Rewrite inp x x' → Rewrite inp x' x

theorem Rewrite.sound (ht : TriviaTotal g inp) {x x' : Expr} (h : Rewrite inp x x') : EquivAt g inp x x' := by
  induction h with
  | paren e t => exact (group_id e t).symm
  | seqAssoc as b bs cs t => exact (seq_assoc as b bs cs t).symm
  | choiceAssoc as bs cs t => exact (choice_assoc as bs cs t).symm
  | seqFlat as b bs cs => exact (seq_flatten as b bs cs).symm
  | choiceFlat as bs cs => exact (choice_flatten as bs cs).symm
  | dup e t => exact (dup_choice e t).symm
  | neverSeq e x t1 t2 hx => exact (never_seq e hx ht t1 t2).symm
  | neverNot e x t1 t2 hx => exact (never_notpred e hx ht t1 t2).symm
  | symm _ ih => exact ih.symm

theorem rewrites_preserve_parse {g' : Grammar} (hG : GrammarRel (Rewrite inp) g g')
    (ht : TriviaTotal g inp) (ht' : TriviaTotal g' inp) : GEquiv g g' inp :=
  cong_grammar_parse hG (fun _ _ hb => hb.sound ht) (fun _ _ hb => hb.sound ht')

end L0
end Pest
