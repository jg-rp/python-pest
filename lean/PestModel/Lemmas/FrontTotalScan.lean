/-
  Lemmas/FrontTotalScan.lean — the scanner model (Front/Scan.lean) never runs out of fuel, never
  leaves through `exc`, reports its errors at positions inside the text, and emits only tokens
  whose values the grammar parser can digest (helper lemmas for Props/C11.lean).  Read
  Lemmas/FrontScanBase.lean first: the `mX_some` lemmas, the methods as `do` blocks, `Skipped`,
  `rank`/`Step` are used from there.

  Method.  `Inv N s` is the state invariant (`start ≤ pos`, `pos + |rest| = N`, every emitted
  token satisfies `TokOK N`).  `SR.Sat N Q r` reads a result: `ok a s'` must satisfy `Q a s'`,
  an error must carry a start `≤ N`, `exc`/`oof` are excluded.  `Spec N m R` is the Hoare triple
  "from a state with `Inv`, `m` ends in `Sat` with `Inv` again and the remaining lengths related
  by `R`"; `SpecLt N L m R` is the same on the states with `|rest| < L`.  One `Spec` per scanner
  method, composed from those of its steps (`Spec.then`, `SpecLt.then`, …); a regular expression
  enters through `ScanOK` (its `mX_some` and `ValOK` of the matched text).  A loop with fuel `n`,
  and `accept_expression` with fuel `n`, satisfy `SpecLt N n`, by induction on `n`; `run` goes by
  the measure `3 * |rest| + rank fn`.  Nothing here depends on the text being a valid grammar.
-/
import PestModel.Lemmas.FrontScanBase

namespace Pest
namespace Front
open Unescape (unescape)

/-! ### what the parser needs to know about token values -/

def ValOK : TK → Text → Prop
  | .number, v => IsDigits v
  | .integer, v => IsIntLit v
  | .char, v => IsCharLit v
  | _, _ => True

structure TokOK (N : Nat) (t : Token) : Prop where
  start_le : t.start ≤ N
  val : ValOK t.kind t.value

/-- scanner state invariant, `N = len(self.grammar)` -/
structure Inv (N : Nat) (s : St) : Prop where
  start_le : s.start ≤ s.pos
  len : s.pos + s.rest.length = N
  toks : ∀ t ∈ s.toks, TokOK N t

def SR.Sat {α} (N : Nat) (Q : α → St → Prop) : SR α → Prop
  | .ok a s => Q a s
  | .err _ st _ => st ≤ N
  | .exc _ => False
  | .oof => False

theorem SR.Sat.mono {α} {N : Nat} {Q Q' : α → St → Prop} {r : SR α} (h : r.Sat N Q)
    (hq : ∀ a s, Q a s → Q' a s) : r.Sat N Q' := by
  cases r with
  | ok a s => exact hq a s h
  | err k st v => exact h
  | exc n => exact h
  | oof => exact h

theorem SR.Sat.bind {α β} {N : Nat} {m : M α} {f : α → M β} {s : St} {Q : β → St → Prop}
    (h : (m s).Sat N (fun a s' => (f a s').Sat N Q)) : ((m >>= f) s).Sat N Q := by
  rw [bind_def]
  cases hm : m s with
  | ok a s' => rw [hm] at h; exact h
  | err k st v => rw [hm] at h; exact h
  | exc n => rw [hm] at h; exact h
  | oof => rw [hm] at h; exact h

theorem SR.Sat.bind' {α β} {N : Nat} {m : M α} {f : α → M β} {s : St} {P : α → St → Prop}
    {Q : β → St → Prop} (hm : (m s).Sat N P) (h : ∀ a s', P a s' → (f a s').Sat N Q) :
    ((m >>= f) s).Sat N Q :=
  SR.Sat.bind (hm.mono h)

theorem SR.Sat.ite {α} {N : Nat} {Q : α → St → Prop} {c : Prop} [Decidable c] {t e : SR α}
    (ht : c → t.Sat N Q) (he : e.Sat N Q) : (if c then t else e).Sat N Q := by
  split
  · exact ht ‹_›
  · exact he

theorem SR.Sat.pure {α} {N : Nat} {a : α} {s : St} {Q : α → St → Prop} (h : Q a s) :
    ((pure a : M α) s).Sat N Q := h

def Spec {α} (N : Nat) (m : M α) (R : α → Nat → Nat → Prop) : Prop :=
  ∀ s, Inv N s → (m s).Sat N (fun a s' => Inv N s' ∧ R a s'.rest.length s.rest.length)

abbrev RLe {α} : α → Nat → Nat → Prop := fun _ l' l => l' ≤ l
abbrev RGe {α} (k : Nat) : α → Nat → Nat → Prop := fun _ l' l => l' + k ≤ l
abbrev RB (k : Nat) : Bool → Nat → Nat → Prop := fun b l' l => l' ≤ l ∧ (b = true → l' + k ≤ l)

theorem Spec.bind {α β} {N : Nat} {m : M α} {R : α → Nat → Nat → Prop} (hm : Spec N m R)
    {s : St} (hs : Inv N s) {f : α → M β} {Q : β → St → Prop}
    (h : ∀ a s', Inv N s' → R a s'.rest.length s.rest.length → (f a s').Sat N Q) :
    ((m >>= f) s).Sat N Q :=
  SR.Sat.bind ((hm s hs).mono (fun a s' h' => h a s' h'.1 h'.2))

theorem Spec.mono {α} {N : Nat} {m : M α} {R R' : α → Nat → Nat → Prop} (hm : Spec N m R)
    (h : ∀ a l' l, R a l' l → R' a l' l) : Spec N m R' :=
  fun s hs => (hm s hs).mono (fun a _ h' => ⟨h'.1, h a _ _ h'.2⟩)

theorem Spec.toLe {α} {N : Nat} {m : M α} {k : Nat} (hm : Spec N m (RGe k)) : Spec N m RLe :=
  hm.mono (fun _ _ _ h => Nat.le_trans (Nat.le_add_right _ k) h)

theorem Spec.toLeB {N : Nat} {m : M Bool} {k : Nat} (hm : Spec N m (RB k)) : Spec N m RLe :=
  hm.mono (fun _ _ _ h => h.1)

theorem pure_spec {α} (N : Nat) (a : α) : Spec N (pure a : M α) RLe :=
  fun _ hs => ⟨hs, Nat.le_refl _⟩

theorem Inv.adv {N : Nat} {s : St} (hs : Inv N s) {n : Nat} (hn : n ≤ s.rest.length) :
    Inv N (s.adv n) ∧ (s.adv n).rest.length + n = s.rest.length := by
  have e : (s.adv n).rest.length + n = s.rest.length := by
    rw [adv_rest_length]; exact Nat.sub_add_cancel hn
  refine ⟨⟨Nat.le_trans hs.start_le (Nat.le_add_right _ _), ?_, hs.toks⟩, e⟩
  rw [← hs.len, ← e, adv_pos]
  omega

theorem Inv.emit {N : Nat} {s : St} (hs : Inv N s) {k : TK} {v : Text} (hv : ValOK k v) :
    Inv N (s.emit k v) := by
  refine ⟨Nat.le_refl _, hs.len, ?_⟩
  intro t ht
  simp only [St.emit, List.mem_cons] at ht
  rcases ht with rfl | ht
  · exact ⟨by have := hs.start_le; have := hs.len; simp only; omega, hv⟩
  · exact hs.toks t ht

theorem Inv.setStart {N : Nat} {s : St} (hs : Inv N s) : Inv N { s with start := s.pos } :=
  ⟨Nat.le_refl _, hs.len, hs.toks⟩

theorem Inv.start_le_len {N : Nat} {s : St} (hs : Inv N s) : s.start ≤ N :=
  hs.len ▸ Nat.le_trans hs.start_le (Nat.le_add_right _ _)

theorem error_sat {α} {N : Nat} {s : St} (hs : Inv N s) (k : EK) (Q : α → St → Prop) :
    ((error k : M α) s).Sat N Q :=
  hs.start_le_len

variable {N : Nat}

theorem Inv.skipTrivia {s : St} (hs : Inv N s) : Inv N (skipTrivia s) :=
  (skipTriviaN_spec _ s (Nat.lt_succ_self _)).2.2 (Inv N) (fun _ _ hn h => (h.adv hn).1.setStart) hs

def SpecLt {α} (N L : Nat) (m : M α) (R : α → Nat → Nat → Prop) : Prop :=
  ∀ s, Inv N s → s.rest.length < L →
    (m s).Sat N (fun a s' => Inv N s' ∧ R a s'.rest.length s.rest.length)

section seq
variable {α β : Type} {L : Nat} {m : M α} {f : α → M β}

theorem SpecLt.zero {R : α → Nat → Nat → Prop} : SpecLt N 0 m R :=
  fun _ _ h => absurd h (Nat.not_lt_zero _)

theorem Spec.lt {R : α → Nat → Nat → Prop} (h : Spec N m R) : SpecLt N L m R :=
  fun s hs _ => h s hs

theorem SpecLt.weaken {R : α → Nat → Nat → Prop} {L' : Nat} (h : SpecLt N L m R) (hl : L' ≤ L) :
    SpecLt N L' m R :=
  fun s hs hlt => h s hs (Nat.lt_of_lt_of_le hlt hl)

theorem SpecLt.sized {R : α → Nat → Nat → Prop} {m : Nat → M α} (h : ∀ n, SpecLt N n (m n) R) :
    Spec N (fun s => m (s.rest.length + 1) s) R :=
  fun s hs => h _ s hs (Nat.lt_succ_self _)

theorem SpecLt.bind {L' : Nat} {R₁ : α → Nat → Nat → Prop} {R₂ R : β → Nat → Nat → Prop}
    (hm : SpecLt N L m R₁) (hf : ∀ a, SpecLt N L' (f a) R₂)
    (hL : ∀ a l₁ l₀, l₀ < L → R₁ a l₁ l₀ → l₁ < L')
    (hR : ∀ a b l₂ l₁ l₀, R₁ a l₁ l₀ → R₂ b l₂ l₁ → R b l₂ l₀) : SpecLt N L (m >>= f) R :=
  fun s hs hl => SR.Sat.bind ((hm s hs hl).mono fun a _ h₁ =>
    (hf a _ h₁.1 (hL a _ _ hl h₁.2)).mono fun b _ h₂ => ⟨h₂.1, hR a b _ _ _ h₁.2 h₂.2⟩)

theorem SpecLt.then (hm : SpecLt N L m RLe) (hf : ∀ a, SpecLt N L (f a) RLe) :
    SpecLt N L (m >>= f) RLe :=
  hm.bind hf (fun _ _ _ h h₁ => Nat.lt_of_le_of_lt h₁ h) (fun _ _ _ _ _ h₁ h₂ => Nat.le_trans h₂ h₁)

theorem SpecLt.then1 (hm : SpecLt N (L + 1) m (RGe 1)) (hf : ∀ a, SpecLt N L (f a) RLe) :
    SpecLt N (L + 1) (m >>= f) RLe :=
  hm.bind hf (fun _ _ _ h h₁ => Nat.lt_of_succ_lt_succ (Nat.lt_of_le_of_lt h₁ h))
    (fun _ _ _ _ _ h₁ h₂ => Nat.le_trans h₂ (Nat.le_of_succ_le h₁))

theorem SpecLt.on (hm : SpecLt N L m RLe) {s₁ s : St} (h₁ : Inv N s₁) (hL : s₁.rest.length < L)
    (hle : s₁.rest.length ≤ s.rest.length) :
    (m s₁).Sat N (fun a s' => Inv N s' ∧ RLe a s'.rest.length s.rest.length) :=
  (hm s₁ h₁ hL).mono fun _ _ h => ⟨h.1, Nat.le_trans h.2 hle⟩

theorem SpecLt.next (hm : SpecLt N L m RLe) {s₁ s : St} (h₁ : Inv N s₁)
    (hlt : s₁.rest.length < s.rest.length) (hL : s.rest.length < L + 1) :
    (m s₁).Sat N (fun a s' => Inv N s' ∧ RLe a s'.rest.length s.rest.length) :=
  hm.on h₁ (by omega) (Nat.le_of_lt hlt)

theorem Spec.thenR {R : β → Nat → Nat → Prop} (hm : Spec N m RLe)
    (hR : ∀ {b l₂ l₁ l₀}, l₁ ≤ l₀ → R b l₂ l₁ → R b l₂ l₀) (hf : ∀ a, Spec N (f a) R) :
    Spec N (m >>= f) R :=
  fun _ hs => hm.bind hs fun a _ hs₁ h₁ => (hf a _ hs₁).mono fun _ _ h₂ => ⟨h₂.1, hR h₁ h₂.2⟩

theorem Spec.then (hm : Spec N m RLe) (hf : ∀ a, Spec N (f a) RLe) : Spec N (m >>= f) RLe :=
  hm.thenR (fun h₁ h₂ => Nat.le_trans h₂ h₁) hf

theorem SpecLt.ite {R : α → Nat → Nat → Prop} {c : Prop} [Decidable c] {t e : M α}
    (ht : SpecLt N L t R) (he : SpecLt N L e R) : SpecLt N L (if c then t else e) R := by
  split
  · exact ht
  · exact he

theorem Spec.ite {R : α → Nat → Nat → Prop} {c : Prop} [Decidable c] {t e : M α}
    (ht : Spec N t R) (he : Spec N e R) : Spec N (if c then t else e) R := by
  split
  · exact ht
  · exact he

theorem SpecLt.thenB {m : M Bool} {t e : M β} (hm : SpecLt N (L + 1) m (RB 1))
    (ht : SpecLt N L t RLe) (he : SpecLt N (L + 1) e RLe) :
    SpecLt N (L + 1) (m >>= fun b => if b = true then t else e) RLe := by
  refine fun s hs hl => SR.Sat.bind ((hm s hs hl).mono fun b s₁ h₁ => ?_)
  cases b
  · exact (he s₁ h₁.1 (Nat.lt_of_le_of_lt h₁.2.1 hl)).mono
      fun _ _ h₂ => ⟨h₂.1, Nat.le_trans h₂.2 h₁.2.1⟩
  · have := h₁.2.2 rfl
    exact (ht s₁ h₁.1 (by omega)).mono fun _ _ h₂ => ⟨h₂.1, Nat.le_trans h₂.2 h₁.2.1⟩

end seq

theorem triv_spec : Spec N triv RLe :=
  fun s hs => ⟨hs.skipTrivia, skipTrivia_len s⟩

def ScanOK (m : Text → Option Nat) (kind : TK) (k : Nat) : Prop :=
  ∀ t n, m t = some n → k ≤ n ∧ n ≤ t.length ∧ ValOK kind (t.take n)

theorem Inv.adv_emit {s : St} (hs : Inv N s) {n : Nat} (hn : n ≤ s.rest.length)
    {kind : TK} {v : Text} (hv : ValOK kind v) :
    Inv N ((s.adv n).emit kind v) ∧ ((s.adv n).emit kind v).rest.length + n = s.rest.length :=
  ⟨(hs.adv hn).1.emit hv, (hs.adv hn).2⟩

theorem scanEmit_spec {m : Text → Option Nat} {kind : TK} {k : Nat} (hm : ScanOK m kind k)
    : Spec N (scanEmit m kind) (RB k) := by
  intro s hs
  unfold scanEmit
  cases h : m s.rest with
  | none => exact ⟨hs, Nat.le_refl _, fun h => by cases h⟩
  | some n =>
    obtain ⟨h1, h2, h3⟩ := hm _ _ h
    obtain ⟨i, l⟩ := hs.adv_emit h2 h3
    exact ⟨i, by omega, fun _ => by omega⟩

theorem error_spec {α} (k : EK) (R : α → Nat → Nat → Prop) : Spec N (error k : M α) R :=
  fun _ hs => error_sat hs k _

theorem expect_spec (c : Nat) (kind : TK) (k : EK) (hv : ValOK kind [c]) :
    Spec N (expect c kind k) (RGe 1) := by
  intro s hs
  refine .ite (fun hp => ?_) (error_sat hs k _)
  obtain ⟨i, l⟩ := hs.adv_emit (peek_some hp) hv
  exact ⟨i, Nat.le_of_eq l⟩

theorem optChar_spec (c : Nat) (kind : TK) (hv : ValOK kind [c]) :
    Spec N (optChar c kind) (RB 1) := by
  intro s hs
  refine .ite (fun hp => ?_) ⟨hs, Nat.le_refl _, fun h => by cases h⟩
  obtain ⟨i, l⟩ := hs.adv_emit (peek_some hp) hv
  exact ⟨i, by omega, fun _ => Nat.le_of_eq l⟩

theorem scanOK_lit (lit : Text) (kind : TK) (hv : ∀ v, ValOK kind v) {k : Nat}
    (hk : k ≤ lit.length) : ScanOK (mLit lit) kind k := by
  intro t n h
  obtain ⟨h1, h2, _⟩ := mLit_some h
  exact ⟨by omega, h2, hv _⟩

theorem scanOK_identifier : ScanOK mIdentifier .identifier 1 :=
  fun _ _ h => ⟨(mIdentifier_some h).1, (mIdentifier_some h).2.1, trivial⟩
theorem scanOK_tag : ScanOK mTag .tag 1 :=
  fun _ _ h => ⟨(mTag_some h).1, (mTag_some h).2.1, trivial⟩
theorem scanOK_modifier : ScanOK mModifier .modifier 1 :=
  fun _ _ h => ⟨(mModifier_some h).1, (mModifier_some h).2.1, trivial⟩
theorem scanOK_integer : ScanOK mInteger .integer 1 :=
  fun _ _ h => ⟨(mInteger_some h).1, (mInteger_some h).2.1, isIntLit_of_intTok (mInteger_some h).2.2⟩
theorem scanOK_char : ScanOK mChar .char 1 :=
  fun _ _ h => mChar_some h

theorem stringLoop_lt (kind : TK) (hk : ∀ v, ValOK kind v) :
    ∀ (n : Nat) (body : Text) (esc : Bool), SpecLt N n (stringLoop kind n body esc) RLe
  | 0, _, _ => SpecLt.zero
  | n + 1, body, esc => fun s hs h => by
    unfold stringLoop
    dsimp only
    split
    · exact hs.start_le_len
    -- the other three branches start by consuming the character at hand
    all_goals
      rename_i heq
      obtain ⟨hs1, l1⟩ := hs.adv (n := 1) (by rw [heq]; exact Nat.succ_pos _)
    · split
      · rename_i r _ k hk'
        have : (s.adv 1).rest = r := by show s.rest.drop 1 = r; rw [heq]; rfl
        obtain ⟨hs2, l2⟩ := hs1.adv (n := k) (by rw [this]; exact (escapeLen_some hk').2.1)
        exact (stringLoop_lt kind hk n _ true).next hs2 (by omega) h
      · exact error_sat hs1 _ _
    · have emit : ∀ v, Inv N ((s.adv 1).emit kind v) ∧
          ((s.adv 1).emit kind v).rest.length ≤ s.rest.length :=
        fun v => ⟨hs1.emit (hk v), Nat.le_of_lt (Nat.lt_of_succ_le (Nat.le_of_eq l1))⟩
      split
      · cases hu : unescape body.reverse with
        | ok v => exact emit v
        | error e => exact hs.start_le_len
        | exc nm => exact absurd hu (Unescape.unescape_ne_exc _ _)
      · exact emit _
    · exact (stringLoop_lt kind hk n _ esc).next hs1 (by omega) h

theorem acceptString_spec : Spec N acceptString RLe := by
  intro s hs
  refine .ite (fun hp => ?_) ⟨hs, Nat.le_refl _⟩
  obtain ⟨hs1, l1⟩ := hs.adv (peek_some hp)
  exact (stringLoop_lt .string (fun _ => trivial) _ [] false).on hs1.setStart
    (Nat.lt_succ_self _) (by show (s.adv 1).rest.length ≤ _; omega)

theorem acceptCIString_spec : Spec N acceptCIString RLe := by
  intro s hs
  refine .ite (fun hp => ?_) ⟨hs, Nat.le_refl _⟩
  obtain ⟨hs1, l1⟩ := hs.adv (peek_some hp)
  have hs2 := hs1.setStart.skipTrivia
  have l2 : _ ≤ (s.adv 1).rest.length := skipTrivia_len { s.adv 1 with start := (s.adv 1).pos }
  simp only
  generalize skipTrivia { s.adv 1 with start := (s.adv 1).pos } = s2 at hs2 l2 ⊢
  refine .ite (fun hq => ?_) (error_sat hs2 _ _)
  obtain ⟨hs3, l3⟩ := hs2.adv (peek_some hq)
  exact (stringLoop_lt .stringCI (fun _ => trivial) _ [] false).on hs3.setStart
    (Nat.lt_succ_self _) (by show (s2.adv 1).rest.length ≤ _; omega)

theorem scanOK_number : ScanOK mNumber .number 1 :=
  fun _ _ h => mNumber_some h

theorem boundsLoop_lt : ∀ n, SpecLt N n (boundsLoop n) RLe
  | 0 => SpecLt.zero
  | n + 1 => by
    rw [boundsLoop_succ]
    exact triv_spec.lt.then fun _ => (optChar_spec 44 .comma trivial).lt.thenB (boundsLoop_lt n) <|
      (scanEmit_spec scanOK_number).lt.thenB (boundsLoop_lt n) (pure_spec N ()).lt

theorem Spec.orB {m e : M Bool} {k : Nat} (hm : Spec N m (RB k)) (he : Spec N e (RB k)) :
    Spec N (m >>= fun b => if b = true then pure true else e) (RB k) :=
  fun _ hs => hm.bind hs fun b s₁ hs₁ h₁ => by
    cases b
    · exact (he s₁ hs₁).mono fun _ _ h₂ =>
        ⟨h₂.1, Nat.le_trans h₂.2.1 h₁.1, fun hb => Nat.le_trans (h₂.2.2 hb) h₁.1⟩
    · exact ⟨hs₁, h₁.1, fun _ => h₁.2 rfl⟩

theorem Spec.andThen {m t : M Bool} {k : Nat} (hm : Spec N m (RB k)) (ht : Spec N t RLe) :
    Spec N (m >>= fun b => if b = true then t else pure false) (RB k) :=
  fun _ hs => hm.bind hs fun b s₁ hs₁ h₁ => by
    cases b
    · exact ⟨hs₁, h₁.1, fun h => nomatch h⟩
    · exact (ht s₁ hs₁).mono fun _ _ h₂ =>
        ⟨h₂.1, Nat.le_trans h₂.2 h₁.1, fun _ => Nat.le_trans (Nat.add_le_add_right h₂.2 k) (h₁.2 rfl)⟩

theorem acceptPostfixOp_spec : Spec N acceptPostfixOp (RB 1) := by
  rw [acceptPostfixOp_eq]
  exact triv_spec.thenR (fun h r => ⟨Nat.le_trans r.1 h, fun hb => Nat.le_trans (r.2 hb) h⟩) fun _ =>
    (optChar_spec 63 .optionOp trivial).orB <| (optChar_spec 42 .repeatOp trivial).orB <|
    (optChar_spec 43 .repeatOnceOp trivial).orB <| (optChar_spec 123 .lbrace trivial).andThen <|
    (SpecLt.sized boundsLoop_lt).then fun _ => triv_spec.then fun _ =>
    (expect_spec 125 .rbrace .expectedRBrace trivial).toLe.then fun _ => pure_spec N true

theorem postfixLoop_lt : ∀ n, SpecLt N n (postfixLoop n) RLe
  | 0 => SpecLt.zero
  | n + 1 => acceptPostfixOp_spec.lt.thenB (postfixLoop_lt n) (pure_spec N ()).lt

theorem acceptPostfixOps_spec : Spec N acceptPostfixOps RLe :=
  SpecLt.sized postfixLoop_lt

theorem ValOK.ite {c : Prop} [Decidable c] {a b : TK} {w : Text} (ha : ValOK a w)
    (hb : ValOK b w) : ValOK (if c then a else b) w := by
  split
  · exact ha
  · exact hb

theorem keywordKind_ok (v w : Text) : ValOK (keywordKind v) w :=
  .ite trivial <| .ite trivial <| .ite trivial <| .ite trivial <| .ite trivial trivial

theorem scanIdent_spec : Spec N scanIdent RLe := by
  intro s hs
  unfold scanIdent
  split
  · rename_i n h
    obtain ⟨i, l⟩ := hs.adv_emit (mIdentifier_some h).2.1 (keywordKind_ok _ _)
    exact ⟨i, by show _ ≤ _; omega⟩
  · exact ⟨hs, Nat.le_refl _⟩

theorem optInteger_spec : Spec N optInteger RLe :=
  (scanEmit_spec scanOK_integer).toLeB.then fun _ => Spec.ite triv_spec (pure_spec N ())

theorem scanOrError_spec {m : Text → Option Nat} {kind : TK} {k : Nat} (hm : ScanOK m kind k)
    (e : EK) : Spec N (scanOrError m kind e) RLe :=
  (scanEmit_spec hm).toLeB.then fun _ => Spec.ite (pure_spec N ()) (error_spec e _)

theorem rangeOp_spec : Spec N (scanOrError (mLit sDOTS) .rangeOp .expectedRangeOp) RLe :=
  scanOrError_spec (scanOK_lit sDOTS .rangeOp (fun _ => trivial) (Nat.zero_le _)) _

theorem peekTail_spec : Spec N peekTail RLe :=
  triv_spec.then fun _ => (optChar_spec 91 .lbracket trivial).toLeB.then fun _ => Spec.ite
    (triv_spec.then fun _ => optInteger_spec.then fun _ => rangeOp_spec.then fun _ =>
      triv_spec.then fun _ => optInteger_spec.then fun _ =>
      (expect_spec 93 .rbracket _ trivial).toLe.then fun _ => pure_spec N true)
    (pure_spec N true)

theorem charRange_spec : Spec N charRange RLe :=
  (scanEmit_spec scanOK_char).toLeB.then fun _ => Spec.ite
    (triv_spec.then fun _ => rangeOp_spec.then fun _ => triv_spec.then fun _ =>
      (scanOrError_spec scanOK_char _).then fun _ => pure_spec N true)
    (pure_spec N false)

theorem acceptTerminal_lt {L : Nat} {rec : M Unit} (hrec : SpecLt N L rec RLe) :
    SpecLt N (L + 1) (acceptTerminal rec) RLe :=
  (scanEmit_spec (scanOK_lit sPUSH_LITERAL .pushLiteral (fun _ => trivial)
    (Nat.zero_le _))).toLeB.lt.then fun _ => SpecLt.ite
    (Spec.lt <| triv_spec.then fun _ => (expect_spec 40 .lparen _ trivial).toLe.then fun _ =>
      triv_spec.then fun _ => acceptString_spec.then fun _ => triv_spec.then fun _ =>
      (expect_spec 41 .rparen _ trivial).toLe.then fun _ => pure_spec N true)
    ((scanEmit_spec (scanOK_lit sPUSH .push (fun _ => trivial)
      (Nat.zero_le _))).toLeB.lt.then fun _ => SpecLt.ite
      (triv_spec.lt.then fun _ => (expect_spec 40 .lparen _ trivial).lt.then1 fun _ =>
        triv_spec.lt.then fun _ => hrec.then fun _ => Spec.lt <| triv_spec.then fun _ =>
        (expect_spec 41 .rparen _ trivial).toLe.then fun _ => pure_spec N true)
      (Spec.lt <| scanIdent_spec.then fun k =>
        match k with
        | some _ => Spec.ite peekTail_spec (pure_spec N true)
        | none => acceptString_spec.then fun _ => Spec.ite (pure_spec N true) <|
          acceptCIString_spec.then fun _ => Spec.ite (pure_spec N true) charRange_spec))

theorem acceptTag_spec : Spec N acceptTag RLe :=
  (scanEmit_spec scanOK_tag).toLeB.then fun _ => Spec.ite
    (triv_spec.then fun _ => (expect_spec 61 .assignOp _ trivial).toLe.then fun _ =>
      triv_spec)
    (pure_spec N ())

theorem prefixLoop_lt : ∀ n, SpecLt N n (prefixLoop n) RLe
  | 0 => SpecLt.zero
  | n + 1 => by
    have more : SpecLt N n (do triv; prefixLoop n : M Unit) RLe :=
      triv_spec.lt.then fun _ => prefixLoop_lt n
    rw [prefixLoop_succ]
    exact (optChar_spec 38 .posPred trivial).lt.thenB more <|
      (optChar_spec 33 .negPred trivial).lt.thenB more (pure_spec N ()).lt

theorem acceptTerm_lt {L : Nat} {rec : M Unit} (hrec : SpecLt N L rec RLe) :
    SpecLt N (L + 1) (acceptTerm rec) RLe :=
  acceptTag_spec.lt.then fun _ => (SpecLt.sized prefixLoop_lt).lt.then fun _ =>
    (acceptTerminal_lt hrec).then fun _ => SpecLt.ite acceptPostfixOps_spec.lt <|
      (expect_spec 40 .lparen _ trivial).lt.then1 fun _ => triv_spec.lt.then fun _ =>
      hrec.then fun _ => Spec.lt <| triv_spec.then fun _ =>
      (expect_spec 41 .rparen _ trivial).toLe.then fun _ => acceptPostfixOps_spec

/-- `n ≤ L + 1`: within the loop `accept_term` runs on states the fuel `n` admits -/
theorem exprLoop_lt {L : Nat} {rec : M Unit} (hrec : SpecLt N L rec RLe) :
    ∀ n, n ≤ L + 1 → SpecLt N n (exprLoop rec n) RLe
  | 0, _ => SpecLt.zero
  | n + 1, hn =>
    have cont : SpecLt N n (do triv; acceptTerm rec; exprLoop rec n : M Unit) RLe :=
      triv_spec.lt.then fun _ => ((acceptTerm_lt hrec).weaken (by omega)).then fun _ =>
        exprLoop_lt hrec n (by omega)
    triv_spec.lt.then fun _ => (optChar_spec 126 .sequenceOp trivial).lt.thenB cont <|
      (optChar_spec 124 .choiceOp trivial).lt.thenB cont (pure_spec N ()).lt

theorem leadingChoice_spec : Spec N leadingChoice RLe :=
  (optChar_spec 124 .choiceOp trivial).toLeB.then fun _ =>
    Spec.ite triv_spec (pure_spec N ())

theorem exprStep_lt {L : Nat} {rec : M Unit} (hrec : SpecLt N L rec RLe) :
    SpecLt N (L + 1) (exprStep rec) RLe :=
  triv_spec.lt.then fun _ => leadingChoice_spec.lt.then fun _ =>
    (acceptTerm_lt hrec).then fun _ s hs h =>
      exprLoop_lt hrec _ (Nat.succ_le_of_lt h) s hs (Nat.lt_succ_self _)

/-- the depth fuel of `accept_expression` suffices: every nested call happens after at least
    one more character was consumed -/
theorem acceptExpression_lt : ∀ fuel, SpecLt N fuel (acceptExpression fuel) RLe
  | 0 => SpecLt.zero
  | fuel + 1 => exprStep_lt (acceptExpression_lt fuel)

theorem acceptExpressionTop_spec :
    Spec N (fun s => acceptExpression (s.rest.length + 1) s) RLe :=
  SpecLt.sized acceptExpression_lt

theorem Inv.docBlank {s : St} (hs : Inv N s) :
    Inv N (docBlank s) ∧ (docBlank s).rest.length ≤ s.rest.length := by
  unfold Front.docBlank
  split
  · rename_i c r hr
    split
    · obtain ⟨i, l⟩ := hs.adv (n := 1) (by rw [hr]; exact Nat.succ_pos _)
      exact ⟨i.setStart, by show (s.adv 1).rest.length ≤ _; omega⟩
    · exact ⟨hs, Nat.le_refl _⟩
  · exact ⟨hs, Nat.le_refl _⟩

theorem docInner_spec : Spec N docInner RLe := by
  intro s hs
  unfold docInner
  dsimp only
  obtain ⟨h1, h2⟩ := hs.docBlank
  generalize docBlank s = s1 at h1 h2 ⊢
  have hn : (findNewline s1.rest).getD s1.rest.length ≤ s1.rest.length := by
    cases hf : findNewline s1.rest with
    | none => exact Nat.le_refl _
    | some n => exact findNewline_le _ n hf
  obtain ⟨i, l⟩ := h1.adv_emit (kind := .commentText) (v := s1.rest.take _) hn trivial
  exact ⟨i, by show _ ≤ _; omega⟩

theorem optModifier_spec : Spec N optModifier RLe :=
  (scanEmit_spec scanOK_modifier).toLeB.then fun _ => Spec.ite triv_spec (pure_spec N ())

theorem ruleTail_spec : Spec N ruleTail (Step .grammarRule) :=
  triv_spec.thenR Step.mono fun _ =>
    (scanEmit_spec scanOK_identifier).toLeB.thenR Step.mono fun _ => Spec.ite
      (triv_spec.thenR Step.mono fun _ =>
        (expect_spec 61 .assignOp _ trivial).toLe.thenR Step.mono fun _ =>
        triv_spec.thenR Step.mono fun _ => optModifier_spec.thenR Step.mono fun _ =>
        (expect_spec 123 .lbrace _ trivial).toLe.thenR Step.mono fun _ =>
        acceptExpressionTop_spec.thenR Step.mono fun _ _ hs =>
        (expect_spec 125 .rbrace _ trivial).bind hs fun _ _ hs' hl => ⟨hs', .of_lt hl⟩)
      (fun _ hs => .ite (fun _ => ⟨hs, fun _ e => nomatch e⟩) (error_sat hs _ _))

theorem stateFn_spec : ∀ fn, Spec N (stateFn fn) (Step fn)
  | .grammar => triv_spec.thenR Step.mono fun _ s hs =>
    (scanEmit_spec (scanOK_lit sGDOC .grammarDoc (fun _ => trivial) (k := 1) (by decide))).bind
      hs fun b _ hs' h => by
        cases b
        · exact ⟨hs', .of_rank (by decide) h.1⟩
        · exact ⟨hs', .of_lt (h.2 rfl)⟩
  | .grammarDocInner => fun _ hs => docInner_spec.bind hs fun _ _ hs' hl =>
    ⟨hs', .of_rank (by decide) hl⟩
  | .grammarRule => triv_spec.thenR Step.mono fun _ s hs =>
    (scanEmit_spec (scanOK_lit sRDOC .ruleDoc (fun _ => trivial) (k := 1) (by decide))).bind
      hs fun b s' hs' h => by
        cases b
        · exact (ruleTail_spec s' hs').mono fun _ _ h' => ⟨h'.1, Step.mono h.1 h'.2⟩
        · exact ⟨hs', .of_lt (h.2 rfl)⟩
  | .ruleDocInner => fun _ hs => docInner_spec.bind hs fun _ _ hs' hl =>
    ⟨hs', .of_rank (by decide) hl⟩

/-- the bound on state-function calls suffices -/
theorem run_sat : ∀ (n : Nat) (fn : Fn) (s : St), Inv N s →
    3 * s.rest.length + rank fn < n → (run n fn s).Sat N (fun _ s' => Inv N s')
  | 0, _, _, _, h => by omega
  | n + 1, fn, s, hs, h => by
    unfold run
    refine SR.Sat.bind' (stateFn_spec fn s hs) (fun next s1 ⟨hs1, hr1⟩ => ?_)
    cases next with
    | none => exact hs1
    | some fn' => exact run_sat n fn' s1 hs1 (Nat.lt_of_lt_of_le (hr1 fn' rfl) (Nat.le_of_lt_succ h))

theorem Inv.init (text : Text) : Inv text.length (St.init text) :=
  ⟨Nat.le_refl _, by simp [St.init], fun _ h => by simp [St.init] at h⟩

/-- **the scanner is total**: `tokenize` returns tokens the parser can digest, or raises a
    `PestGrammarSyntaxError` whose token starts inside the text -/
theorem scan_sat (text : Text) :
    match scan text with
    | .ok toks => ∀ t ∈ toks, TokOK text.length t
    | .err _ st _ => st ≤ text.length
    | .exc _ => False
    | .oof => False := by
  have h := run_sat (3 * text.length + 3) .grammar (St.init text) (Inv.init text)
    (by simp only [St.init, rank]; omega)
  unfold scan
  cases hr : run (3 * text.length + 3) .grammar (St.init text) with
  | ok a s =>
    rw [hr] at h
    intro t ht
    exact h.toks t (List.mem_reverse.mp ht)
  | err k st v => rw [hr] at h; exact h
  | exc n => rw [hr] at h; exact h
  | oof => rw [hr] at h; exact h

end Front
end Pest
