/-
  Lemmas/OptSoundSkip.lean — the `skip` pass: `(!(a | b | …) ~ ANY)*`  ↦  `SkipUntil [a, b, …]`.

  What `_skip` collects from the operand of the negative predicate is exactly the set of strings
  one of which the operand matches (`collect_sem`); from that, the semantic lemma `SkipSem`, from
  states inside the input in which implicit trivia is the identity.

  Rests on OptSoundSim (the statement `SkipSem`) and OptSoundPass (`topDown_TR`), beside
  OptSoundRun; used in OptSoundFinal.
-/
import PestModel.Lemmas.OptSoundSim
import PestModel.Lemmas.OptSoundPass

namespace Pest
namespace OptS

open L0

variable (G : Grammar) (inp : Input)

theorem skip_id (rec : Sem0) (k : Nat) (s : S0) (h : s.atomic = true ∨ NoTrivia G) :
    skip G rec k s = .ok s [] := by
  rcases h with h | ⟨h1, h2, h3⟩
  · exact skip_of_atomic h
  · exact skip_of_noTrivia h1 (by rw [h2, h3]; rfl)

def okOf : R0 → Option Bool
  | .ok _ _ => some true
  | .fail => some false
  | _ => none

def anyAt (subs : List Str) (pos : Nat) : Bool := subs.any (startsWithAt inp · pos)

theorem anyAt_append (l1 l2 : List Str) (pos : Nat) :
    anyAt inp (l1 ++ l2) pos = (anyAt inp l1 pos || anyAt inp l2 pos) := List.any_append

theorem okOf_wrapK (name : String) (mod : Nat) (s : S0) (r : R0) : okOf (wrapK name mod s r) = okOf r := by
  cases r with
  | ok s' ps =>
    obtain ⟨ps', e⟩ := ruleWrap_ok name mod s s' ps
    exact (congrArg okOf e : okOf (ruleWrap name mod s s' ps) = some true)
  | _ => rfl

theorem conv_rule_okOf {name : String} {mod : Nat} {sm : Bool} {body : Expr} {s : S0} {b : Bool}
    (h : ∃ r, Conv G inp body { s with atomic := ruleAtomic name mod s.atomic } r ∧ okOf r = some b) :
    ∃ r, Conv G inp (.rule name mod sm body) s r ∧ okOf r = some b := by
  obtain ⟨r, hc, ho⟩ := h
  exact ⟨_, conv_rule.2 (ruleC_iff.2 ⟨r, hc, rfl⟩), by rw [okOf_wrapK, ho]⟩

theorem collect_sem : ∀ (k : Nat) (e : Expr) (acc subs : List Str),
    Opt.skipCollect G.rules k e acc = some subs →
    ∃ new, subs = acc ++ new ∧
      ∀ s : S0, ∃ r, Conv G inp e s r ∧ okOf r = some (anyAt inp new s.pos) := by
  intro k
  induction k with
  | zero => intro e acc subs h; simp [Opt.skipCollect] at h
  | succ k ih =>
    have hlist : ∀ (es : List Expr) (acc subs : List Str),
        es.foldl (fun a x => a.bind fun s => Opt.skipCollect G.rules k x s) (some acc) = some subs →
        ∃ new, subs = acc ++ new ∧
          ∀ s : S0, ∃ r, ChoiceC G inp es s r ∧ okOf r = some (anyAt inp new s.pos) := by
      intro es
      induction es with
      | nil =>
        intro acc subs h
        simp only [List.foldl_nil, Option.some.injEq] at h
        subst h
        exact ⟨[], by simp, fun s => ⟨.fail, choiceC_nil.2 rfl, rfl⟩⟩
      | cons x rest ihl =>
        intro acc subs h
        simp only [List.foldl_cons, Option.bind_some] at h
        cases hx : Opt.skipCollect G.rules k x acc with
        | none => rw [hx, Prim.foldl_none] at h; exact absurd h (by simp)
        | some acc1 =>
          rw [hx] at h
          obtain ⟨new1, e1, s1⟩ := ih x acc acc1 hx
          obtain ⟨new2, e2, s2⟩ := ihl acc1 subs h
          refine ⟨new1 ++ new2, by rw [e2, e1, List.append_assoc], fun s => ?_⟩
          obtain ⟨r1, hc1, ho1⟩ := s1 s
          obtain ⟨r2, hc2, ho2⟩ := s2 s
          rw [anyAt_append]
          cases r1 with
          | ok s' ps =>
            refine ⟨_, choiceC_cons.2 ⟨_, hc1, rfl⟩, ?_⟩
            rw [← Option.some.inj ho1]; rfl
          | fail =>
            refine ⟨r2, choiceC_cons.2 ⟨_, hc1, hc2⟩, ?_⟩
            rw [← Option.some.inj ho1]; exact ho2
          | oof => cases ho1
          | stuck => cases ho1
    -- the node after stripping one `Group`
    have hcore : ∀ (x : Expr) (acc subs : List Str),
        (match x with
          | .choice es => es.foldl (fun acc y => acc.bind fun s => Opt.skipCollect G.rules k y s) (some acc)
          | .skipUntil _ => none
          | .str s => some (acc ++ [s])
          | .ident n _ =>
            match G.rules.find? (·.name == n) with
            | some r => Opt.skipCollect G.rules k r.body acc
            | none => none
          | _ => none) = some subs →
        ∃ new, subs = acc ++ new ∧
          ∀ s : S0, ∃ r, Conv G inp x s r ∧ okOf r = some (anyAt inp new s.pos) := by
      intro x acc subs h
      cases x with
      | choice es =>
        obtain ⟨new, e1, s1⟩ := hlist es acc subs h
        refine ⟨new, e1, fun s => ?_⟩
        obtain ⟨r, hc, ho⟩ := s1 s
        exact ⟨r, conv_choice.2 hc, ho⟩
      | str s0 =>
        simp only [Option.some.injEq] at h
        refine ⟨[s0], h.symm, fun s => ⟨_, conv_str.2 rfl, ?_⟩⟩
        simp only [anyAt, List.any_cons, List.any_nil, Bool.or_false]
        cases startsWithAt inp s0 s.pos <;> rfl
      | ident n t =>
        simp only [] at h
        cases hl : G.rules.find? (·.name == n) with
        | none => rw [hl] at h; exact absurd h (by simp)
        | some rl =>
          rw [hl] at h
          obtain ⟨new, e1, s1⟩ := ih rl.body acc subs h
          refine ⟨new, e1, fun s => ?_⟩
          obtain ⟨r, hc, ho⟩ := s1 { s with atomic := ruleAtomic rl.name rl.mod s.atomic }
          have hc' : Conv G inp (.ident n t) s (wrapK rl.name rl.mod s r) :=
            conv_ident.2 (by rw [show G.lookup n = some rl from hl]; exact ruleC_iff.2 ⟨r, hc, rfl⟩)
          exact ⟨_, hc', by rw [okOf_wrapK, ho]⟩
      | _ => simp at h
    intro e acc subs h
    simp only [Opt.skipCollect] at h
    cases e with
    | group x t =>
      obtain ⟨new, e1, s1⟩ := hcore x acc subs h
      refine ⟨new, e1, fun s => ?_⟩
      obtain ⟨r, hc, ho⟩ := s1 s
      exact ⟨r, conv_group.2 hc, ho⟩
    | choice es => exact hcore _ acc subs h
    | str s0 => exact hcore _ acc subs h
    | ident n t => exact hcore _ acc subs h
    | _ => simp at h

/-! ### `SkipUntil.parse`, characterised -/

def supStep (pos : Nat) (b : Option Nat) (s : Str) : Option Nat :=
  match findFrom inp s pos with
  | some p => (match b with | none => some p | some q => if p < q then some p else some q)
  | none => b

theorem skipUntilPos_eq (subs : List Str) (pos : Nat) :
    L1.skipUntilPos inp subs pos = (subs.foldl (supStep inp pos) none).getD inp.size := rfl

theorem findFrom_here {sub : Str} {pos : Nat} (h : startsWithAt inp sub pos = true) :
    findFrom inp sub pos = some pos := by
  have hs := Prim.startsWithAt_le h
  unfold findFrom
  have : ¬ pos > inp.size := by omega
  simp only [this, ↓reduceIte]
  obtain ⟨k, hk⟩ : ∃ k, inp.size + 1 - pos = k + 1 := ⟨inp.size - pos, by omega⟩
  rw [hk]
  simp [findFrom.go, h]

theorem findFrom_next {sub : Str} {pos : Nat} (h : startsWithAt inp sub pos = false) (hp : pos < inp.size) :
    findFrom inp sub pos = findFrom inp sub (pos + 1) := by
  unfold findFrom
  have h1 : ¬ pos > inp.size := by omega
  have h2 : ¬ pos + 1 > inp.size := by omega
  simp only [h1, h2, ↓reduceIte]
  obtain ⟨k, hk⟩ : ∃ k, inp.size + 1 - pos = k + 1 := ⟨inp.size - pos, by omega⟩
  have hk' : inp.size + 1 - (pos + 1) = k := by omega
  rw [hk, hk']
  simp [findFrom.go, h]

theorem findFrom_end {sub : Str} (h : startsWithAt inp sub inp.size = false) :
    findFrom inp sub inp.size = none := by
  unfold findFrom
  simp [findFrom.go, h]

theorem sup_fold_none (pos : Nat) : ∀ (subs : List Str) (b : Option Nat),
    (∀ sub ∈ subs, findFrom inp sub pos = none) → subs.foldl (supStep inp pos) b = b
  | [], _, _ => rfl
  | s :: rest, b, h => by
    simp only [List.foldl_cons, supStep, h s List.mem_cons_self]
    exact sup_fold_none pos rest b (fun x hx => h x (List.mem_cons_of_mem _ hx))

theorem sup_fold_here (pos : Nat) : ∀ (subs : List Str), subs.foldl (supStep inp pos) (some pos) = some pos
  | [] => rfl
  | s :: rest => by
    simp only [List.foldl_cons, supStep]
    cases hf : findFrom inp s pos with
    | none => exact sup_fold_here pos rest
    | some p =>
      have := (Prim.findFrom_le hf).1
      have hlt : ¬ p < pos := by omega
      simp only [hlt, ↓reduceIte]
      exact sup_fold_here pos rest

theorem sup_fold_found (pos : Nat) : ∀ (subs : List Str) (b : Option Nat),
    (∃ sub ∈ subs, findFrom inp sub pos = some pos) → (∀ q, b = some q → pos ≤ q) →
    subs.foldl (supStep inp pos) b = some pos
  | [], _, h, _ => by obtain ⟨_, hm, _⟩ := h; simp at hm
  | s :: rest, b, h, hb => by
    simp only [List.foldl_cons]
    by_cases hs : findFrom inp s pos = some pos
    · have : supStep inp pos b s = some pos := by
        simp only [supStep, hs]
        cases b with
        | none => rfl
        | some q =>
          have := hb q rfl
          simp only []
          by_cases hlt : pos < q
          · simp [hlt]
          · simp only [hlt, ↓reduceIte]; congr; omega
      rw [this]; exact sup_fold_here inp pos rest
    · obtain ⟨sub, hm, hf⟩ := h
      have hm' : sub ∈ rest := by
        rcases List.mem_cons.1 hm with rfl | h'
        · exact absurd hf hs
        · exact h'
      refine sup_fold_found pos rest _ ⟨sub, hm', hf⟩ ?_
      intro q hq
      simp only [supStep] at hq
      cases hf2 : findFrom inp s pos with
      | none => rw [hf2] at hq; exact hb q hq
      | some p =>
        rw [hf2] at hq
        have hp := (Prim.findFrom_le hf2).1
        cases b with
        | none => simp only [Option.some.injEq] at hq; omega
        | some q0 =>
          have := hb q0 rfl
          simp only [] at hq
          split at hq <;> simp only [Option.some.injEq] at hq <;> omega

theorem sup_fold_congr (pos pos' : Nat) : ∀ (subs : List Str) (b : Option Nat),
    (∀ sub ∈ subs, findFrom inp sub pos = findFrom inp sub pos') →
    subs.foldl (supStep inp pos) b = subs.foldl (supStep inp pos') b
  | [], _, _ => rfl
  | s :: rest, b, h => by
    simp only [List.foldl_cons]
    have : supStep inp pos b s = supStep inp pos' b s := by
      simp only [supStep, h s List.mem_cons_self]
    rw [this]
    exact sup_fold_congr pos pos' rest _ (fun x hx => h x (List.mem_cons_of_mem _ hx))

theorem sup_here {subs : List Str} {pos : Nat} (h : anyAt inp subs pos = true) :
    L1.skipUntilPos inp subs pos = pos := by
  rw [skipUntilPos_eq]
  simp only [anyAt, List.any_eq_true] at h
  obtain ⟨sub, hm, hs⟩ := h
  rw [sup_fold_found inp pos subs none ⟨sub, hm, findFrom_here inp hs⟩ (by intro q hq; cases hq)]
  rfl

theorem sup_next {subs : List Str} {pos : Nat} (h : anyAt inp subs pos = false) (hp : pos < inp.size) :
    L1.skipUntilPos inp subs pos = L1.skipUntilPos inp subs (pos + 1) := by
  rw [skipUntilPos_eq, skipUntilPos_eq]
  simp only [anyAt, List.any_eq_false] at h
  rw [sup_fold_congr inp pos (pos + 1) subs none (fun sub hm => findFrom_next inp (by simpa using h sub hm) hp)]

theorem sup_end {subs : List Str} (h : anyAt inp subs inp.size = false) :
    L1.skipUntilPos inp subs inp.size = inp.size := by
  rw [skipUntilPos_eq]
  simp only [anyAt, List.any_eq_false] at h
  rw [sup_fold_none inp inp.size subs none (fun sub hm => findFrom_end inp (by simpa using h sub hm))]
  rfl

/-- one round of `!inner ~ ANY` -/
def resB (subs : List Str) (s : S0) : R0 :=
  if !anyAt inp subs s.pos && decide (s.pos < inp.size) then .ok (adv s 1) [] else .fail

theorem skipC_id {s : S0} (h : s.atomic = true ∨ NoTrivia G) : SkipC G inp s (.ok s []) :=
  ⟨0, skip_id G _ 0 s h, by simp⟩

theorem any_conv {n : String} {m : Nat} {sm : Bool} (hsil : hasBit m SILENT = true) (s : S0) :
    Conv G inp (.rule n m sm .anyB) s (if s.pos < inp.size then .ok (adv s 1) [] else .fail) := by
  refine conv_rule.2 (ruleC_iff.2 ?_)
  by_cases h : s.pos < inp.size
  · exact ⟨_, big_conv.1 (big_any_ok h), by rw [if_pos h, wrapK_silent hsil]; rfl⟩
  · exact ⟨_, big_conv.1 (big_any_fail h), by rw [if_neg h]; rfl⟩

theorem body_conv {inner : Expr} {n : String} {m : Nat} {sm : Bool} {t : Option String} {subs : List Str} {a : Bool}
    (hsil : hasBit m SILENT = true) (hflag : a = true ∨ NoTrivia G)
    (hin : ∀ s : S0, ∃ r, Conv G inp inner s r ∧ okOf r = some (anyAt inp subs s.pos))
    (s : S0) (ha : s.atomic = a) :
    Conv G inp (.group (.seq [.notP inner, .rule n m sm .anyB]) t) s (resB inp subs s) := by
  obtain ⟨r, hc, ho⟩ := hin s
  rw [conv_group, conv_seq, seqC_cons]
  refine ⟨notK s r, conv_notP.2 ⟨r, hc, rfl⟩, ?_⟩
  cases r with
  | ok s' ps =>
    have h : anyAt inp subs s.pos = true := (Option.some.inj ho).symm
    simp only [notK, SeqK, resB, h, Bool.not_true, Bool.false_and, Bool.false_eq_true, ↓reduceIte]
  | fail =>
    have h : anyAt inp subs s.pos = false := (Option.some.inj ho).symm
    simp only [notK, SeqK, List.isEmpty_cons, Bool.false_eq_true, ↓reduceIte]
    refine ⟨_, skipC_id G inp (ha ▸ hflag), ?_⟩
    simp only [List.append_nil, seqC_single, resB, h, Bool.not_false, Bool.true_and, decide_eq_true_eq]
    exact any_conv G inp hsil s
  | oof => exact absurd rfl hc.ne
  | stuck => cases ho

theorem loop_conv {B : Expr} {subs : List Str} {a : Bool} (hflag : a = true ∨ NoTrivia G)
    (hB : ∀ s : S0, s.atomic = a → Conv G inp B s (resB inp subs s)) :
    ∀ (d : Nat) (s : S0) (first : Bool) (acc : List Pair), s.atomic = a → s.pos ≤ inp.size →
      inp.size - s.pos ≤ d →
      Big G inp (.rep B first acc) s (.ok { s with pos := L1.skipUntilPos inp subs s.pos } acc) := by
  have hgap : ∀ (s : S0) (first : Bool), s.atomic = a → Big G inp (.gap first) s (.ok s []) := by
    intro s first ha
    cases first with
    | true => exact .gapFirst
    | false => exact .gapSkip (big_skip.2 (skipC_id G inp (ha ▸ hflag)))
  have hstop : ∀ (s : S0) (first : Bool) (acc : List Pair), s.atomic = a →
      (anyAt inp subs s.pos = true ∨ s.pos = inp.size) →
      Big G inp (.rep B first acc) s (.ok { s with pos := L1.skipUntilPos inp subs s.pos } acc) := by
    intro s first acc ha hcase
    have hres : resB inp subs s = .fail := by
      unfold resB
      rcases hcase with h | h <;> simp [h]
    have hpos : L1.skipUntilPos inp subs s.pos = s.pos := by
      by_cases h : anyAt inp subs s.pos = true
      · exact sup_here inp h
      · rcases hcase with h' | h'
        · exact absurd h' h
        · rw [h']; exact sup_end inp (by rw [← h']; simpa using h)
    have hb := big_conv.2 (hB s ha)
    rw [hres] at hb
    rw [hpos]
    exact .repStop (hgap s first ha) hb rfl
  intro d
  induction d with
  | zero =>
    intro s first acc ha hp hd
    exact hstop s first acc ha (Or.inr (by omega))
  | succ d ih =>
    intro s first acc ha hp hd
    by_cases hcase : anyAt inp subs s.pos = true ∨ s.pos = inp.size
    · exact hstop s first acc ha hcase
    · simp only [not_or, Bool.not_eq_true] at hcase
      have hlt : s.pos < inp.size := by omega
      have hres : resB inp subs s = .ok (adv s 1) [] := by
        unfold resB; simp [hcase.1, hlt]
      have hb := big_conv.2 (hB s ha)
      rw [hres] at hb
      rw [sup_next inp hcase.1 hlt]
      refine .repMore (hgap s first ha) hb ?_
      simp only [List.append_nil]
      exact ih (adv s 1) false acc ha (by simp only [adv]; omega) (by simp only [adv]; omega)

theorem skipSem : SkipSem G := by
  intro inp a e subs s hpat ha hp
  obtain ⟨inner, anyN, t, x, k, he, ⟨m, sm, hany, hsil⟩, hx, hcol, hflag⟩ := hpat
  subst he hany
  obtain ⟨new, e1, s1⟩ := collect_sem G inp k x [] subs hcol
  simp only [List.nil_append] at e1
  subst e1
  have hin : ∀ s : S0, ∃ r, Conv G inp inner s r ∧ okOf r = some (anyAt inp subs s.pos) := by
    rcases hx with rfl | ⟨n, m', sm', rfl⟩
    · exact s1
    · exact fun s => conv_rule_okOf G inp (s1 { s with atomic := ruleAtomic n m' s.atomic })
  exact big_conv.1 (.repE (loop_conv G inp hflag (fun s ha => body_conv G inp hsil hflag hin s ha)
    (inp.size - s.pos) s true [] ha hp (Nat.le_refl _)))

theorem skipPass_cases (rules : List Rule) (fuel : Nat) (e : Expr) :
    Opt.skipPass rules fuel e = e ∨
    ∃ inner right t x subs, e = .rep (.group (.seq [.notP inner, right]) t) ∧
      (Opt.isAnyNode right = true ∨ ∃ tg, right = .ident "ANY" tg) ∧
      (x = inner ∨ ∃ n m sm, inner = .rule n m sm x) ∧
      Opt.skipCollect rules fuel x [] = some subs ∧ Opt.skipPass rules fuel e = .skipUntil subs := by
  unfold Opt.skipPass
  split
  · rename_i inner right t
    split
    · rename_i n m sm body
      split
      · rename_i hany
        split
        · rename_i subs hc
          exact Or.inr ⟨_, _, _, body, subs, rfl, Or.inl hany, Or.inr ⟨_, _, _, rfl⟩, hc, rfl⟩
        · exact Or.inl rfl
      · split
        · rename_i tg
          split
          · rename_i subs hc
            exact Or.inr ⟨_, _, _, _, subs, rfl, Or.inr ⟨_, rfl⟩, Or.inl rfl, hc, rfl⟩
          · exact Or.inl rfl
        · exact Or.inl rfl
    · dsimp only
      generalize hc : (Opt.isAnyNode right || _) = c
      cases c with
      | false => exact Or.inl (if_neg Bool.false_ne_true)
      | true =>
        rw [if_pos rfl]
        split
        · rename_i subs hcol
          refine Or.inr ⟨_, _, _, _, subs, rfl, ?_, Or.inl rfl, hcol, rfl⟩
          simp only [Bool.or_eq_true] at hc
          rcases hc with h | h
          · exact Or.inl h
          · right
            split at h
            · exact ⟨_, rfl⟩
            · simp at h
        · exact Or.inl rfl
  · exact Or.inl rfl

theorem isAnyNode_inv {right : Expr} (h : Opt.isAnyNode right = true) :
    ∃ m sm b, right = .rule "ANY" m sm b := by
  unfold Opt.isAnyNode at h
  split at h
  · exact ⟨_, _, _, rfl⟩
  · simp at h

variable {F : Feat} {sg : String → Option (String × Nat)}

theorem TR.skipUntil_inv {a : Bool} {subs : List Str} {x' : Expr} (h : TR F G a (.skipUntil subs) x') :
    x' = .skipUntil subs := by
  cases h with
  | term _ => rfl
  | skip _ hpat =>
    obtain ⟨_, _, _, _, _, he, _⟩ := hpat
    cases he

theorem skipPass_TR (hF : F.skip = true) {a : Bool} (hflag : a = true ∨ NoTrivia G) (k : Nat) (e : Expr)
    (he : AllN (NodeOK sg) e) :
    TR F G a e (Opt.mapTopDown (Opt.skipPass G.rules 200) k e) := by
  refine topDown_TR (Opt.skipPass G.rules 200) a (fun e => AllN (NodeOK sg) e)
    ?_ (fun x hx => fun c hc => AllN.children hx c hc)
    (fun n m sm b h => ruleAtomic_id (NodeOK.bits h.1) (NodeOK.notTrivia h.1) a) ?_ k e he
  · intro e he
    rcases skipPass_cases G.rules 200 e with h | ⟨_, _, _, _, subs, _, _, _, _, hres⟩
    · rw [h]; exact he
    · rw [hres]; exact trivial
  · intro e x' he htr
    rcases skipPass_cases G.rules 200 e with h | ⟨inner, right, t, x, subs, hshape, hany, hx, hcol, hres⟩
    · rw [h] at htr; exact htr
    · rw [hres] at htr
      have := TR.skipUntil_inv G htr
      subst this
      subst hshape
      have hseq := he.2.2.2
      have hright : AllN (NodeOK sg) right := hseq.2.1
      refine .skip hF ⟨inner, right, t, x, 200, rfl, ?_, hx, hcol, hflag⟩
      rcases hany with hany | ⟨tg, rfl⟩
      · obtain ⟨m, sm, b, rfl⟩ := isAnyNode_inv hany
        have hn : NodeOK sg (.rule "ANY" m sm b) := hright.1
        have hb := hn.anyBody
        subst hb
        exact ⟨m, sm, rfl, (hn.plainSilent (by decide)).1⟩
      · have hn : NodeOK sg (.ident "ANY" tg) := hright
        exact absurd rfl hn.1

end OptS
end Pest
