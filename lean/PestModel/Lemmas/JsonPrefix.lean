/-
  Lemmas/JsonPrefix.lean — the input is a *proper prefix* of a rendered document: `RestAt inp p rem` then says that
  the input from `p` on is `rem` *and ends there*, and `rem <+: expected` where it was cut.  Whitespace, items
  (`ItemOut`) and `open ~ item ~ ("," ~ item)* ~ close` on such an input, for arrays and objects of both grammars at
  once (an item is described by its text only).
-/
import PestModel.Lemmas.JsonDoc

namespace Pest
namespace Json
open L0

variable {g : Grammar} {inp : Input}

theorem prefix_append_cases {α : Type} : ∀ {a p b : List α}, p <+: a ++ b →
    (p <+: a ∧ p.length < a.length) ∨ ∃ p', p = a ++ p' ∧ p' <+: b
  | [], p, b, h => Or.inr ⟨p, rfl, by simpa using h⟩
  | x :: a, [], b, _ => Or.inl ⟨List.nil_prefix, by simp⟩
  | x :: a, y :: p, b, h => by
    have h' : y :: p <+: x :: (a ++ b) := h
    obtain ⟨hxy, hp⟩ := List.cons_prefix_cons.mp h'
    subst hxy
    rcases prefix_append_cases hp with ⟨h1, h2⟩ | ⟨p', h1, h2⟩
    · exact Or.inl ⟨List.cons_prefix_cons.mpr ⟨rfl, h1⟩, by simpa using h2⟩
    · exact Or.inr ⟨p', by simp [h1], h2⟩

theorem prefix_of_proper_snoc {α : Type} {a p : List α} {x : α} (h : p <+: a ++ [x]) (hne : p ≠ a ++ [x]) :
    p <+: a := by
  rcases prefix_append_cases h with ⟨h1, _⟩ | ⟨p', h1, h2⟩
  · exact h1
  · cases p' with
    | nil => simp [h1]
    | cons y p'' =>
      obtain ⟨hy, hp⟩ := List.cons_prefix_cons.mp h2
      have : p'' = [] := List.prefix_nil.mp hp
      subst this; subst hy
      exact absurd h1 hne

theorem proper_prefix_length {α : Type} {p x : List α} (h : p <+: x) (hne : p ≠ x) : p.length < x.length :=
  Nat.lt_of_le_of_ne h.length_le fun he => hne (h.eq_of_length he)

theorem headIs_of_prefix {P : CP → Prop} {p T : Str} (h : p <+: T) (hT : HeadIs P T) : HeadIs P p := by
  cases p with
  | nil => trivial
  | cons c p' =>
    cases T with
    | nil => simp at h
    | cons d T' =>
      obtain ⟨hcd, _⟩ := List.cons_prefix_cons.mp h
      subst hcd; exact hT

theorem wsText_prefix {p : Str} {w : Ws} (h : p <+: wsText w) : ∃ w' : Ws, p = wsText w' ∧ w'.length ≤ w.length := by
  refine ⟨w.take p.length, ?_, by simp; omega⟩
  have := List.prefix_iff_eq_take.mp h
  rw [this]
  simp [wsText, List.map_take]

theorem startsWithAt_prefix (x : Str) (p : Nat) (rest : Str) (h : startsWithAt inp x p = true)
    (hr : RestAt inp p rest) : x <+: rest :=
  hr ▸ (Prim.startsWithAt_iff.1 h).2

theorem big_lit_short {s : S0} {x p : Str} (h : RestAt inp s.pos p) (hp : p <+: x) (hne : p ≠ x) :
    Big g inp (.expr (.str x)) s .fail := by
  apply big_str_fail
  cases hb : startsWithAt inp x s.pos with
  | false => rfl
  | true =>
    exact absurd (proper_prefix_length hp hne) (Nat.not_lt_of_le (startsWithAt_prefix x s.pos p hb h).length_le)

/-- implicit whitespace when the input may end inside it.  The last two conjuncts (if anything follows, the whitespace
    was all there; the lengths add up) are for the callers that have to know that what came before the cut was matched
    whole: `itemOut_pair`, `doc_prefix_at`. -/
theorem skip_prefix (hg : WsRules g) {s : S0} (hna : s.atomic = false) (w : Ws) {T rem : Str}
    (hT : HeadIs (fun c => ¬ IsWs c) T) (hr : RestAt inp s.pos rem) (hp : rem <+: wsText w ++ T) :
    ∃ k rem', k ≤ w.length ∧ Big g inp .skip s (.ok (adv s k) []) ∧ RestAt inp (s.pos + k) rem' ∧ rem' <+: T ∧
      (rem' ≠ [] → k = w.length) ∧ rem.length = k + rem'.length := by
  rcases prefix_append_cases hp with ⟨h1, _⟩ | ⟨rem', h1, h2⟩
  · obtain ⟨w', hw', hlen⟩ := wsText_prefix h1
    subst hw'
    have hsk := evSkip_ws hg hna w' (r := []) (by simpa using hr) trivial
    refine ⟨w'.length, [], hlen, hsk, ?_, List.nil_prefix, fun h => absurd rfl h, by simp⟩
    have := (show RestAt inp s.pos (wsText w' ++ []) by simpa using hr).advance
    simpa using this
  · subst h1
    have hsk := evSkip_ws hg hna w hr (headIs_of_prefix h2 hT)
    refine ⟨w.length, rem', Nat.le_refl _, hsk, ?_, h2, fun _ => rfl, by simp⟩
    simpa using hr.advance

/-- after a truncated number: something that is neither whitespace nor a comma nor a closing
    bracket (or the end of the input) -/
def JunkCh (c : CP) : Prop := ¬ IsWs c ∧ c ≠ 44 ∧ c ≠ 93 ∧ c ≠ 125

def JunkAt (inp : Input) (s : S0) : Prop := ∃ L, RestAt inp s.pos L ∧ HeadIs JunkCh L

def Blocked (g : Grammar) (inp : Input) (c : CP) (s : S0) : Prop :=
  ∃ s2, Big g inp .skip s (.ok s2 []) ∧ Big g inp (.expr (.str [c])) s2 .fail

theorem JunkAt.skip (hg : WsRules g) {s : S0} (hna : s.atomic = false) (h : JunkAt inp s) :
    Big g inp .skip s (.ok s []) := by
  obtain ⟨L, hL, hh⟩ := h
  have := evSkip_ws hg hna [] (r := L) (by simpa [wsText] using hL) (hh.mono fun _ h => h.1)
  simpa [adv_zero] using this

theorem JunkAt.lit_fail {s : S0} (h : JunkAt inp s) {c : CP} (hc : c = 44 ∨ c = 93 ∨ c = 125) :
    Big g inp (.expr (.str [c])) s .fail := by
  obtain ⟨L, hL, hh⟩ := h
  apply rej_str _ _ _ _ hL
  apply hh.mono
  intro d hd e
  rcases hc with rfl | rfl | rfl
  · exact hd.2.1 e
  · exact hd.2.2.1 e
  · exact hd.2.2.2 e

theorem JunkAt.comma_fail {s : S0} (h : JunkAt inp s) {e : Expr} : Big g inp (.expr (commaOf e)) s .fail := by
  obtain ⟨L, hL, hh⟩ := h
  exact big_commaOf_fail_head hL (hh.mono fun _ hd => hd.2.1)

theorem JunkAt.blocked (hg : WsRules g) {s : S0} (hna : s.atomic = false) (h : JunkAt inp s) {c : CP}
    (hc : c = 93 ∨ c = 125) : Blocked g inp c s :=
  ⟨s, h.skip hg hna, h.lit_fail (Or.inr hc)⟩

/-- **the three outcomes of an item on a possibly truncated input**: `e` (`value` or `pair`) is run in `s`, where the
    text `X` of the item is expected, followed by `T`, and `rem <+: X ++ T` is there.  It fails; or it succeeds
    somewhere and junk follows (what `number` does on a truncated number); or `X` is all there and it is matched
    exactly. -/
def ItemAt (g : Grammar) (inp : Input) (e : Expr) (X : Str) (s : S0) (rem T : Str) : Prop :=
  Big g inp (.expr e) s .fail
  ∨ (∃ s2 ps, Big g inp (.expr e) s (.ok s2 ps) ∧ s2.atomic = false ∧ JunkAt inp s2)
  ∨ (∃ ps rem', Big g inp (.expr e) s (.ok (adv s X.length) ps) ∧ RestAt inp (s.pos + X.length) rem' ∧ rem' <+: T ∧
      rem.length = X.length + rem'.length)

def ItemOut (g : Grammar) (inp : Input) (e : Expr) (X : Str) : Prop :=
  ∀ (s : S0) (rem T : Str), s.atomic = false → HeadIs ValFollow T → RestAt inp s.pos rem → rem <+: X ++ T →
    ItemAt g inp e X s rem T

def GoodItem (g : Grammar) (inp : Input) (e : Expr) (it : Item) : Prop :=
  ItemOut g inp e it.2.1 ∧ NonWsStart it.2.1

theorem item_step (hg : WsRules g) {e : Expr} {w1 : Ws} {X : Str} {w2 : Ws} (hX : GoodItem g inp e (w1, X, w2))
    {s : S0} (hna : s.atomic = false) {rem T : Str} (hT : HeadIs ValFollow T)
    (hr : RestAt inp s.pos rem) (hp : rem <+: wsText w1 ++ (X ++ T)) :
    ∃ s1 rem1, Big g inp .skip s (.ok s1 []) ∧ s1.atomic = false ∧ ItemAt g inp e X s1 rem1 T := by
  obtain ⟨hout, hXws⟩ := hX
  obtain ⟨k, rem1, _, hsk, hr1, hp1, _, _⟩ := skip_prefix hg hna w1 (T := X ++ T) (hXws.head T) hr hp
  exact ⟨adv s k, rem1, hsk, hna, hout (adv s k) rem1 T hna hT hr1 hp1⟩

/-- **the loop `("," ~ item)*` on a truncated input.**  Entered at the comma (`first`) or right
    after the previous item (`wprev` before the comma); the input ends somewhere in what is
    expected to follow.  The loop succeeds and stops in a state from which the closing bracket
    `c` does not follow. -/
theorem rep_trunc (hg : WsRules g) (e : Expr) (c : CP) (hc : c = 93 ∨ c = 125) :
    ∀ (items : List Item), (∀ it ∈ items, GoodItem g inp e it) →
      ∀ (first : Bool) (s : S0) (wprev : Ws) (acc : List Pair) (rem : Str),
        s.atomic = false → (first = true → wprev = []) → RestAt inp s.pos rem →
        rem <+: tailText wprev items →
        ∃ s_end ps, Big g inp (.rep (commaOf e) first acc) s (.ok s_end ps) ∧ s_end.atomic = false ∧
          Blocked g inp c s_end := by
  intro items
  induction items with
  | nil =>
    intro _ first s wprev acc rem hna hfirst hr hp
    obtain ⟨k, rem', hk, hsk, hr', hp', _, _⟩ :=
      skip_prefix hg hna wprev (T := []) trivial hr (by rw [List.append_nil]; exact hp)
    have hnil : rem' = [] := List.prefix_nil.mp hp'
    subst hnil
    have hfail : Big g inp (.expr (commaOf e)) (adv s k) .fail := big_commaOf_fail_head (r := []) hr' trivial
    have hk0 : first = true → k = 0 := fun hf => Nat.eq_zero_of_le_zero (by rw [hfirst hf] at hk; exact hk)
    exact ⟨s, acc, rep_halt hk0 hsk hfail, hna, ⟨adv s k, hsk, rej_str _ _ _ [] hr' trivial⟩⟩
  | cons it rest ih =>
    intro hitems first s wprev acc rem hna hfirst hr hp
    obtain ⟨w1, X, w2⟩ := it
    obtain ⟨hX, hrest⟩ := List.forall_mem_cons.mp hitems
    obtain ⟨k, rem1, hk, hsk, hr1, hp1, _, _⟩ :=
      skip_prefix hg hna wprev (T := 44 :: (wsText w1 ++ (X ++ tailText w2 rest))) not_ws_44 hr hp
    have hk0 : first = true → k = 0 := fun hf => Nat.eq_zero_of_le_zero (by rw [hfirst hf] at hk; exact hk)
    have c44 : (44 : CP) ≠ c := (close_ne_comma hc).symm
    -- when this iteration fails the loop stops in `s`; the bracket does not follow
    have stop_here : Big g inp (.expr (commaOf e)) (adv s k) .fail → HeadIs (fun d => d ≠ c) rem1 →
        ∃ s_end ps, Big g inp (.rep (commaOf e) first acc) s (.ok s_end ps) ∧ s_end.atomic = false ∧
          Blocked g inp c s_end := fun hfail hcl =>
      ⟨s, acc, rep_halt hk0 hsk hfail, hna, ⟨adv s k, hsk, rej_str _ _ _ _ hr1 hcl⟩⟩
    cases rem1 with
    | nil => exact stop_here (big_commaOf_fail_head (r := []) hr1 trivial) trivial
    | cons d rem2 =>
      obtain ⟨hd, hp2⟩ := List.cons_prefix_cons.mp hp1
      subst hd
      have hcomma := big_str1_ok (g := g) (s := adv s k) hr1
      obtain ⟨s1, _, hsk2, hna1, hout⟩ :=
        item_step hg hX (s := adv (adv s k) 1) hna (tailText_head w2 rest)
          hr1.tail hp2
      rcases hout with hF | ⟨s2, ps, hS, hna2, hJ⟩ | ⟨ps, rem', hC, hr', hp', _⟩
      · exact stop_here (.group (.seqE rfl (.seqMore hcomma hsk2 (.seqStop hF rfl)))) c44
      · have hstop : Big g inp (.rep (commaOf e) false (acc ++ ps)) s2 (.ok s2 (acc ++ ps)) :=
          .repStop (.gapSkip (hJ.skip hg hna2)) hJ.comma_fail rfl
        exact ⟨s2, _, rep_enter hk0 hsk (big_commaOf_ok hr1 hsk2 hS) hstop, hna2, hJ.blocked hg hna2 hc⟩
      · obtain ⟨s_end, ps', h1, h2, h3⟩ := ih hrest false (adv s1 X.length) w2 (acc ++ ps) rem' hna1 (by simp) hr' hp'
        exact ⟨s_end, ps', rep_enter hk0 hsk (big_commaOf_ok hr1 hsk2 hC) h1, h2, h3⟩

/-- **`open ~ item ~ ("," ~ item)* ~ close` fails when the closing bracket is missing**: the
    input ends somewhere in the items. -/
theorem chain_fail (hg : WsRules g) (e : Expr) (o c : CP) (hc : c = 93 ∨ c = 125)
    (w1 : Ws) (X : Str) (w2 : Ws) (rest : List Item)
    (hitems : ∀ it ∈ (w1, X, w2) :: rest, GoodItem g inp e it)
    {s : S0} (hna : s.atomic = false) {rem : Str} (hr : RestAt inp s.pos (o :: rem))
    (hp : rem <+: wsText w1 ++ (X ++ tailText w2 rest)) :
    Big g inp (.expr (.seq [(.str [o]), e, (.rep (commaOf e)), (.str [c])])) s .fail := by
  obtain ⟨hX, hrest⟩ := List.forall_mem_cons.mp hitems
  have hopen := big_str1_ok (g := g) hr
  obtain ⟨s1, _, hsk1, hna1, hout⟩ :=
    item_step hg hX (s := adv s 1) hna (tailText_head w2 rest) hr.tail hp
  refine .seqE rfl ?_
  rcases hout with hF | ⟨s2, ps, hS, hna2, hJ⟩ | ⟨ps, rem', hC, hr', hp', _⟩
  · exact .seqMore hopen hsk1 (.seqStop hF rfl)
  · -- a truncated number: no comma, no bracket
    have hrep : Big g inp (.expr (.rep (commaOf e))) s2 (.ok s2 []) :=
      .repE (.repStop .gapFirst hJ.comma_fail rfl)
    exact .seqMore hopen hsk1 (.seqMore hS (hJ.skip hg hna2) (.seqMore hrep (hJ.skip hg hna2)
      (.seqStop (hJ.lit_fail (Or.inr hc)) rfl)))
  · -- the first item is complete: whitespace, then the loop, then no bracket
    rw [tailText_split] at hp'
    obtain ⟨k, rem2, _, hsk2, hr2, hp2, _, _⟩ :=
      skip_prefix hg (s := adv s1 X.length) hna1 w2 (tailText_nil_head rest) hr' hp'
    obtain ⟨s_end, ps', h1, h2, ⟨s3, hsk3, hcl⟩⟩ :=
      rep_trunc hg e c hc rest hrest true (adv (adv s1 X.length) k) [] [] rem2 hna1
        (fun _ => rfl) hr2 hp2
    exact .seqMore hopen hsk1 (.seqMore hC hsk2 (.seqMore (.repE h1) hsk3 (.seqStop hcl rfl)))

theorem empty_alt_fail (hg : WsRules g) (o c : CP) (w : Ws) {T : Str} (hT : HeadIs (fun d => ¬ IsWs d ∧ d ≠ c) T)
    {s : S0} (hna : s.atomic = false) {rem : Str} (hr : RestAt inp s.pos (o :: rem))
    (hp : rem <+: wsText w ++ T) : Big g inp (.expr (.seq [(.str [o]), (.str [c])])) s .fail := by
  have hopen := big_str1_ok (g := g) hr
  obtain ⟨k, rem1, _, hsk, hr1, hp1, _, _⟩ :=
    skip_prefix hg (s := adv s 1) hna w (T := T) (hT.mono fun _ h => h.1) hr.tail hp
  exact .seqE rfl (.seqMore hopen hsk (.seqStop
    (rej_str _ _ _ _ hr1 (headIs_of_prefix hp1 (hT.mono fun _ h => h.2))) rfl))

end Json
end Pest
