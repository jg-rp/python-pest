/-
  Lemmas/FrontParseLex.lean — the three lexeme classes whose tokens carry a spelling (numbers, integers,
  character literals), on the parser's side and with no syntax tree: what the scanner guarantees of the
  lexeme (`IsDigits`, `IsIntLit`, `IsCharLit`, Lemmas/FrontScanBase.lean), what the parser computes from it
  (`pyInt ∘ intLiteral`: `lstrip("0") or "0"`, then `int()` [`fix:` commit 6f76b47]; `unescape ∘
  stripQuotes`), and how a number is printed (`natDigits`).  Both the totality proof (Lemmas/FrontTotalParse.lean)
  and the C10 proofs (Lemmas/FrontCstLex.lean: the same against `abs` and the spelling relations) read off it.

  Normal forms, on a digit string `w`: `stripZeros w = natDigits (digitsVal w)` (`stripZeros_eq`), hence
  `int()` of the significant digits (`pyInt_sig`).  On a character lexeme: `charLit_nf` (it decodes to one
  code point it spells, or its escape is out of range).
-/
import PestModel.Front.AstText2
import PestModel.Lemmas.FrontScanBase

namespace Pest
namespace Front

theorem lstrip0_cons_zero (r : Text) : lstrip0 (48 :: r) = lstrip0 r := by
  simp [lstrip0]

theorem lstrip0_cons_ne {c : Nat} (r : Text) (h : c ≠ 48) : lstrip0 (c :: r) = c :: r := by
  unfold lstrip0
  split
  · rename_i heq; cases heq; exact absurd rfl h
  · rfl

theorem lstrip0_nil : lstrip0 [] = [] := by
  unfold lstrip0
  rfl

theorem lstrip0_mem : ∀ (v : Text), ∀ c ∈ lstrip0 v, c ∈ v
  | [], c, h => by rw [lstrip0_nil] at h; exact h
  | d :: r, c, h => by
    by_cases hd : d = 48
    · subst hd
      rw [lstrip0_cons_zero] at h
      exact List.mem_cons_of_mem _ (lstrip0_mem r c h)
    · rw [lstrip0_cons_ne r hd] at h; exact h

theorem lstrip0_head : ∀ (v : Text), (lstrip0 v).head? ≠ some 48
  | [] => by rw [lstrip0_nil]; simp
  | d :: r => by
    by_cases hd : d = 48
    · subst hd; rw [lstrip0_cons_zero]; exact lstrip0_head r
    · rw [lstrip0_cons_ne r hd]; simpa using hd

theorem digitsVal_cons_zero (r : Text) : digitsVal (48 :: r) = digitsVal r := by
  simp [digitsVal]

theorem digitsVal_lstrip0 : ∀ (v : Text), digitsVal (lstrip0 v) = digitsVal v
  | [] => by rw [lstrip0_nil]
  | d :: r => by
    by_cases hd : d = 48
    · subst hd; rw [lstrip0_cons_zero, digitsVal_cons_zero]; exact digitsVal_lstrip0 r
    · rw [lstrip0_cons_ne r hd]

theorem digitsVal_stripZeros (v : Text) : digitsVal (stripZeros v) = digitsVal v := by
  unfold stripZeros
  simp only
  split
  · rename_i h
    have : lstrip0 v = [] := by simpa using h
    rw [← digitsVal_lstrip0 v, this]; rfl
  · exact digitsVal_lstrip0 v

/-- a decimal numeral without superfluous zeros: `0`, or starting with `1`–`9` -/
def Canonical (ds : Text) : Prop :=
  ds = [48] ∨ ∃ d r, ds = d :: r ∧ 49 ≤ d ∧ d ≤ 57 ∧ ∀ c ∈ r, isDigit c = true

theorem isDigit_iff (c : Nat) : isDigit c = true ↔ 48 ≤ c ∧ c ≤ 57 := by
  simp [isDigit]

theorem stripZeros_canonical {v : Text} (h : ∀ c ∈ v, isDigit c = true) : Canonical (stripZeros v) := by
  unfold stripZeros
  simp only
  split
  · exact .inl rfl
  · rename_i hne
    cases hl : lstrip0 v with
    | nil => rw [hl] at hne; simp at hne
    | cons d r =>
      have hd : d ≠ 48 := by
        have := lstrip0_head v
        rw [hl] at this
        simpa using this
      have hdig : ∀ c ∈ d :: r, isDigit c = true := fun c hc => h c (lstrip0_mem v c (hl ▸ hc))
      have := (isDigit_iff d).1 (hdig d (by simp))
      exact .inr ⟨d, r, rfl, by omega, this.2, fun c hc => hdig c (by simp [hc])⟩

theorem splitSign_neg (r : Text) : splitSign (45 :: r) = ([45], r) := rfl

theorem splitSign_pos {v : Text} (h : v.head? ≠ some 45) : splitSign v = ([], v) := by
  unfold splitSign
  split
  · rename_i heq; simp at h
  · rfl

theorem intLiteral_neg (r : Text) : intLiteral (45 :: r) = 45 :: stripZeros r := by
  simp [intLiteral, splitSign_neg]

theorem intLiteral_pos {v : Text} (h : v.head? ≠ some 45) : intLiteral v = stripZeros v := by
  simp [intLiteral, splitSign_pos h]

theorem head_ne_minus_of_digits {v : Text} (h : ∀ c ∈ v, isDigit c = true) : v.head? ≠ some 45 := by
  cases v with
  | nil => simp
  | cons c r =>
    have := h c (by simp)
    simp only [List.head?_cons, ne_eq, Option.some.injEq]
    intro e; subst e; revert this; decide


namespace PRT

theorem div10_lt {n : Nat} (h : ¬ n < 10) : n / 10 < n :=
  Nat.div_lt_self (Nat.lt_of_lt_of_le (by decide) (Nat.le_of_not_lt h)) (by decide)

theorem div10_pos {n : Nat} (h : ¬ n < 10) : 0 < n / 10 :=
  Nat.div_pos (Nat.le_of_not_lt h) (by decide)

theorem natDigitsAux_append : ∀ (fuel n : Nat) (acc acc' : List Nat),
    natDigitsAux fuel n (acc ++ acc') = natDigitsAux fuel n acc ++ acc'
  | 0, _, _, _ => rfl
  | fuel + 1, n, acc, acc' => by
    unfold natDigitsAux
    by_cases hn : n < 10
    · rw [if_pos hn, if_pos hn]; rfl
    · rw [if_neg hn, if_neg hn]
      exact natDigitsAux_append fuel (n / 10) ((48 + n % 10) :: acc) acc'

theorem natDigitsAux_fuel : ∀ (f1 f2 n : Nat) (acc : List Nat), n < f1 → n < f2 →
    natDigitsAux f1 n acc = natDigitsAux f2 n acc
  | 0, _, _, _, h, _ => absurd h (Nat.not_lt_zero _)
  | _, 0, _, _, _, h => absurd h (Nat.not_lt_zero _)
  | f1 + 1, f2 + 1, n, acc, h1, h2 => by
    unfold natDigitsAux
    by_cases hn : n < 10
    · rw [if_pos hn, if_pos hn]
    · rw [if_neg hn, if_neg hn]
      exact natDigitsAux_fuel f1 f2 (n / 10) _ (Nat.lt_of_lt_of_le (div10_lt hn) (Nat.le_of_lt_succ h1))
        (Nat.lt_of_lt_of_le (div10_lt hn) (Nat.le_of_lt_succ h2))

theorem natDigits_lt {n : Nat} (h : n < 10) : natDigits n = [48 + n] := by
  unfold natDigits natDigitsAux
  rw [if_pos h]

theorem natDigits_ge {n : Nat} (h : ¬ n < 10) : natDigits n = natDigits (n / 10) ++ [48 + n % 10] := by
  unfold natDigits
  rw [natDigitsAux, if_neg h, ← natDigitsAux_append, List.nil_append]
  exact natDigitsAux_fuel _ _ _ _ (div10_lt h) (Nat.lt_succ_self _)

theorem digitsVal_append (l : List Nat) (d : Nat) : digitsVal (l ++ [d]) = 10 * digitsVal l + (d - 48) := by
  unfold digitsVal
  rw [List.foldl_append]
  rfl

theorem natDigits_digits (n : Nat) : ∀ d ∈ natDigits n, isDigit d = true := by
  induction n using Nat.strongRecOn with
  | _ n ih =>
    by_cases h : n < 10
    · rw [natDigits_lt h]
      intro d hd
      rw [List.mem_singleton.mp hd]
      exact (isDigit_iff _).2 ⟨Nat.le_add_right _ _, by omega⟩
    · rw [natDigits_ge h]
      intro d hd
      rcases List.mem_append.mp hd with hd | hd
      · exact ih (n / 10) (div10_lt h) d hd
      · rw [List.mem_singleton.mp hd]
        exact (isDigit_iff _).2 ⟨Nat.le_add_right _ _, by omega⟩

theorem natDigits_ne_nil (n : Nat) : natDigits n ≠ [] := by
  by_cases h : n < 10
  · rw [natDigits_lt h]; exact List.cons_ne_nil _ _
  · rw [natDigits_ge h]; exact List.append_ne_nil_of_right_ne_nil _ (List.cons_ne_nil _ _)

theorem natDigits_val (n : Nat) : digitsVal (natDigits n) = n := by
  induction n using Nat.strongRecOn with
  | _ n ih =>
    by_cases h : n < 10
    · rw [natDigits_lt h]
      show 10 * 0 + (48 + n - 48) = n
      rw [Nat.add_sub_cancel_left, Nat.mul_zero, Nat.zero_add]
    · rw [natDigits_ge h, digitsVal_append, ih (n / 10) (div10_lt h), Nat.add_sub_cancel_left]
      exact Nat.div_add_mod n 10

theorem natDigits_head {n : Nat} (h : 0 < n) : ∃ d r, natDigits n = d :: r ∧ 49 ≤ d ∧ d ≤ 57 := by
  induction n using Nat.strongRecOn with
  | _ n ih =>
    by_cases h10 : n < 10
    · exact ⟨48 + n, [], natDigits_lt h10, by omega, by omega⟩
    · obtain ⟨d, r, e, h1, h2⟩ := ih (n / 10) (div10_lt h10) (div10_pos h10)
      exact ⟨d, r ++ [48 + n % 10], by rw [natDigits_ge h10, e]; rfl, h1, h2⟩

theorem natDigits_length_le : ∀ {k n : Nat}, 0 < k → n < 10 ^ k → (natDigits n).length ≤ k
  | 0, _, hk, _ => absurd hk (Nat.lt_irrefl _)
  | k + 1, n, _, h => by
    by_cases h10 : n < 10
    · rw [natDigits_lt h10]; exact Nat.succ_le_succ (Nat.zero_le _)
    · rw [natDigits_ge h10, List.length_append]
      have hk : 0 < k := by
        rcases Nat.eq_zero_or_pos k with rfl | hk
        · exact absurd h h10
        · exact hk
      have : n / 10 < 10 ^ k := Nat.div_lt_of_lt_mul (by rw [Nat.mul_comm]; exact h)
      exact Nat.succ_le_succ (natDigits_length_le hk this)

theorem natDigits_length {n : Nat} (h : n ≤ 4294967295) : (natDigits n).length ≤ 10 :=
  natDigits_length_le (by decide) (Nat.lt_of_le_of_lt h (by decide))

theorem natDigits_all (n : Nat) : (natDigits n).all isDigit = true :=
  List.all_eq_true.mpr (natDigits_digits n)

theorem natDigits_cons (n : Nat) :
    ∃ d ds, natDigits n = d :: ds ∧ isDigit d = true ∧ ds.all isDigit = true := by
  have h1 := natDigits_ne_nil n
  have h2 := natDigits_all n
  cases h : natDigits n with
  | nil => exact absurd h h1
  | cons d ds =>
    rw [h] at h2
    simp only [List.all_cons, Bool.and_eq_true] at h2
    exact ⟨d, ds, rfl, h2.1, h2.2⟩

theorem div_mod_digit {a b : Nat} (hb : b < 10) : (10 * a + b) / 10 = a ∧ (10 * a + b) % 10 = b := by
  rw [Nat.mul_add_div (by decide), Nat.mul_add_mod, Nat.div_eq_of_lt hb, Nat.mod_eq_of_lt hb]
  exact ⟨rfl, rfl⟩

theorem natDigits_digitsVal_aux (d : Nat) (h1 : 49 ≤ d) (h2 : d ≤ 57) : ∀ (rs : List Nat),
    (∀ c ∈ rs, isDigit c = true) → natDigits (digitsVal (d :: rs.reverse)) = d :: rs.reverse
  | [], _ => by
    have e : digitsVal [d] = d - 48 := by
      show 10 * 0 + (d - 48) = d - 48
      rw [Nat.mul_zero, Nat.zero_add]
    have hd : d - 48 < 10 := by omega
    rw [List.reverse_nil, e, natDigits_lt hd, Nat.add_sub_cancel' (Nat.le_trans (by decide) h1)]
  | c :: rs, h => by
    have ih := natDigits_digitsVal_aux d h1 h2 rs fun x hx => h x (List.mem_cons_of_mem _ hx)
    have hc := (isDigit_iff c).1 (h c (List.mem_cons_self ..))
    have hc' : c - 48 < 10 := by omega
    -- the value of the prefix is not 0, which is printed as `0`
    have hpos : ¬ 10 * digitsVal (d :: rs.reverse) + (c - 48) < 10 := by
      intro hlt
      have e : digitsVal (d :: rs.reverse) = 0 := by omega
      rw [e, natDigits_lt (by decide)] at ih
      have := (List.cons.inj ih).1
      omega
    obtain ⟨e1, e2⟩ := div_mod_digit (a := digitsVal (d :: rs.reverse)) hc'
    rw [List.reverse_cons, ← List.cons_append, digitsVal_append, natDigits_ge hpos, e1, e2, ih,
      Nat.add_sub_cancel' hc.1]

theorem natDigits_digitsVal {ds : Text} (h : Canonical ds) : natDigits (digitsVal ds) = ds := by
  rcases h with rfl | ⟨d, r, rfl, h1, h2, hr⟩
  · rfl
  · have := natDigits_digitsVal_aux d h1 h2 r.reverse fun c hc => hr c (List.mem_reverse.mp hc)
    rwa [List.reverse_reverse] at this

end PRT

open PRT (natDigits_val natDigits_digits natDigits_ne_nil natDigits_digitsVal)

theorem pyInt_digits_eq {ds : Text} (h : IsDigits ds) (neg : Bool) :
    pyInt (if neg then 45 :: ds else ds) =
      if ds.length > 4300 then some none
      else some (some (if neg then -(digitsVal ds : Int) else (digitsVal ds : Int))) := by
  obtain ⟨hne, hall⟩ := h
  have hall' : ds.all isDigit = true := List.all_eq_true.mpr hall
  cases ds with
  | nil => exact absurd rfl hne
  | cons c r =>
    cases neg
    · have hc : c ≠ 45 := fun e => by
        have := hall c (by simp)
        rw [e] at this
        revert this; decide
      unfold pyInt
      -- `let (neg, ds) := match s with …`: the first `split` names the pair, the second goes by the sign
      split
      · rename_i n ds heq
        split at heq
        · rename_i r' heq'
          cases heq'
          exact absurd rfl hc
        · cases heq
          simp only [List.isEmpty_cons, hall', Bool.not_true, Bool.or_self, Bool.false_eq_true,
            if_false]
    · simp only [pyInt, if_true, List.isEmpty_cons, hall', Bool.not_true, Bool.or_self,
        Bool.false_eq_true, if_false]

theorem stripZeros_eq {w : Text} (h : ∀ c ∈ w, isDigit c = true) : stripZeros w = natDigits (digitsVal w) := by
  rw [← digitsVal_stripZeros w, natDigits_digitsVal (stripZeros_canonical h)]

theorem pyInt_sig {w : Text} (h : ∀ c ∈ w, isDigit c = true) (neg : Bool) :
    pyInt (if neg then 45 :: stripZeros w else stripZeros w) =
      if (natDigits (digitsVal w)).length > 4300 then some none
      else some (some (if neg then -(digitsVal w : Int) else (digitsVal w : Int))) := by
  rw [stripZeros_eq h, pyInt_digits_eq ⟨natDigits_ne_nil _, natDigits_digits _⟩, natDigits_val]

theorem pyInt_intLit {v : Text} (h : IsIntLit v) : pyInt v ≠ none := by
  rcases h with h | ⟨ds, rfl, h⟩
  · have := pyInt_digits_eq h false
    simp only [Bool.false_eq_true, if_false] at this
    rw [this]; split <;> simp
  · have := pyInt_digits_eq h true
    simp only [if_true] at this
    rw [this]; split <;> simp

/-- the literal `parse_int` hands to `int()` is in `int()`'s domain -/
theorem pyInt_intLiteral {v : Text} (h : IsIntLit v) : pyInt (intLiteral v) ≠ none := by
  rcases h with h | ⟨ds, rfl, h⟩
  · have := pyInt_sig h.2 false
    rw [intLiteral_pos (head_ne_minus_of_digits h.2)]
    simp only [Bool.false_eq_true, if_false] at this
    rw [this]; split <;> simp
  · have := pyInt_sig h.2 true
    rw [intLiteral_neg]
    simp only [if_true] at this
    rw [this]; split <;> simp

section
open Unescape (unescape)

theorem stripQuotes_lit (body : Text) : stripQuotes (39 :: (body ++ [39])) = body := by
  simp [stripQuotes]

theorem charLit_nf {w : Text} (hw : IsCharLit w) :
    (∃ a, CharSpell a w ∧ unescape (stripQuotes w) = .ok [a]) ∨ unescape (stripQuotes w) = .error .range := by
  obtain ⟨body, rfl, hb⟩ := hw
  rw [stripQuotes_lit]
  rcases hb with ⟨c, rfl, hc⟩ | ⟨e, rfl, he⟩
  · exact .inl ⟨c, .raw c hc, by rw [Unescape.unescape_cons_char [] hc, Unescape.unescape_nil]; rfl⟩
  · obtain ⟨ov, hl⟩ := Unescape.escapeLen_whole.1 he
    rw [← List.append_nil e]
    cases ov with
    | none => exact .inr (Unescape.unescape_cons_lexeme_range hl [])
    | some a =>
      refine .inl ⟨a, ?_, by rw [Unescape.unescape_cons_lexeme hl, Unescape.unescape_nil]; rfl⟩
      rw [List.append_nil]
      exact .esc (Unescape.escape_iff.2 hl)

theorem unescape_charLit {v : Text} (hv : IsCharLit v) :
    (∃ c, unescape (stripQuotes v) = .ok [c]) ∨ unescape (stripQuotes v) = .error .range :=
  (charLit_nf hv).imp (fun ⟨a, _, h⟩ => ⟨a, h⟩) id

end

end Front
end Pest
