/-
  Lemmas/CharSet.lean — the three loops of `_optimize_char_class` (CharSet.lean), each with "same members" and "shape of
  the output".  Sorting the intervals (`sortIvs`): `SortedLex` is what the sort gives and is there only to yield
  `Sorted1` (sorted by lower end), which is all the merge loop needs.  Merging (`mergeGo`): the test for a gap is
  `s > merged[-1][1] + 1`, so two intervals are merged exactly when no character lies between them: merging adds nothing to
  the set (`ivMem_mergeGo`), and what stays apart has a character in between, which is `Separated`, the shape of the
  output (`separated_mergeGo`; it needs that the intervals are valid and no sortedness).  The single
  characters (`sortDedup`): same members, strictly increasing.  Props/C12.lean reads its merge family off
  `ivMem_mergeRanges`, `separated_mergeRanges`, `mem_sortDedup`/`pairwise_sortDedup`, `piecesMem_pieces`.
-/
import PestModel.CharSet

namespace Pest
namespace CharSet

theorem inIv_iff {r : Iv} {c : Nat} : inIv r c = true ↔ r.1 ≤ c ∧ c ≤ r.2 := by
  simp [inIv]

theorem ivMem_nil (c : Nat) : ivMem [] c = false := rfl

theorem ivMem_cons (r : Iv) (rs : List Iv) (c : Nat) : ivMem (r :: rs) c = (inIv r c || ivMem rs c) := by
  simp [ivMem]

theorem ivMem_iff {ivs : List Iv} {c : Nat} : ivMem ivs c = true ↔ ∃ r ∈ ivs, r.1 ≤ c ∧ c ≤ r.2 := by
  simp [ivMem, inIv]

theorem ivMem_append (xs ys : List Iv) (c : Nat) : ivMem (xs ++ ys) c = (ivMem xs c || ivMem ys c) := by
  simp [ivMem]

theorem inIv_normRange (r : Iv) (c : Nat) :
    inIv (normRange r) c = true ↔ min r.1 r.2 ≤ c ∧ c ≤ max r.1 r.2 := by
  unfold normRange
  by_cases h : r.1 > r.2
  · rw [if_pos h, inIv_iff, Nat.min_eq_right (Nat.le_of_lt h), Nat.max_eq_left (Nat.le_of_lt h)]
  · rw [if_neg h, inIv_iff, Nat.min_eq_left (Nat.le_of_not_lt h),
      Nat.max_eq_right (Nat.le_of_not_lt h)]

theorem normRange_valid (r : Iv) : (normRange r).1 ≤ (normRange r).2 := by
  unfold normRange
  by_cases h : r.1 > r.2
  · rw [if_pos h]; exact Nat.le_of_lt h
  · rw [if_neg h]; exact Nat.le_of_not_lt h

theorem ivMem_map_normRange (rs : List Iv) (c : Nat) :
    ivMem (rs.map normRange) c = true ↔ ∃ r ∈ rs, min r.1 r.2 ≤ c ∧ c ≤ max r.1 r.2 := by
  induction rs with
  | nil => simp [ivMem]
  | cons r rs ih =>
    rw [List.map_cons, ivMem_cons, Bool.or_eq_true, ih, inIv_normRange]
    simp only [List.mem_cons, or_and_right, exists_or, exists_eq_left]

theorem mem_insertIv {r y : Iv} {xs : List Iv} : y ∈ insertIv r xs ↔ y = r ∨ y ∈ xs := by
  induction xs with
  | nil => simp [insertIv]
  | cons x xs ih =>
    unfold insertIv
    by_cases h : ivLe r x = true
    · rw [if_pos h]; simp
    · rw [if_neg h, List.mem_cons, ih, List.mem_cons]
      exact or_left_comm

theorem mem_sortIvs {y : Iv} {xs : List Iv} : y ∈ sortIvs xs ↔ y ∈ xs := by
  induction xs with
  | nil => simp [sortIvs]
  | cons x xs ih => simp [sortIvs, mem_insertIv, ih]

/-- `ivMem` only sees which intervals are in the list -/
theorem ivMem_sortIvs (xs : List Iv) (c : Nat) : ivMem (sortIvs xs) c = ivMem xs c := by
  rw [Bool.eq_iff_iff, ivMem_iff, ivMem_iff]
  exact exists_congr fun r => and_congr_left fun _ => mem_sortIvs

def Sorted1 : List Iv → Prop
  | [] => True
  | x :: xs => (∀ y ∈ xs, x.1 ≤ y.1) ∧ Sorted1 xs

theorem ivLe_iff {x y : Iv} : ivLe x y = true ↔ x.1 < y.1 ∨ (x.1 = y.1 ∧ x.2 ≤ y.2) := by
  simp [ivLe]

theorem ivLe_fst {x y : Iv} (h : ivLe x y = true) : x.1 ≤ y.1 := by
  rw [ivLe_iff] at h; omega

/-- lexicographically sorted, the full post-condition of `list.sort()` -/
def SortedLex : List Iv → Prop
  | [] => True
  | x :: xs => (∀ y ∈ xs, ivLe x y = true) ∧ SortedLex xs

theorem ivLe_trans {x y z : Iv} (h1 : ivLe x y = true) (h2 : ivLe y z = true) : ivLe x z = true := by
  rw [ivLe_iff] at *; omega

theorem ivLe_total' {x y : Iv} (h : ¬ ivLe x y = true) : ivLe y x = true := by
  rw [ivLe_iff] at *; omega

theorem sortedLex_insertIv (r : Iv) {xs : List Iv} (h : SortedLex xs) : SortedLex (insertIv r xs) := by
  induction xs with
  | nil => simp [insertIv, SortedLex]
  | cons x xs ih =>
    unfold insertIv
    by_cases hle : ivLe r x = true
    · rw [if_pos hle]
      refine ⟨?_, h⟩
      intro y hy
      rcases List.mem_cons.mp hy with rfl | hy
      · exact hle
      · exact ivLe_trans hle (h.1 y hy)
    · rw [if_neg hle]
      refine ⟨?_, ih h.2⟩
      intro y hy
      rcases mem_insertIv.mp hy with rfl | hy
      · exact ivLe_total' hle
      · exact h.1 y hy

theorem sortedLex_sortIvs (xs : List Iv) : SortedLex (sortIvs xs) := by
  induction xs with
  | nil => trivial
  | cons x xs ih => exact sortedLex_insertIv x ih

theorem sorted1_of_sortedLex {xs : List Iv} (h : SortedLex xs) : Sorted1 xs := by
  induction xs with
  | nil => trivial
  | cons x xs ih => exact ⟨fun y hy => ivLe_fst (h.1 y hy), ih h.2⟩

theorem sorted1_sortIvs (xs : List Iv) : Sorted1 (sortIvs xs) :=
  sorted1_of_sortedLex (sortedLex_sortIvs xs)

theorem sorted1_merged {cur r : Iv} {rest : List Iv} (hs : Sorted1 (cur :: r :: rest)) (hi : Nat) :
    Sorted1 ((cur.1, hi) :: rest) :=
  ⟨fun y hy => hs.1 y (List.mem_cons_of_mem _ hy), hs.2.2⟩

/-- this is where `s > merged[-1][1] + 1` must be exactly right -/
theorem ivMem_mergeGo (cur : Iv) (rest : List Iv) (c : Nat) (hs : Sorted1 (cur :: rest)) :
    ivMem (mergeGo cur rest) c = (inIv cur c || ivMem rest c) := by
  induction rest generalizing cur with
  | nil => simp [mergeGo, ivMem]
  | cons r rest ih =>
    unfold mergeGo
    have hcr : cur.1 ≤ r.1 := hs.1 r (List.mem_cons_self ..)
    by_cases hgap : r.1 > cur.2 + 1
    · rw [if_pos hgap, ivMem_cons, ivMem_cons, ih r hs.2]
    · rw [if_neg hgap]
      rw [ih _ (sorted1_merged hs _), ivMem_cons, ← Bool.or_assoc]
      congr 1
      rw [Bool.eq_iff_iff]
      simp only [Bool.or_eq_true, inIv_iff]
      omega

theorem ivMem_mergeSorted (xs : List Iv) (c : Nat) (hs : Sorted1 xs) :
    ivMem (mergeSorted xs) c = ivMem xs c := by
  cases xs with
  | nil => rfl
  | cons x xs => simp only [mergeSorted]; rw [ivMem_mergeGo x xs c hs, ivMem_cons]

theorem ivMem_mergeRanges (ranges : List Iv) (c : Nat) :
    ivMem (mergeRanges ranges) c = ivMem (ranges.map normRange) c := by
  unfold mergeRanges
  rw [ivMem_mergeSorted _ _ (sorted1_sortIvs _), ivMem_sortIvs]

theorem mergeGo_lb (cur : Iv) (rest : List Iv) (hs : Sorted1 (cur :: rest)) :
    ∀ y ∈ mergeGo cur rest, cur.1 ≤ y.1 := by
  induction rest generalizing cur with
  | nil => intro y hy; simp [mergeGo] at hy; subst hy; exact Nat.le_refl _
  | cons r rest ih =>
    unfold mergeGo
    have hcr : cur.1 ≤ r.1 := hs.1 r (List.mem_cons_self ..)
    by_cases hgap : r.1 > cur.2 + 1
    · rw [if_pos hgap]
      intro y hy
      rcases List.mem_cons.mp hy with rfl | hy
      · exact Nat.le_refl _
      · exact Nat.le_trans hcr (ih r hs.2 y hy)
    · rw [if_neg hgap]
      exact ih _ (sorted1_merged hs _)

theorem mergeGo_head (cur : Iv) (rest : List Iv) :
    ∃ hd tl, mergeGo cur rest = hd :: tl ∧ hd.1 = cur.1 := by
  induction rest generalizing cur with
  | nil => exact ⟨cur, [], rfl, rfl⟩
  | cons r rest ih =>
    unfold mergeGo
    by_cases hgap : r.1 > cur.2 + 1
    · rw [if_pos hgap]; exact ⟨cur, _, rfl, rfl⟩
    · rw [if_neg hgap]
      exact ih (cur.1, max cur.2 r.2)

theorem separated_cons {a : Iv} {l : List Iv} (ha : a.1 ≤ a.2) (hl : Separated l)
    (hsep : ∀ hd tl, l = hd :: tl → a.2 + 1 < hd.1) : Separated (a :: l) := by
  cases l with
  | nil => exact ha
  | cons b rest => exact ⟨ha, hsep b rest rfl, hl⟩

theorem separated_mergeGo (cur : Iv) (rest : List Iv) (hv : ∀ y ∈ cur :: rest, y.1 ≤ y.2) :
    Separated (mergeGo cur rest) := by
  induction rest generalizing cur with
  | nil => simpa [mergeGo, Separated] using hv
  | cons r rest ih =>
    unfold mergeGo
    have hcur : cur.1 ≤ cur.2 := hv cur (List.mem_cons_self ..)
    have hr : r.1 ≤ r.2 := hv r (List.mem_cons_of_mem _ (List.mem_cons_self ..))
    have hrest : ∀ y ∈ rest, y.1 ≤ y.2 := fun y hy =>
      hv y (List.mem_cons_of_mem _ (List.mem_cons_of_mem _ hy))
    by_cases hgap : r.1 > cur.2 + 1
    · rw [if_pos hgap]
      have hsepTail : Separated (mergeGo r rest) := ih r (by
        intro y hy
        rcases List.mem_cons.mp hy with rfl | hy
        · exact hr
        · exact hrest y hy)
      refine separated_cons hcur hsepTail ?_
      intro hd tl he
      obtain ⟨hd', tl', h1, h2⟩ := mergeGo_head r rest
      rw [h1] at he
      cases he
      omega
    · rw [if_neg hgap]
      apply ih
      intro y hy
      rcases List.mem_cons.mp hy with rfl | hy
      · simp; omega
      · exact hrest y hy

theorem separated_mergeRanges (ranges : List Iv) : Separated (mergeRanges ranges) := by
  unfold mergeRanges
  have hv : ∀ y ∈ sortIvs (ranges.map normRange), y.1 ≤ y.2 := by
    intro y hy
    rw [mem_sortIvs] at hy
    obtain ⟨r, _, rfl⟩ := List.mem_map.mp hy
    exact normRange_valid r
  cases h : sortIvs (ranges.map normRange) with
  | nil => trivial
  | cons x xs => rw [h] at hv; exact separated_mergeGo x xs hv

theorem separated_pairwise {l : List Iv} (h : Separated l) :
    (∀ x ∈ l, x.1 ≤ x.2) ∧ l.Pairwise (fun x y => x.2 + 1 < y.1) := by
  induction l with
  | nil => exact ⟨by simp, List.Pairwise.nil⟩
  | cons a l ih =>
    cases l with
    | nil => exact ⟨by simpa [Separated] using h, by simp⟩
    | cons b rest =>
      obtain ⟨ha, hab, hrest⟩ := h
      obtain ⟨hv, hp⟩ := ih hrest
      refine ⟨?_, ?_⟩
      · intro x hx
        rcases List.mem_cons.mp hx with rfl | hx
        · exact ha
        · exact hv x hx
      · refine List.Pairwise.cons ?_ hp
        intro y hy
        rcases List.mem_cons.mp hy with rfl | hy
        · exact hab
        · have h1 := (List.pairwise_cons.mp hp).1 y hy
          have h2 := hv b (List.mem_cons_self ..)
          omega

theorem mem_insertDedup {c y : Nat} {xs : List Nat} : y ∈ insertDedup c xs ↔ y = c ∨ y ∈ xs := by
  induction xs with
  | nil => simp [insertDedup]
  | cons x xs ih =>
    unfold insertDedup
    by_cases h1 : c < x
    · rw [if_pos h1]; simp
    · rw [if_neg h1]
      by_cases h2 : c = x
      · rw [if_pos h2]; subst h2; simp
      · rw [if_neg h2, List.mem_cons, ih, List.mem_cons]
        exact or_left_comm

theorem mem_sortDedup {y : Nat} {xs : List Nat} : y ∈ sortDedup xs ↔ y ∈ xs := by
  induction xs with
  | nil => simp [sortDedup]
  | cons x xs ih => simp [sortDedup, mem_insertDedup, ih]

theorem pairwise_insertDedup (c : Nat) {xs : List Nat} (h : xs.Pairwise (· < ·)) :
    (insertDedup c xs).Pairwise (· < ·) := by
  induction xs with
  | nil => simp [insertDedup]
  | cons x xs ih =>
    unfold insertDedup
    obtain ⟨hx, hxs⟩ := List.pairwise_cons.mp h
    by_cases h1 : c < x
    · rw [if_pos h1]
      refine List.Pairwise.cons ?_ h
      intro y hy
      rcases List.mem_cons.mp hy with rfl | hy
      · exact h1
      · exact Nat.lt_trans h1 (hx y hy)
    · rw [if_neg h1]
      by_cases h2 : c = x
      · rw [if_pos h2]; exact h
      · rw [if_neg h2]
        refine List.Pairwise.cons ?_ (ih hxs)
        intro y hy
        rcases mem_insertDedup.mp hy with rfl | hy
        · omega
        · exact hx y hy

theorem pairwise_sortDedup (xs : List Nat) : (sortDedup xs).Pairwise (· < ·) := by
  induction xs with
  | nil => simp [sortDedup]
  | cons x xs ih => exact pairwise_insertDedup x ih

theorem any_single (ss : List Nat) (c : Nat) :
    (ss.map Piece.single).any (·.mem c) = ss.contains c := by
  induction ss with
  | nil => rfl
  | cons x xs ih =>
    rw [List.map_cons, List.any_cons, ih, List.contains_cons]
    congr 1
    simp only [Piece.mem]
    rw [Bool.eq_iff_iff, beq_iff_eq, beq_iff_eq]; exact eq_comm

theorem any_rangePiece (rs : List Iv) (c : Nat) :
    (rs.map fun r => if r.1 = r.2 then Piece.single r.1 else Piece.range r.1 r.2).any (·.mem c)
      = ivMem rs c := by
  induction rs with
  | nil => rfl
  | cons r rs ih =>
    rw [List.map_cons, List.any_cons, ih, ivMem_cons]
    congr 1
    by_cases he : r.1 = r.2
    · rw [if_pos he]
      simp only [Piece.mem, inIv]
      rw [Bool.eq_iff_iff]; simp; omega
    · rw [if_neg he]; rfl

theorem piecesMem_pieces (cls : List Nat × List Iv) (c : Nat) :
    piecesMem (pieces cls) c = classMem cls c := by
  obtain ⟨ss, rs⟩ := cls
  simp only [piecesMem, pieces, classMem, List.any_append]
  rw [any_single, any_rangePiece]

end CharSet
end Pest
