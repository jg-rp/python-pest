/-
  Lemmas/Mono.lean — fuel monotonicity of the specification L0, and convergence.

  `Ext r r'`  : `r'` extends `r` — wherever `r` gives an answer (anything but out-of-fuel), `r'`
                gives the same answer.
  `Conv`      : the fuel-independent meaning: "with enough fuel the answer is `r`".
  These are what theorems relating two *different* expressions or grammars (optimizer passes,
  C08's rewrites) are stated with, since e.g. inlining removes a level of recursion.
-/
import PestModel.Lemmas.LeafAct

namespace Pest
namespace L0

variable (g : Grammar) (inp : Input)

def Ext (r r' : Sem0) : Prop := ∀ e s, r e s ≠ .oof → r' e s = r e s

theorem Ext.refl (r : Sem0) : Ext r r := fun _ _ _ => rfl

theorem Ext.trans {a b c : Sem0} (h1 : Ext a b) (h2 : Ext b c) : Ext a c := by
  intro e s hne
  have hb := h1 e s hne
  rw [h2 e s (by rw [hb]; exact hne), hb]

theorem ruleApply_ext {r r' : Sem0} (h : Ext r r') (name : String) (mod : Nat) (body : Expr) (s : S0)
    (hne : ruleApply r name mod body s ≠ .oof) :
    ruleApply r' name mod body s = ruleApply r name mod body s := by
  unfold ruleApply at hne ⊢
  rw [h body _ fun h0 => hne (by rw [h0])]

theorem callRule_ext {r r' : Sem0} (h : Ext r r') (name : String) (s : S0)
    (hne : callRule g r name s ≠ .oof) : callRule g r' name s = callRule g r name s := by
  unfold callRule at hne ⊢
  cases hl : g.lookup name with
  | none => rfl
  | some rl => rw [hl] at hne; exact ruleApply_ext h _ _ _ _ hne

theorem trySkip_ext {r r' : Sem0} (h : Ext r r') (rl : Option Rule) (s : S0)
    (hne : trySkip r rl s ≠ .stop .oof) : trySkip r' rl s = trySkip r rl s := by
  unfold trySkip at hne ⊢
  cases rl with
  | none => rfl
  | some rl =>
    simp only [] at hne ⊢
    have : ruleApply r rl.name rl.mod rl.body s ≠ .oof := by
      intro e; rw [e] at hne; exact hne rfl
    rw [ruleApply_ext h _ _ _ _ this]

theorem skipLoop_ext {r r' : Sem0} (h : Ext r r') (ws cm : Option Rule) :
    ∀ (k k' : Nat) (s : S0) (acc : List Pair), k ≤ k' → skipLoop r ws cm k s acc ≠ .oof →
      skipLoop r' ws cm k' s acc = skipLoop r ws cm k s acc := by
  intro k
  induction k with
  | zero => intro k' s acc _ hne; exact absurd rfl hne
  | succ k ih =>
    intro k' s acc hk hne
    cases k' with
    | zero => exact absurd hk (Nat.not_succ_le_zero _)
    | succ k' =>
      dsimp only [skipLoop] at hne ⊢
      have h1 : trySkip r ws s ≠ .stop .oof := by
        intro e; rw [e] at hne; exact hne rfl
      rw [trySkip_ext h ws s h1]
      cases ht : trySkip r ws s with
      | matched s' ps => rw [ht] at hne; exact ih k' s' _ (Nat.le_of_succ_le_succ hk) hne
      | stop x => rfl
      | no =>
        rw [ht] at hne
        simp only [] at hne ⊢
        have h2 : trySkip r cm s ≠ .stop .oof := by
          intro e; rw [e] at hne; exact hne rfl
        rw [trySkip_ext h cm s h2]
        cases ht2 : trySkip r cm s with
        | matched s' ps => rw [ht2] at hne; exact ih k' s' _ (Nat.le_of_succ_le_succ hk) hne
        | stop x => rfl
        | no => rfl

theorem skip_ext {r r' : Sem0} (h : Ext r r') (k k' : Nat) (hk : k ≤ k') (s : S0)
    (hne : skip g r k s ≠ .oof) : skip g r' k' s = skip g r k s := by
  unfold skip at hne ⊢
  by_cases ha : s.atomic = true
  · simp [ha]
  · simp only [ha, Bool.false_eq_true, ↓reduceIte] at hne ⊢
    cases hf : g.fusedSkip with
    | some rl => rw [hf] at hne; exact ruleApply_ext h _ _ _ _ hne
    | none =>
      rw [hf] at hne
      simp only [] at hne ⊢
      by_cases hn : ((g.lookup "WHITESPACE").isNone && (g.lookup "COMMENT").isNone) = true
      · simp [hn]
      · simp only [hn, Bool.false_eq_true, ↓reduceIte] at hne ⊢
        exact skipLoop_ext h _ _ k k' s [] hk hne

theorem seqL_ext {r r' : Sem0} (h : Ext r r') (k k' : Nat) (hk : k ≤ k') :
    ∀ (es : List Expr) (s : S0) (acc : List Pair), seqL g r k es s acc ≠ .oof →
      seqL g r' k' es s acc = seqL g r k es s acc := by
  intro es
  induction es with
  | nil => intro s acc _; rfl
  | cons e rest ih =>
    intro s acc hne
    dsimp only [seqL] at hne ⊢
    rw [h e s fun h0 => hne (by rw [h0])]
    cases he : r e s with
    | oof => rfl
    | fail => rfl
    | stuck => rfl
    | ok s1 ps =>
      rw [he] at hne
      simp only [] at hne ⊢
      by_cases hr : rest.isEmpty = true
      · simp [hr]
      · simp only [hr, Bool.false_eq_true, ↓reduceIte] at hne ⊢
        rw [skip_ext g h k k' hk s1 fun h0 => hne (by rw [h0])]
        split
        · next hsk => rw [hsk] at hne; exact ih _ _ hne
        · next hsk => rw [hsk] at hne; exact ih _ _ hne
        · rfl

theorem choiceL_ext {r r' : Sem0} (h : Ext r r') :
    ∀ (es : List Expr) (s : S0), choiceL r es s ≠ .oof → choiceL r' es s = choiceL r es s := by
  intro es
  induction es with
  | nil => intro s _; rfl
  | cons e rest ih =>
    intro s hne
    dsimp only [choiceL] at hne ⊢
    rw [h e s fun h0 => hne (by rw [h0])]
    split
    · next he => rw [he] at hne; exact ih s hne
    · rfl

theorem repLoop_ext {r r' : Sem0} (h : Ext r r') (e : Expr) (kk kk' : Nat) (hkk : kk ≤ kk') :
    ∀ (k k' : Nat) (first : Bool) (s : S0) (acc : List Pair), k ≤ k' →
      repLoop g r e k kk first s acc ≠ .oof →
      repLoop g r' e k' kk' first s acc = repLoop g r e k kk first s acc := by
  intro k
  induction k with
  | zero => intro k' first s acc _ hne; exact absurd rfl hne
  | succ k ih =>
    intro k' first s acc hk hne
    cases k' with
    | zero => exact absurd hk (Nat.not_succ_le_zero _)
    | succ k' =>
      dsimp only [repLoop] at hne ⊢
      have hsk : (if first = true then R0.ok s [] else skip g r' kk' s)
          = (if first = true then R0.ok s [] else skip g r kk s) := by
        by_cases hf : first = true
        · simp [hf]
        · simp only [hf, Bool.false_eq_true, ↓reduceIte] at hne ⊢
          have : skip g r kk s ≠ .oof := by
            intro e; rw [e] at hne; exact hne rfl
          exact skip_ext g h kk kk' hkk s this
      rw [hsk]
      cases ha : (if first = true then R0.ok s [] else skip g r kk s) with
      | oof => simp [ha] at hne
      | fail => rfl
      | stuck => rfl
      | ok s1 tps =>
        rw [ha] at hne
        simp only [] at hne ⊢
        rw [h e s1 fun h0 => hne (by rw [h0])]
        split
        · next he => rw [he] at hne; exact ih k' false _ _ (Nat.le_of_succ_le_succ hk) hne
        · rfl
        · rfl

theorem step_ext {r r' : Sem0} (h : Ext r r') (k k' : Nat) (hk : k ≤ k') :
    Ext (step g inp k r) (step g inp k' r') := by
  intro e s hne
  cases e with
  | ident name tag => exact callRule_ext g h name s hne
  | rule name mod sm body => exact ruleApply_ext h name mod body s hne
  | seq es => exact seqL_ext g h k k' hk es s [] hne
  | choice es => exact choiceL_ext h es s hne
  | rep e => exact repLoop_ext g h e k k' hk k k' true s [] hk hne
  | rep1 e | repExact e n | repMin e n | repMax e n | repMinMax e m n =>
    exact seqL_ext g h k k' hk _ s [] hne
  | opt e | andP e | notP e | push e =>
    -- `simp only`, not `dsimp`: it leaves the equation lemmas of `step` in this module, where
    -- every importer that unfolds `step` finds them
    simp only [step] at hne ⊢
    rw [h e s fun h0 => hne (by rw [h0])]
  | group e tag => exact h e s hne
  | _ => exact step_leaf_indep rfl k' k r' r s

theorem run_succ_ext (n : Nat) : Ext (run g inp n) (run g inp (n + 1)) := by
  induction n with
  | zero => intro e s hne; exact absurd rfl hne
  | succ n ih => exact step_ext g inp ih n (n + 1) (Nat.le_succ n)

theorem run_mono {n m : Nat} (hnm : n ≤ m) : Ext (run g inp n) (run g inp m) := by
  induction hnm with
  | refl => exact Ext.refl _
  | step _ ih => exact ih.trans (run_succ_ext g inp _)

def Conv (e : Expr) (s : S0) (r : R0) : Prop := ∃ n, run g inp n e s = r ∧ r ≠ .oof

theorem Conv.mono {e : Expr} {s : S0} {r : R0} {n : Nat} (h : run g inp n e s = r) (hr : r ≠ .oof)
    {m : Nat} (hnm : n ≤ m) : run g inp m e s = r := by
  rw [run_mono g inp hnm e s (by rw [h]; exact hr), h]

theorem Conv.det {e : Expr} {s : S0} {r r' : R0} (h : Conv g inp e s r) (h' : Conv g inp e s r') :
    r = r' := by
  obtain ⟨n, hn, hr⟩ := h
  obtain ⟨m, hm, hr'⟩ := h'
  have a := Conv.mono g inp hn hr (Nat.le_max_left n m)
  have b := Conv.mono g inp hm hr' (Nat.le_max_right n m)
  rw [← a, ← b]

def EquivE (g' : Grammar) (e e' : Expr) : Prop :=
  ∀ (inp : Input) (s : S0) (r : R0), Conv g inp e s r ↔ Conv g' inp e' s r

end L0
end Pest
