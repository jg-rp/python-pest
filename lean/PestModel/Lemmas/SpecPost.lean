/-
  Lemmas/SpecPost.lean — the one induction behind every theorem of the form "a successful
  evaluation satisfies `Φ`": `Post` says what `Φ` has to be closed under, `Big.post` is the induction
  on the derivation, for every kind of job (`Big.of_eval`, `Big.of_run` of Lemmas/BigSim.lean lead
  to it from the fuelled run).
-/
import PestModel.Lemmas.Big

namespace Pest

namespace L0

variable (g : Grammar) (inp : Input)

/-- `Φ s s' ps` holds of doing nothing, composes along the pairs list, survives the wrapping of a
    rule whose header `W` accepts, and holds of the terminals; `D`, the expressions it is claimed
    for, is closed under what `step` hands on and contains the bodies of the rule table. -/
structure Post (D : Expr → Prop) (W : String → Nat → Prop) (Φ : S0 → S0 → List Pair → Prop) : Prop where
  sub : ∀ {x c}, D x → Sub x c → D c
  hdr : ∀ {n m sm b}, D (.rule n m sm b) → W n m
  table : ∀ {r}, r ∈ g.rules → W r.name r.mod ∧ D r.body
  nil : ∀ s, Φ s s []
  app : ∀ {s s1 s2 ps1 ps2}, Φ s s1 ps1 → Φ s1 s2 ps2 → Φ s s2 (ps1 ++ ps2)
  wrap : ∀ {n m s s1 s' ps1 ps} (a : Bool), W n m → Φ { s with atomic := a } s1 ps1 →
    ruleWrap n m s s1 ps1 = .ok s' ps → Φ s s' ps
  push : ∀ {s s1 ps} (x : Str), Φ s s1 ps → Φ s { s1 with stk := x :: s1.stk } ps
  leaf : ∀ {x}, isLeaf x = true → ∀ {s s' ps}, (leafAct g inp x s.pos s.stk).run0 s = .ok s' ps → Φ s s' ps

variable {g inp}

/-- what `Post` promises of each kind of job; the list jobs carry the pairs collected so far -/
def PostM (D : Expr → Prop) (W : String → Nat → Prop) (Φ : S0 → S0 → List Pair → Prop) :
    Job → S0 → R0 → Prop
  | .expr e, s, r => D e → ∀ s' ps, r = .ok s' ps → Φ s s' ps
  | .rule n m b, s, r => W n m → D b → ∀ s' ps, r = .ok s' ps → Φ s s' ps
  | .seq es acc, s, r => (∀ c ∈ es, D c) → ∀ s0 s' ps, Φ s0 s acc → r = .ok s' ps → Φ s0 s' ps
  | .choice es, s, r => (∀ c ∈ es, D c) → ∀ s' ps, r = .ok s' ps → Φ s s' ps
  | .rep e _ acc, s, r => D e → ∀ s0 s' ps, Φ s0 s acc → r = .ok s' ps → Φ s0 s' ps
  | .gap _, s, r => ∀ s' ps, r = .ok s' ps → Φ s s' ps
  | .skip, s, r => ∀ s' ps, r = .ok s' ps → Φ s s' ps
  | .loop ws cm acc, s, r => (∀ x, ws = some x → W x.name x.mod ∧ D x.body) →
      (∀ x, cm = some x → W x.name x.mod ∧ D x.body) → ∀ s0 s' ps, Φ s0 s acc → r = .ok s' ps → Φ s0 s' ps
  | .attempt ro, s, r => (∀ x, ro = some x → W x.name x.mod ∧ D x.body) → ∀ s' ps, r = .ok s' ps → Φ s s' ps

theorem Big.post {D : Expr → Prop} {W : String → Nat → Prop} {Φ : S0 → S0 → List Pair → Prop}
    (P : Post g inp D W Φ) {j : Job} {s : S0} {r : R0} (h : Big g inp j s r) : PostM D W Φ j s r := by
  induction h with
  | leaf hl => exact fun _ s' ps e => P.leaf hl e
  | identNone _ => exact fun _ _ _ e => nomatch e
  | ident hl _ ih =>
    exact fun _ s' ps e => ih (P.table (Prim.lookup_mem hl)).1 (P.table (Prim.lookup_mem hl)).2 s' ps e
  | ruleE _ ih => exact fun hd s' ps e => ih (P.hdr hd) (P.sub hd .rule) s' ps e
  | seqE hv _ ih =>
    exact fun hd s' ps e => ih (fun c hc => P.sub hd (Sub.of_seqView hv hc)) _ s' ps (P.nil _) e
  | choiceE _ ih => exact fun hd s' ps e => ih (fun c hc => P.sub hd (.choice hc)) s' ps e
  | repE _ ih => exact fun hd s' ps e => ih (P.sub hd .rep) _ s' ps (P.nil _) e
  | opt _ ih =>
    intro hd s' ps e
    rcases optK_ok e with e1 | ⟨rfl, rfl⟩
    · exact ih (P.sub hd .opt) s' ps e1
    · exact P.nil _
  | andP _ _ => intro _ s' ps e; obtain ⟨rfl, rfl⟩ := andK_ok e; exact P.nil _
  | notP _ _ => intro _ s' ps e; obtain ⟨rfl, rfl⟩ := notK_ok e; exact P.nil _
  | push _ ih =>
    intro hd s' ps e
    obtain ⟨s1, e1, rfl⟩ := pushK_ok e
    exact P.push _ (ih (P.sub hd .push) s1 ps e1)
  | group _ ih => exact fun hd s' ps e => ih (P.sub hd .group) s' ps e
  | rule _ ih =>
    intro hw hb s' ps e
    obtain ⟨s1, ps1, e1, hwr⟩ := wrapK_ok e
    exact P.wrap _ hw (ih hb s1 ps1 e1) hwr
  | seqNil => intro _ s0 s' ps hacc e; cases e; exact hacc
  | seqStop _ hok _ => intro _ s0 s' ps _ e; subst e; cases hok
  | seqLast _ ih =>
    intro hes s0 s' ps hacc e; cases e
    exact P.app hacc (ih (hes _ List.mem_cons_self) _ _ rfl)
  | seqMore _ _ _ ih1 ih2 ih3 =>
    intro hes s0 s' ps hacc e
    exact ih3 (fun c hc => hes c (List.mem_cons_of_mem _ hc)) s0 s' ps
      (P.app (P.app hacc (ih1 (hes _ List.mem_cons_self) _ _ rfl)) (ih2 _ _ rfl)) e
  | seqSkipFail _ _ _ ih1 _ ih3 =>
    intro hes s0 s' ps hacc e
    exact ih3 (fun c hc => hes c (List.mem_cons_of_mem _ hc)) s0 s' ps
      (P.app hacc (ih1 (hes _ List.mem_cons_self) _ _ rfl)) e
  | seqSkipStuck _ _ _ _ => exact fun _ _ _ _ _ e => nomatch e
  | choiceNil => exact fun _ _ _ e => nomatch e
  | choiceStop _ _ ih => exact fun hes s' ps e => ih (hes _ List.mem_cons_self) s' ps e
  | choiceNext _ _ _ ih => exact fun hes s' ps e => ih (fun c hc => hes c (List.mem_cons_of_mem _ hc)) s' ps e
  | gapFirst => intro s' ps e; cases e; exact P.nil _
  | gapSkip _ ih => exact ih
  | repGapStop _ hok _ => intro _ s0 s' ps hacc e; obtain ⟨rfl, rfl⟩ := repK_ok hok e; exact hacc
  | repStop _ _ hok _ _ => intro _ s0 s' ps hacc e; obtain ⟨rfl, rfl⟩ := repK_ok hok e; exact hacc
  | repMore _ _ _ ih1 ih2 ih3 =>
    intro hd s0 s' ps hacc e
    exact ih3 hd s0 s' ps (P.app (P.app hacc (ih1 _ _ rfl)) (ih2 hd _ _ rfl)) e
  | skipAtomic _ => intro s' ps e; cases e; exact P.nil _
  | skipNoTrivia _ _ => intro s' ps e; cases e; exact P.nil _
  | skipFused _ hf _ ih =>
    exact fun s' ps e => ih (P.table (Prim.fusedSkip_mem hf)).1 (P.table (Prim.fusedSkip_mem hf)).2 s' ps e
  | skipLoop _ _ _ _ ih =>
    exact fun s' ps e => ih (fun _ hl => P.table (Prim.lookup_mem hl)) (fun _ hl => P.table (Prim.lookup_mem hl))
      _ s' ps (P.nil _) e
  | attemptNone => exact fun _ _ _ e => nomatch e
  | attemptSome _ ih => exact fun hr s' ps e => ih (hr _ rfl).1 (hr _ rfl).2 s' ps e
  | loopWs _ _ ih1 ih2 =>
    exact fun hw hc s0 s' ps hacc e => ih2 hw hc s0 s' ps (P.app hacc (ih1 hw _ _ rfl)) e
  | loopWsStuck _ _ => exact fun _ _ _ _ _ _ e => nomatch e
  | loopCm _ _ _ _ ih2 ih3 =>
    exact fun hw hc s0 s' ps hacc e => ih3 hw hc s0 s' ps (P.app hacc (ih2 hc _ _ rfl)) e
  | loopCmStuck _ _ _ _ => exact fun _ _ _ _ _ _ e => nomatch e
  | loopDone _ _ _ _ => intro _ _ s0 s' ps hacc e; cases e; exact hacc

theorem atomic_post :
    Post g inp (fun _ => True) (fun _ _ => True) (fun s s' _ => s'.atomic = s.atomic) where
  sub _ _ := trivial
  hdr _ := trivial
  table _ := ⟨trivial, trivial⟩
  nil _ := rfl
  app h1 h2 := h2.trans h1
  wrap _ _ _ h := by rw [ruleWrap_state h]
  push _ h := h
  leaf _ _ _ _ h := (leaf_spec h).2.1

theorem Big.post_state {Φ : S0 → S0 → Prop}
    (P : Post g inp (fun _ => True) (fun _ _ => True) (fun s s' _ => Φ s s')) {j : Job} {s s' : S0}
    {ps : List Pair} (h : Big g inp j s (.ok s' ps)) : Φ s s' := by
  have hp := h.post P
  cases j with
  | expr _ => exact hp trivial _ _ rfl
  | rule _ _ _ => exact hp trivial trivial _ _ rfl
  | seq _ _ => exact hp (fun _ _ => trivial) s _ _ (P.nil s) rfl
  | choice _ => exact hp (fun _ _ => trivial) _ _ rfl
  | rep _ _ _ => exact hp trivial s _ _ (P.nil s) rfl
  | gap _ | skip => exact hp _ _ rfl
  | loop _ _ _ =>
    exact hp (fun _ _ => ⟨trivial, trivial⟩) (fun _ _ => ⟨trivial, trivial⟩) s _ _ (P.nil s) rfl
  | attempt _ => exact hp (fun _ _ => ⟨trivial, trivial⟩) _ _ rfl

theorem Big.atomic {j : Job} {s s' : S0} {ps : List Pair} (h : Big g inp j s (.ok s' ps)) :
    s'.atomic = s.atomic :=
  h.post_state atomic_post

end L0

end Pest
