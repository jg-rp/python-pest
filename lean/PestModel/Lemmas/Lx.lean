/-
  Lemmas/Lx.lean — a calculus for token rules under the specification L0, independent of any grammar.  Statements are
  indexed by the text the input continues with, and a token is derived along its expression, one rule per node.

    `RestAt inp p r`   from position `p` on, the input is `r` (and ends with it)
    `HeadIs P r`       `r` is empty or begins with a character satisfying `P`: the shape of most follow conditions

  Two forms of failure.  `Rej` is the failure on the first character: nothing is consumed and no trivia skipped, so it
  holds in every context, and it is what the document level needs of a token where another one stands (`rejKind`,
  Lemmas/JsonDoc.lean).  A failure after a partial match depends on the context and is an `Lx … false`; the rules for
  sequences and choices are stated for both outcomes, so it is derived like a match.  `Rej.lx` turns the first form into
  the second; `Lx.token_rej` leads back through an atomic rule, which sets its own context.

  A derivation starts at the terminals, follows the expression and leaves the calculus at an atomic rule: `Lx.token` is
  the `Big` derivation of the call, from any state.  Lemmas/Json.lean opens with the smallest complete examples:
  `lex_digit` (a terminal under a built-in rule), `lexR_digits` (a loop), `lex_digits1` (`e+` as `e ~ e*`);
  `lex_exNumberBody` is a sequence with the debt of each `Lx.cons` named, `ev_exNumber` the way out.  From the
  derivation to the other readings: `big_conv.1` (Lemmas/BigSim.lean) to `Conv`, `Big.ev` to "for all large fuel".

  Names.  A rule of the calculus is called after the judgement of its main premise and the node it builds (`Lx.opt`,
  `Rej.seq`, `LxS.seq`).  A fact about a particular expression says by its prefix what it concludes:
  `lex_… : Lx e X F true`, `lx_… : Lx e X F false`, `rej_… : Rej e F`, with `S` or `R` after the prefix for `LxS`, `LxR`
  (`lexS_`, `lxS_`, `lexR_`), and `big_…` a derivation of `Big` itself.  All are in the namespace `Json`, where the
  users are.
-/
import PestModel.Lemmas.Big

namespace Pest
namespace Json
open L0

/-- `omega` does not look through the abbreviation `CP := Nat` in type arguments -/
macro "cp_omega" : tactic => `(tactic| ((try unfold CP at *); omega))

theorem in_range (a : CP) {k n : Nat} (hk : k < n + 1) : a ≤ a + k ∧ a + k ≤ a + n :=
  ⟨Nat.le_add_right a k, Nat.add_le_add_left (Nat.le_of_lt_succ hk) a⟩

theorem not_in_range_of_lt {a b c : CP} (h : b < c) : ¬ (a ≤ c ∧ c ≤ b) := fun hc => Nat.not_le_of_lt h hc.2

theorem not_in_range_of_gt {a b c : CP} (h : c < a) : ¬ (a ≤ c ∧ c ≤ b) := fun hc => Nat.not_le_of_lt h hc.1

def RestAt (inp : Input) (p : Nat) (r : Str) : Prop := inp.toList.drop p = r

theorem RestAt.head? {inp : Input} {p : Nat} {r : Str} (h : RestAt inp p r) : inp[p]? = r.head? :=
  h ▸ Prim.getElem?_eq_head?_drop p

theorem RestAt.get {inp : Input} {p : Nat} {c : CP} {r : Str} (h : RestAt inp p (c :: r)) : inp[p]? = some c :=
  h.head?

theorem RestAt.get_nil {inp : Input} {p : Nat} (h : RestAt inp p []) : inp[p]? = none :=
  h.head?

theorem RestAt.lt {inp : Input} {p : Nat} {c : CP} {r : Str} (h : RestAt inp p (c :: r)) : p < inp.size := by
  have := h.get
  by_cases hp : p < inp.size
  · exact hp
  · simp [Array.getElem?_eq_none (Nat.le_of_not_lt hp)] at this

theorem RestAt.tail {inp : Input} {p : Nat} {c : CP} {r : Str} (h : RestAt inp p (c :: r)) :
    RestAt inp (p + 1) r := by
  unfold RestAt at h ⊢
  rw [← List.drop_drop, h]; rfl

theorem RestAt.advance {inp : Input} {p : Nat} : ∀ {x r : Str}, RestAt inp p (x ++ r) →
    RestAt inp (p + x.length) r
  | [], _, h => by simpa using h
  | c :: x, r, h => by
    have := RestAt.advance (p := p + 1) (x := x) (r := r) h.tail
    simpa [Nat.add_assoc, Nat.add_comm 1] using this

theorem RestAt.le {inp : Input} {p : Nat} {r : Str} (h : RestAt inp p r) (hr : r ≠ []) : p ≤ inp.size := by
  cases r with
  | nil => exact absurd rfl hr
  | cons c r => exact Nat.le_of_lt h.lt

theorem startsWithAt_of_rest {inp : Input} {x : Str} {p : Nat} {r : Str} (hp : p ≤ inp.size)
    (h : RestAt inp p (x ++ r)) : startsWithAt inp x p = true :=
  Prim.startsWithAt_iff.2 ⟨hp, h ▸ List.prefix_append x r⟩

def HeadIs (P : CP → Prop) : Str → Prop
  | [] => True
  | c :: _ => P c

theorem startsWithAt_headIs_ne {inp : Input} {p : Nat} {d : CP} {x r : Str} (h : RestAt inp p r)
    (hh : HeadIs (· ≠ d) r) : startsWithAt inp (d :: x) p = false := by
  cases r with
  | nil => simp [startsWithAt, h.get_nil]
  | cons c r => simp [startsWithAt, h.get, show c ≠ d from hh]

theorem HeadIs.mono {P Q : CP → Prop} {r : Str} (h : HeadIs P r) (hpq : ∀ c, P c → Q c) : HeadIs Q r := by
  cases r with
  | nil => trivial
  | cons c r => exact hpq c h

theorem headIs_append {P : CP → Prop} {a b : Str} (ha : a ≠ [] → HeadIs P a) (hb : a = [] → HeadIs P b) :
    HeadIs P (a ++ b) := by
  cases a with
  | nil => simpa using hb rfl
  | cons c a => exact ha (by simp)

/-! Intermediate states stay nested, `adv (adv s a) b`: the position `s.pos + a + b` is then by computation the
    left-nested sum `Json.mirror` writes for a span.  `adv_adv` flattens only where a statement asks for `adv s n`. -/

theorem adv_adv (s : S0) (a b : Nat) : adv (adv s a) b = adv s (a + b) := by
  simp [adv, Nat.add_assoc]

theorem adv_zero (s : S0) : adv s 0 = s := by simp [adv]

@[simp] theorem adv_pos (s : S0) (n : Nat) : (adv s n).pos = s.pos + n := rfl
@[simp] theorem adv_atomic (s : S0) (n : Nat) : (adv s n).atomic = s.atomic := rfl
@[simp] theorem adv_stk (s : S0) (n : Nat) : (adv s n).stk = s.stk := rfl

variable {g : Grammar} {inp : Input}

theorem big_lit_ok {s : S0} {c : CP} {x r : Str} (h : RestAt inp s.pos (c :: x ++ r)) :
    Big g inp (.expr (.str (c :: x))) s (.ok (adv s (c :: x).length) []) :=
  big_str_ok (startsWithAt_of_rest (h.le (List.cons_ne_nil _ _)) h)

theorem big_str1_ok {s : S0} {c : CP} {r : Str} (h : RestAt inp s.pos (c :: r)) :
    Big g inp (.expr (.str [c])) s (.ok (adv s 1) []) :=
  big_lit_ok (x := []) h

theorem seqMoreN {e e2 : Expr} {rest : List Expr} {s s1 s2 : S0} {acc ps : List Pair} {r : R0}
    (h : Big g inp (.expr e) s (.ok s1 ps)) (hs : Big g inp .skip s1 (.ok s2 []))
    (hr : Big g inp (.seq (e2 :: rest) (acc ++ ps)) s2 r) : Big g inp (.seq (e :: e2 :: rest) acc) s r :=
  .seqMore h hs (by rwa [List.append_nil])

theorem seqLastN {e : Expr} {s s1 : S0} {acc : List Pair} (h : Big g inp (.expr e) s (.ok s1 [])) :
    Big g inp (.seq [e] acc) s (.ok s1 acc) := by
  simpa using Big.seqLast (acc := acc) h

theorem visibleList_append : ∀ a b : List Pair, visibleList (a ++ b) = visibleList a ++ visibleList b
  | [], _ => rfl
  | p :: a, b => by simp only [List.cons_append, visibleList, visibleList_append a b, List.append_assoc]

/-- `e` fails wherever something satisfying `F` follows, from every state: atomic or not, any stack -/
def Rej (g : Grammar) (inp : Input) (e : Expr) (F : Str → Prop) : Prop :=
  ∀ (s : S0) (r : Str), RestAt inp s.pos r → F r → Big g inp (.expr e) s .fail

section rej
variable {e : Expr} {es : List Expr} {F G : Str → Prop}

theorem Rej.mono (h : Rej g inp e F) (hGF : ∀ r, G r → F r) : Rej g inp e G :=
  fun s r hr hh => h s r hr (hGF r hh)

theorem Rej.monoH {P Q : CP → Prop} (h : Rej g inp e (HeadIs P)) (hQP : ∀ c, Q c → P c) : Rej g inp e (HeadIs Q) :=
  h.mono fun _ hh => hh.mono hQP

theorem rej_str (d : CP) (x : Str) : Rej g inp (.str (d :: x)) (HeadIs (· ≠ d)) := fun _ _ hr hh =>
  big_str_fail (startsWithAt_headIs_ne hr hh)

theorem rej_range (a b : CP) : Rej g inp (.range a b) (HeadIs fun c => ¬ (a ≤ c ∧ c ≤ b)) := fun s r hr hh =>
  big_range_fail fun c hget => by
    cases r with
    | nil => simp [hr.get_nil] at hget
    | cons d r =>
      have : d = c := by simpa [hr.get] using hget
      subst this; exact hh

theorem Rej.seq (h : Rej g inp e F) : Rej g inp (.seq (e :: es)) F :=
  fun s r hr hh => .seqE rfl (.seqStop (h s r hr hh) rfl)

theorem Rej.group {t : Option String} (h : Rej g inp e F) : Rej g inp (.group e t) F :=
  fun s r hr hh => .group (h s r hr hh)

theorem Rej.rule {name : String} {mod : Nat} {sm : Bool} (h : Rej g inp e F) :
    Rej g inp (.rule name mod sm e) F :=
  fun s r hr hh => .ruleE (.rule (h { s with atomic := _ } r hr hh))

/-- A call takes the lookup up to the kind of the rule (grammar rule or built-in), which plays no part in a run: this
    is the form of the fields of `WsRules`, `TNumberRules`, `ExStringRules`, `TStringRules`; a lookup that names its
    kind is passed as `⟨_, hl⟩`.  So for `Lx.ident`, `Lx.token_rej`, `Lx.token` below. -/
theorem Rej.ident {name name' : String} {tag : Option String} {mod : Nat} {body : Expr}
    (hl : ∃ k, g.lookup name = some { name := name', mod := mod, body := body, kind := k })
    (h : Rej g inp body F) : Rej g inp (.ident name tag) F :=
  fun s r hr hh => hl.elim fun _ hl => .ident hl (.rule (h { s with atomic := _ } r hr hh))

theorem rej_choice_nil : Rej g inp (.choice []) F := fun _ _ _ _ => .choiceE .choiceNil

theorem Rej.choice (h : Rej g inp e F) (h' : Rej g inp (.choice es) F) : Rej g inp (.choice (e :: es)) F :=
  fun s r hr hh => .choiceE (.choiceNext (h s r hr hh) (h' s r hr hh).choice_inv)

end rej

/-- the answer of outcome `o` from `s` over a text of length `n`: a match of exactly that text that leaves only pairs
    an enclosing atomic rule hides (`true`), or a failure (`false`) -/
def Out (s : S0) (n : Nat) : Bool → R0 → Prop
  | true, res => ∃ ps, visibleList ps = [] ∧ res = .ok (adv s n) ps
  | false, res => res = .fail

/-- the lexical judgement, for an atomic context: wherever the input continues with `X` and then with something
    satisfying `F`, `e` consumes exactly `X` (`o = true`) or fails (`o = false`).  In a failure the
    place of the cut between `X` and what `F` speaks of carries no information (`Lx.fail_at`, `Lx.at_nil` move it); `X`
    is there so that `Lx.cons` adds up texts in the same way for both outcomes. -/
def Lx (g : Grammar) (inp : Input) (e : Expr) (X : Str) (F : Str → Prop) (o : Bool) : Prop :=
  ∀ (s : S0) (r : Str), s.atomic = true → RestAt inp s.pos (X ++ r) → F r →
    ∃ res, Big g inp (.expr e) s res ∧ Out s X.length o res

/-- `Lx` for a sequence under way, the job `.seq es acc`: `es` are the elements still to come, `acc` the pairs of those
    that have matched, which must be as invisible as the pairs the judgement yields.  `LxS.node` closes it into an `Lx`
    at `acc = []`. -/
def LxS (g : Grammar) (inp : Input) (es : List Expr) (X : Str) (F : Str → Prop) (o : Bool) : Prop :=
  ∀ (s : S0) (r : Str) (acc : List Pair), s.atomic = true → RestAt inp s.pos (X ++ r) → F r →
    visibleList acc = [] → ∃ res, Big g inp (.seq es acc) s res ∧ Out s X.length o res

/-- `Lx` for the loop of `e*`, the job `.rep e first acc`, at whichever turn it is entered (`first`) and whatever
    invisible pairs it carries.  There is no outcome: `e*` cannot fail.  `X` is what all the turns take together and `F`
    is where the next turn fails. -/
def LxR (g : Grammar) (inp : Input) (e : Expr) (X : Str) (F : Str → Prop) : Prop :=
  ∀ (s : S0) (r : Str) (first : Bool) (acc : List Pair), s.atomic = true → RestAt inp s.pos (X ++ r) →
    F r → visibleList acc = [] →
    ∃ ps, visibleList ps = [] ∧ Big g inp (.rep e first acc) s (.ok (adv s X.length) ps)

section lex
variable {e e2 : Expr} {es : List Expr} {X X1 X2 : Str} {F F1 G : Str → Prop} {o : Bool}

theorem Lx.ok (h : Lx g inp e X F true) {s : S0} {r : Str} (ha : s.atomic = true) (hr : RestAt inp s.pos (X ++ r))
    (hh : F r) : ∃ ps, visibleList ps = [] ∧ Big g inp (.expr e) s (.ok (adv s X.length) ps) := by
  obtain ⟨_, h, ps, hv, rfl⟩ := h s r ha hr hh
  exact ⟨ps, hv, h⟩

theorem Lx.fails (h : Lx g inp e X F false) {s : S0} {r : Str} (ha : s.atomic = true)
    (hr : RestAt inp s.pos (X ++ r)) (hh : F r) : Big g inp (.expr e) s .fail := by
  obtain ⟨_, h, rfl⟩ := h s r ha hr hh
  exact h

theorem Rej.lx (h : Rej g inp e F) : Lx g inp e [] F false := fun s r _ hr hh => ⟨_, h s r hr hh, rfl⟩

theorem Lx.fail_at (h : Lx g inp e [] G false) (hG : ∀ r, F r → G (X ++ r)) : Lx g inp e X F false :=
  fun _ r ha hr hh => ⟨_, h.fails ha hr (hG r hh), rfl⟩

theorem Lx.at_nil (h : Lx g inp e X F false) : Lx g inp e [] (fun r => ∃ r', r = X ++ r' ∧ F r') false :=
  fun s _ ha hr ⟨r', e, hh⟩ => by subst e; exact h s r' ha hr hh

theorem Lx.mono (h : Lx g inp e X F o) (hGF : ∀ r, G r → F r) : Lx g inp e X G o :=
  fun s r ha hr hh => h s r ha hr (hGF r hh)

theorem Lx.monoH {P Q : CP → Prop} (h : Lx g inp e X (HeadIs P) o) (hQP : ∀ c, Q c → P c) :
    Lx g inp e X (HeadIs Q) o :=
  h.mono fun _ hh => hh.mono hQP

theorem Lx.or (h : Lx g inp e X F o) (h' : Lx g inp e X G o) : Lx g inp e X (fun r => F r ∨ G r) o :=
  fun s r ha hr hh => hh.elim (h s r ha hr) (h' s r ha hr)

theorem lex_str (c : CP) (x : Str) : Lx g inp (.str (c :: x)) (c :: x) F true := fun _ _ _ hr _ =>
  ⟨_, big_lit_ok hr, [], rfl, rfl⟩

theorem lex_range {a b c : CP} (hc : a ≤ c ∧ c ≤ b) : Lx g inp (.range a b) [c] F true := fun _ _ _ hr _ =>
  ⟨_, big_range_ok hr.get hc, [], rfl, rfl⟩

theorem lex_any (c : CP) : Lx g inp .anyB [c] F true := fun _ _ _ hr _ => ⟨_, big_any_ok hr.lt, [], rfl, rfl⟩

theorem Lx.group {t : Option String} (h : Lx g inp e X F o) : Lx g inp (.group e t) X F o :=
  fun s r ha hr hh => (h s r ha hr hh).imp fun _ h => ⟨.group h.1, h.2⟩

theorem Lx.opt (h : Lx g inp e X F true) : Lx g inp (.opt e) X F true := fun s r ha hr hh => by
  obtain ⟨ps, hv, h⟩ := h.ok ha hr hh
  exact ⟨_, .opt h, ps, hv, rfl⟩

theorem Lx.opt_none (h : Lx g inp e [] F false) : Lx g inp (.opt e) [] F true :=
  fun _ _ ha hr hh => ⟨_, .opt (h.fails ha hr hh), [], rfl, rfl⟩

theorem Lx.not (h : Lx g inp e [] F false) : Lx g inp (.notP e) [] F true :=
  fun _ _ ha hr hh => ⟨_, .notP (h.fails ha hr hh), [], rfl, rfl⟩

theorem Lx.not_fail (h : Lx g inp e X F true) : Lx g inp (.notP e) X F false := fun s r ha hr hh => by
  obtain ⟨_, _, h⟩ := h.ok ha hr hh
  exact ⟨_, .notP h, rfl⟩

theorem Lx.alt (h : Lx g inp e X F true) : Lx g inp (.choice (e :: es)) X F true := fun s r ha hr hh => by
  obtain ⟨ps, hv, h⟩ := h.ok ha hr hh
  exact ⟨_, .choiceE (.choiceStop h nofun), ps, hv, rfl⟩

theorem Lx.alt_next (h : Lx g inp e X F false) (h' : Lx g inp (.choice es) X F o) :
    Lx g inp (.choice (e :: es)) X F o :=
  fun s r ha hr hh => (h' s r ha hr hh).imp fun _ h' =>
    ⟨.choiceE (.choiceNext (h.fails ha hr hh) h'.1.choice_inv), h'.2⟩

theorem lx_choice_nil : Lx g inp (.choice []) X F false := fun _ _ _ _ _ => ⟨_, .choiceE .choiceNil, rfl⟩

theorem Lx.last (h : Lx g inp e X F o) : LxS g inp [e] X F o := fun s r acc ha hr hh hacc => by
  obtain ⟨res, h, ho⟩ := h s r ha hr hh
  cases o with
  | false => cases ho; exact ⟨_, .seqStop h rfl, rfl⟩
  | true =>
    obtain ⟨ps, hv, rfl⟩ := ho
    exact ⟨_, .seqLast h, acc ++ ps, by rw [visibleList_append, hacc, hv]; rfl, rfl⟩

theorem Lx.first_fail (h : Lx g inp e X F false) : LxS g inp (e :: es) X F false :=
  fun _ _ _ ha hr hh _ => ⟨_, .seqStop (h.fails ha hr hh) rfl, rfl⟩

/-- the first element matches `X1`; the rest of the sequence decides the outcome.  `F1` is what the first element has
    to see behind its own text in order to stop there (a run of digits stops before a non-digit); what it does see is
    the text `X2` of the rest and then `r`.  `hF` is this debt, one per `cons` of a derivation, and the caller pays it
    with a fact about how `X2` begins (or with `consT`, where the element stops by itself). -/
theorem Lx.cons (h1 : Lx g inp e X1 F1 true) (h2 : LxS g inp (e2 :: es) X2 F o)
    (hF : ∀ r, F r → F1 (X2 ++ r)) : LxS g inp (e :: e2 :: es) (X1 ++ X2) F o :=
  fun s r acc ha hr hh hacc => by
    rw [List.append_assoc] at hr
    obtain ⟨ps, hv, h1⟩ := h1.ok ha hr (hF r hh)
    obtain ⟨res, h2, ho⟩ := h2 (adv s X1.length) r (acc ++ ps ++ []) ha hr.advance hh
      (by rw [visibleList_append, visibleList_append, hacc, hv]; rfl)
    refine ⟨res, .seqMore h1 (.skipAtomic ha) h2, ?_⟩
    cases o with
    | false => exact ho
    | true =>
      obtain ⟨ps', hv', rfl⟩ := ho
      exact ⟨ps', hv', by rw [List.length_append, adv_adv]⟩

theorem Lx.consT (h1 : Lx g inp e X1 (fun _ => True) true) (h2 : LxS g inp (e2 :: es) X2 F o) :
    LxS g inp (e :: e2 :: es) (X1 ++ X2) F o :=
  h1.cons h2 fun _ _ => trivial

theorem LxS.node {x : Expr} (hx : seqView x = some es) (h : LxS g inp es X F o) : Lx g inp x X F o :=
  fun s r ha hr hh => (h s r [] ha hr hh rfl).imp fun _ h => ⟨.seqE hx h.1, h.2⟩

theorem LxS.seq (h : LxS g inp es X F o) : Lx g inp (.seq es) X F o := h.node rfl

theorem LxS.rep1 (h : LxS g inp [e, .rep e] X F o) : Lx g inp (.rep1 e) X F o := h.node rfl

theorem LxS.repExact {k : Nat} (h : LxS g inp (List.replicate k e) X F o) : Lx g inp (.repExact e k) X F o :=
  h.node rfl

theorem gap_atomic {first : Bool} {s : S0} (ha : s.atomic = true) : Big g inp (.gap first) s (.ok s []) := by
  cases first with
  | true => exact .gapFirst
  | false => exact .gapSkip (.skipAtomic ha)

theorem Lx.rep_nil (h : Lx g inp e [] F false) : LxR g inp e [] F := fun _ _ _ acc ha hr hh hacc =>
  ⟨acc, hacc, .repStop (gap_atomic ha) (h.fails ha hr hh) rfl⟩

theorem Lx.rep_cons (h1 : Lx g inp e X1 (fun _ => True) true) (h2 : LxR g inp e X2 F) :
    LxR g inp e (X1 ++ X2) F := fun s r first acc ha hr hh hacc => by
  rw [List.append_assoc] at hr
  obtain ⟨ps, hv, h1⟩ := h1.ok ha hr trivial
  obtain ⟨ps', hv', h2⟩ := h2 (adv s X1.length) r false (acc ++ ps) ha hr.advance hh
    (by rw [visibleList_append, hacc, hv]; rfl)
  refine ⟨ps', hv', ?_⟩
  rw [List.length_append, ← adv_adv]
  exact .repMore (gap_atomic ha) h1 (by rwa [List.append_nil])

theorem LxR.rep (h : LxR g inp e X F) : Lx g inp (.rep e) X F true := fun s r ha hr hh => by
  obtain ⟨ps, hv, h⟩ := h s r true [] ha hr hh rfl
  exact ⟨_, .repE h, ps, hv, rfl⟩

end lex

/-! The context in which a rule runs its body (`ruleAtomic`), by modifier: `@`/`$` set it, a rule without `@`, `$`, `!`
    that is not trivia inherits it, and nothing but `!` leaves an atomic context.  What the body's result becomes
    (`ruleWrap`) is read through `ruleWrap_silent`, `ruleWrap_pair` (Lemmas/Big.lean). -/

theorem ruleAtomic_sets (name : String) (mod : Nat) (hm : (hasBit mod ATOMIC || hasBit mod COMPOUND) = true) (b : Bool) :
    ruleAtomic name mod b = true := by
  unfold ruleAtomic
  rw [hm]
  rfl

theorem ruleAtomic_inherits (name : String) (mod : Nat) (hm : mod = 0 ∨ mod = 2)
    (hn : L1.isTriviaName name = false) (b : Bool) : ruleAtomic name mod b = b := by
  unfold ruleAtomic
  rw [hn]
  rcases hm with rfl | rfl <;> rfl

theorem ruleAtomic_stays (name : String) {mod : Nat} (hn : hasBit mod NONATOMIC = false) :
    ruleAtomic name mod true = true := by
  unfold ruleAtomic
  cases hasBit mod ATOMIC || hasBit mod COMPOUND || L1.isTriviaName name <;> simp [hn]

theorem enter_of_atomic (name : String) {mod : Nat} (hn : hasBit mod NONATOMIC = false) {s : S0} (ha : s.atomic = true) :
    ({ s with atomic := ruleAtomic name mod s.atomic } : S0) = s := by
  rw [ha, ruleAtomic_stays name hn, ← ha]

theorem restore_eq {s s' : S0} (hat : s'.atomic = s.atomic) : ({ s' with atomic := s.atomic } : S0) = s' := by
  rw [← hat]

theorem ruleWrap_hidden (name : String) {mod : Nat} (hc : hasBit mod COMPOUND = false)
    (hn : hasBit mod NONATOMIC = false) (s s' : S0) {ps : List Pair} (hv : visibleList ps = []) :
    ∃ ps', visibleList ps' = [] ∧ ruleWrap name mod s s' ps = .ok { s' with atomic := s.atomic } ps' := by
  unfold ruleWrap
  cases hasBit mod SILENT with
  | true => exact ⟨ps, hv, rfl⟩
  | false =>
    refine ⟨_, ?_, rfl⟩
    cases hasBit mod ATOMIC <;> simp [visibleList, Pair.visible, hc, hn, hv]

section rules
variable {X : Str} {F : Str → Prop} {o : Bool}

/-- `hn`: the rule keeps the atomic context; `hc`: an enclosing atomic rule hides its pair.  The job both a built-in
    written out (`Lx.rule`) and a call (`Lx.ident`) hand on. -/
theorem Lx.job_rule {name : String} {mod : Nat} {body : Expr} (hc : hasBit mod COMPOUND = false)
    (hn : hasBit mod NONATOMIC = false) (hb : Lx g inp body X F o) {s : S0} {r : Str} (ha : s.atomic = true)
    (hr : RestAt inp s.pos (X ++ r)) (hh : F r) :
    ∃ res, Big g inp (.rule name mod body) s res ∧ Out s X.length o res := by
  obtain ⟨res, hb, ho⟩ := hb s r ha hr hh
  rw [← enter_of_atomic name hn ha] at hb
  cases o with
  | false => cases ho; exact ⟨_, .rule hb, rfl⟩
  | true =>
    obtain ⟨ps, hv, rfl⟩ := ho
    obtain ⟨ps', hv', hw⟩ := ruleWrap_hidden name hc hn s (adv s X.length) hv
    exact ⟨_, .rule hb, ps', hv', hw⟩

theorem Lx.rule {name : String} {mod : Nat} {sm : Bool} {body : Expr} (hc : hasBit mod COMPOUND = false)
    (hn : hasBit mod NONATOMIC = false) (hb : Lx g inp body X F o) : Lx g inp (.rule name mod sm body) X F o :=
  fun _ _ ha hr hh => (hb.job_rule hc hn ha hr hh).imp fun _ h => ⟨.ruleE h.1, h.2⟩

theorem Lx.ident {name name' : String} {tag : Option String} {mod : Nat} {body : Expr}
    (hl : ∃ k, g.lookup name = some { name := name', mod := mod, body := body, kind := k })
    (hc : hasBit mod COMPOUND = false) (hn : hasBit mod NONATOMIC = false) (hb : Lx g inp body X F o) :
    Lx g inp (.ident name tag) X F o :=
  fun _ _ ha hr hh => hl.elim fun _ hl => (hb.job_rule hc hn ha hr hh).imp fun _ h => ⟨.ident hl h.1, h.2⟩

theorem Lx.token_rej {name name' : String} {tag : Option String} {mod : Nat} {body : Expr}
    (hl : ∃ k, g.lookup name = some { name := name', mod := mod, body := body, kind := k })
    (hm : (hasBit mod ATOMIC || hasBit mod COMPOUND) = true) (hb : Lx g inp body [] F false) :
    Rej g inp (.ident name tag) F :=
  fun s _ hr hh => hl.elim fun _ hl =>
    .ident hl (.rule (hb.fails (s := { s with atomic := ruleAtomic name' mod s.atomic })
      (ruleAtomic_sets name' mod hm s.atomic) hr hh))

/-- the way out of the calculus: the call of an atomic rule `name = @{ body }`, from any state, yields the one pair `name`
    without children (what the body yields is hidden) -/
theorem Lx.token {name name' : String} {body : Expr}
    (hl : ∃ k, g.lookup name = some { name := name', mod := 4, body := body, kind := k }) (hb : Lx g inp body X F true)
    (s : S0) {r : Str} (hr : RestAt inp s.pos (X ++ r)) (hh : F r) :
    Big g inp (.expr (.ident name none)) s
      (.ok (adv s X.length) [.mk name' 4 s.pos (s.pos + X.length) [] none]) := by
  obtain ⟨k, hl⟩ := hl
  obtain ⟨ps, hv, hb⟩ := hb.ok (s := { s with atomic := true }) rfl hr hh
  rw [← ruleAtomic_sets name' 4 rfl s.atomic] at hb
  have := Big.ident (t := none) hl (.rule (n := name') (m := 4) hb)
  rw [wrapK, ruleWrap_pair rfl, if_pos (show hasBit 4 ATOMIC = true from rfl), hv] at this
  exact this

end rules

section strs
variable {F : Str → Prop}

def strs1 (cs : List CP) : List Expr := cs.map fun d => Expr.str [d]

theorem big_strs_ok {c : CP} {s : S0} {r : Str} (hr : RestAt inp s.pos (c :: r)) (tl : List Expr) :
    ∀ cs : List CP, c ∈ cs → Big g inp (.choice (strs1 cs ++ tl)) s (.ok (adv s 1) [])
  | d :: cs, hm => by
    by_cases hd : c = d
    · subst hd; exact .choiceStop (big_str1_ok hr) nofun
    · exact .choiceNext (rej_str d [] s _ hr hd) (big_strs_ok hr tl cs ((List.mem_cons.mp hm).resolve_left hd))

theorem lex_strs {c : CP} (tl : List Expr) (cs : List CP) (hm : c ∈ cs) :
    Lx g inp (.choice (strs1 cs ++ tl)) [c] F true :=
  fun _ _ _ hr _ => ⟨_, .choiceE (big_strs_ok hr tl cs hm), [], rfl, rfl⟩

theorem Lx.skip_strs {tl : List Expr} {c : CP} {X : Str} {o : Bool} (h : Lx g inp (.choice tl) (c :: X) F o) :
    ∀ cs : List CP, c ∉ cs → Lx g inp (.choice (strs1 cs ++ tl)) (c :: X) F o
  | [], _ => h
  | d :: cs, hc =>
    .alt_next ((rej_str d []).lx.fail_at fun _ _ e => hc (by simp [e])) (h.skip_strs cs fun hm => hc (by simp [hm]))

theorem rej_strs {tl : List Expr} (htl : Rej g inp (.choice tl) F) :
    ∀ cs : List CP, Rej g inp (.choice (strs1 cs ++ tl)) (fun r => HeadIs (fun c => c ∉ cs) r ∧ F r)
  | [] => htl.mono fun _ h => h.2
  | d :: cs =>
    ((rej_str d []).mono fun _ h => h.1.mono fun c hc e => hc (by simp [e])).choice
      ((rej_strs htl cs).mono fun _ h => ⟨h.1.mono fun c hc hm => hc (by simp [hm]), h.2⟩)

theorem rej_strs' (cs : List CP) : Rej g inp (.choice (strs1 cs)) (HeadIs fun c => c ∉ cs) := by
  have := rej_strs (g := g) (inp := inp) (F := fun _ => True) rej_choice_nil cs
  rw [List.append_nil] at this
  exact this.mono fun _ h => ⟨h, trivial⟩

end strs

end Json
end Pest
