/-
  Lemmas/OptSoundRun.lean — from one rewritten rule body to `Opt.runStep` and the fold over the
  pass list.  Joins OptSoundSim (`equivG_of_GR`) and OptSoundPass (each pass is a `TR` step); the
  matcher files stand beside it (their theorems are the hypothesis `Builders` here), and so does
  OptSoundFusion, which OptSoundMain joins to this file.
-/
import PestModel.Lemmas.OptSoundSim
import PestModel.Lemmas.OptSoundPass

namespace Pest
namespace OptS

open L0

theorem find_set_cases (p : Rule → Bool) : ∀ (rules : List Rule) (i : Nat) (h : i < rules.length) (x : Rule),
    p x = p rules[i] →
    (rules.find? p = none ∧ (rules.set i x).find? p = none) ∨
    (∃ r, rules.find? p = some r ∧
      ((rules.set i x).find? p = some r ∨ (r = rules[i] ∧ (rules.set i x).find? p = some x)))
  | [], i, h, _, _ => by simp at h
  | a :: rest, 0, _, x, hp => by
    simp only [List.getElem_cons_zero] at hp
    simp only [List.set_cons_zero, List.find?_cons, hp]
    cases hpa : p a with
    | true => exact Or.inr ⟨a, rfl, Or.inr ⟨rfl, rfl⟩⟩
    | false =>
      simp only []
      cases hf : rest.find? p with
      | none => exact Or.inl ⟨rfl, rfl⟩
      | some r => exact Or.inr ⟨r, rfl, Or.inl rfl⟩
  | a :: rest, i + 1, h, x, hp => by
    simp only [List.getElem_cons_succ] at hp
    simp only [List.set_cons_succ, List.find?_cons, List.getElem_cons_succ]
    cases hpa : p a with
    | true => exact Or.inr ⟨a, rfl, Or.inl rfl⟩
    | false =>
      simp only []
      exact find_set_cases p rest i (by simpa using h) x hp

variable {F : Feat} {sg : String → Option (String × Nat)}

def setBody (G : Grammar) (i : Nat) (h : i < G.rules.length) (b' : Expr) : Grammar :=
  { G with rules := G.rules.set i { G.rules[i] with body := b' } }

theorem lookup_setBody (G : Grammar) (i : Nat) (h : i < G.rules.length) (b' : Expr) (name : String) :
    (G.lookup name = none ∧ (setBody G i h b').lookup name = none) ∨
    (∃ r, G.lookup name = some r ∧
      ((setBody G i h b').lookup name = some r ∨
       (r = G.rules[i] ∧ (setBody G i h b').lookup name = some { G.rules[i] with body := b' }))) :=
  find_set_cases (fun r => r.name == name) G.rules i h { G.rules[i] with body := b' } rfl

theorem GR_setBody (G : Grammar) (i : Nat) (h : i < G.rules.length) (b' : Expr)
    (htr : ∀ b, TR F G (ruleAtomic G.rules[i].name G.rules[i].mod b) G.rules[i].body b') :
    GR F G (setBody G i h b') := by
  refine ⟨rfl, fun name => ?_⟩
  rcases lookup_setBody G i h b' name with ⟨h1, h2⟩ | ⟨r, h1, h2 | ⟨h2, h3⟩⟩
  · rw [h1, h2]; trivial
  · rw [h1, h2]; exact ⟨rfl, rfl, fun b => TR.refl F G _ _⟩
  · rw [h1, h3]; subst h2; exact ⟨rfl, rfl, htr⟩

/-- `setBody` changes one body and nothing else: what is read off the other fields of the rule a
    name denotes (`sigOf` here, `sig3` in OptSoundFinal) stays -/
theorem lookup_setBody_map {α : Type} (f : Rule → α) (hf : ∀ (r : Rule) (b : Expr), f { r with body := b } = f r)
    (G : Grammar) (i : Nat) (h : i < G.rules.length) (b' : Expr) (name : String) :
    ((setBody G i h b').lookup name).map f = (G.lookup name).map f := by
  rcases lookup_setBody G i h b' name with ⟨h1, h2⟩ | ⟨r, h1, h2 | ⟨h2, h3⟩⟩
  · rw [h1, h2]
  · rw [h1, h2]
  · rw [h1, h3]; subst h2; exact congrArg some (hf _ _)

theorem sigOf_setBody (G : Grammar) (i : Nat) (h : i < G.rules.length) (b' : Expr) (name : String) :
    sigOf (setBody G i h b') name = sigOf G name :=
  lookup_setBody_map _ (fun _ _ => rfl) G i h b' name

theorem fused_setBody (G : Grammar) (i : Nat) (h : i < G.rules.length) (b' : Expr) :
    (G.fusedSkip = none ∧ (setBody G i h b').fusedSkip = none) ∨
    (∃ r, G.fusedSkip = some r ∧
      ((setBody G i h b').fusedSkip = some r ∨
       (r = G.rules[i] ∧ (setBody G i h b').fusedSkip = some { G.rules[i] with body := b' }))) := by
  rcases lookup_setBody G i h b' "SKIP" with ⟨h1, h2⟩ | ⟨r, h1, h2 | ⟨h2, h3⟩⟩
  · rw [fusedSkip_eq h1, fusedSkip_eq h2]; exact Or.inl ⟨rfl, rfl⟩
  · rw [fusedSkip_eq h1, fusedSkip_eq h2]
    by_cases hm : (r.mod == SILENT + ATOMIC) = true
    · exact Or.inr ⟨r, if_pos hm, Or.inl (if_pos hm)⟩
    · exact Or.inl ⟨if_neg hm, if_neg hm⟩
  · rw [fusedSkip_eq h1, fusedSkip_eq h3]
    subst h2
    by_cases hm : (G.rules[i].mod == SILENT + ATOMIC) = true
    · exact Or.inr ⟨_, if_pos hm, Or.inr ⟨rfl, if_pos hm⟩⟩
    · exact Or.inl ⟨if_neg hm, if_neg hm⟩

theorem lookup_none_setBody (G : Grammar) (i : Nat) (h : i < G.rules.length) (b' : Expr) (name : String) :
    (setBody G i h b').lookup name = none ↔ G.lookup name = none := by
  rcases lookup_setBody G i h b' name with ⟨h1, h2⟩ | ⟨r, h1, h2 | ⟨h2, h3⟩⟩ <;> simp_all

theorem Inv_setBody {G : Grammar} (hinv : Inv F sg G) (i : Nat) (h : i < G.rules.length) (b' : Expr)
    (hb : AllN (NodeOK sg) b') (ht : totalBody G.rules[i].body = true → totalBody b' = true) :
    Inv F sg (setBody G i h b') := by
  refine ⟨fun n => by rw [sigOf_setBody, hinv.sig], fun r hr => ?_, fun hf => ?_, fun r hr => ?_⟩
  · rcases List.mem_or_eq_of_mem_set hr with h1 | h1
    · exact hinv.nodes r h1
    · subst h1; exact Or.inl hb
  · rw [lookup_none_setBody, lookup_none_setBody]
    apply hinv.fusedTrivia
    rcases fused_setBody G i h b' with ⟨h1, h2⟩ | ⟨r, h1, _⟩
    · exact absurd h2 hf
    · rw [h1]; simp
  · rcases fused_setBody G i h b' with ⟨h1, h2⟩ | ⟨r0, h1, h2 | ⟨h2, h3⟩⟩
    · rw [h2] at hr; exact absurd hr (by simp)
    · rw [h2] at hr; simp only [Option.some.injEq] at hr; subst hr; exact hinv.total _ h1
    · rw [h3] at hr; simp only [Option.some.injEq] at hr; subst hr
      subst h2
      exact ht (hinv.total _ h1)

theorem any_name_iff (g : Grammar) (nm : String) :
    g.rules.any (·.name == nm) = false ↔ g.lookup nm = none := by
  unfold Grammar.lookup
  rw [List.find?_eq_none, List.any_eq_false]

/-- `_is_atomic`: the body of such a rule only ever runs with implicit trivia switched off -/
theorem isAtomic_flag {G : Grammar} (hinv : Inv F sg G) (r : Rule)
    (h : Opt.isAtomicRule G.rules r = true) :
    (∀ b, ruleAtomic r.name r.mod b = true) ∨ NoTrivia G := by
  unfold Opt.isAtomicRule at h
  by_cases h0 : (!(G.rules.any (·.name == "WHITESPACE")) && !(G.rules.any (·.name == "COMMENT"))) = true
  · right
    simp only [Bool.and_eq_true, Bool.not_eq_true'] at h0
    have hw := (any_name_iff G "WHITESPACE").1 h0.1
    have hc := (any_name_iff G "COMMENT").1 h0.2
    refine ⟨?_, hw, hc⟩
    cases hf : G.fusedSkip with
    | none => rfl
    | some x => exact absurd ⟨hw, hc⟩ (hinv.fusedTrivia (by rw [hf]; simp))
  · left
    simp only [h0, Bool.false_eq_true, ↓reduceIte, Bool.or_eq_true, beq_iff_eq] at h
    intro b
    unfold ruleAtomic
    rcases h with ((h | h) | h) | h
    · simp [h]
    · simp [h]
    · simp [L1.isTriviaName, h]
    · simp [L1.isTriviaName, h]

/-- the passes the theorem covers: the exported default passes, `squash_choice` / `skip` only
    when their semantic lemmas are available -/
def Allowed (F : Feat) (p : Opt.Pass) : Prop :=
  p ∈ Opt.defaultPasses ∧ (p.name = .squashChoice → F.squash = true) ∧ (p.name = .skip → F.skip = true)

theorem runOnce_out {g : Grammar} {rules : List Rule} {p : Opt.Pass} {e e' : Expr}
    (h : Opt.runOnce g rules p e = some e') :
    ∃ k, e' = (if p.postorder then
            Opt.mapBottomUp (fun x => (Opt.applyPass g rules p x).getD (.ident "!KeyError" none)) e
          else Opt.mapTopDown (fun x => (Opt.applyPass g rules p x).getD (.ident "!KeyError" none)) k e) := by
  refine ⟨Opt.size e + 64, ?_⟩
  unfold Opt.runOnce at h
  revert h
  simp only []
  generalize (if p.postorder = true then _ else _) = out
  intro h
  split at h
  · exact absurd h (by simp)
  · exact (Option.some.inj h).symm

theorem runOnce_starLeaf {g : Grammar} {rules : List Rule} {p : Opt.Pass} (hp : p ∈ Opt.defaultPasses)
    {alts : List Alt} {b : Expr} (h : Opt.runOnce g rules p (.optChoice alts true) = some b) :
    b = .optChoice alts true := by
  obtain ⟨k, rfl⟩ := runOnce_out h
  simp only [Opt.defaultPasses, List.mem_cons, List.not_mem_nil, or_false] at hp
  rcases hp with rfl | rfl | rfl | rfl | rfl <;> cases k <;> rfl

/-- the two matcher passes enter through their builder lemmas `hsqB`, `hskB`
    (OptSoundSquash / OptSoundSkip) -/
theorem runOnce_TR {g G : Grammar} {p : Opt.Pass} (hp : Allowed F p) (hinv : Inv F sg G)
    (hsqB : F.squash = true → ∀ a e, AllN (NodeOK sg) e →
      TR F G a e (Opt.mapBottomUp (Opt.squashChoice g) e))
    (hskB : F.skip = true → ∀ a k e, (a = true ∨ NoTrivia G) → AllN (NodeOK sg) e →
      TR F G a e (Opt.mapTopDown (Opt.skipPass G.rules 200) k e))
    {a : Bool} (ha : p.atomicOnly = true → a = true ∨ NoTrivia G)
    {e e' : Expr} (he : AllN (NodeOK sg) e)
    (h : Opt.runOnce g G.rules p e = some e') : TR F G a e e' := by
  obtain ⟨k, rfl⟩ := runOnce_out h
  obtain ⟨hmem, hsq, hsk⟩ := hp
  simp only [Opt.defaultPasses, List.mem_cons, List.not_mem_nil, or_false] at hmem
  rcases hmem with rfl | rfl | rfl | rfl | rfl
  · exact unroll_TR a e he
  · exact hskB (hsk rfl) a _ e (ha rfl) he
  · exact inlineBuiltin_TR a _ e he
  · exact hsqB (hsq rfl) a e he
  · exact inlineSilent_TR hinv.sig _ a e he

/-- what the two matcher passes have to provide (trivially, when `F` switches them off) -/
structure Builders (F : Feat) (sg : String → Option (String × Nat)) (g : Grammar) : Prop where
  sqSem : F.squash = true → SquashSem
  skSem : F.skip = true → ∀ G, SkipSem G
  sqB : F.squash = true → ∀ G, G.usets = g.usets → Inv F sg G → ∀ a e, AllN (NodeOK sg) e →
    TR F G a e (Opt.mapBottomUp (Opt.squashChoice g) e)
  skB : F.skip = true → ∀ G, Inv F sg G → ∀ a k e, (a = true ∨ NoTrivia G) → AllN (NodeOK sg) e →
    TR F G a e (Opt.mapTopDown (Opt.skipPass G.rules 200) k e)

/-- a property of rule bodies that every rewrite keeps, as long as every body of the table has it:
    the parameter of `optimize_sound`, by which SOI-freeness, shapes, tags and names are carried to
    the optimized table (OptSoundKeeps); node-local properties get it from `TR.keeps` -/
def Kept (F : Feat) (P : Expr → Prop) : Prop :=
  ∀ (G : Grammar) (a : Bool) (e e' : Expr), TR F G a e e' → (∀ n r, G.lookup n = some r → P r.body) →
    P e → P e'

/-- `runStep` replaces bodies one at a time: a reflexive, transitive relation on rule tables that
    every such replacement satisfies holds between the table it is given and the one it returns -/
theorem runStep_rel {g : Grammar} {p : Opt.Pass} {R : List Rule → List Rule → Prop}
    (hrefl : ∀ rs, R rs rs) (htrans : ∀ {rs1 rs2 rs3}, R rs1 rs2 → R rs2 rs3 → R rs1 rs3)
    (hstep : ∀ (rules : List Rule) (i : Nat) (hi : i < rules.length) (b : Expr),
      (p.atomicOnly = true → Opt.isAtomicRule rules rules[i] = true) →
      Opt.runOnce g rules p rules[i].body = some b → R rules (rules.set i { rules[i] with body := b })) :
    ∀ (d i : Nat) (rules rules' : List Rule), rules.length - i = d →
      Opt.runStep g p i rules = some rules' → R rules rules' := by
  intro d
  induction d with
  | zero =>
    intro i rules rules' hd h
    rw [Opt.runStep] at h
    have : ¬ i < rules.length := by omega
    simp only [this, ↓reduceDIte, Option.some.injEq] at h
    subst h
    exact hrefl _
  | succ d ih =>
    intro i rules rules' hd h
    rw [Opt.runStep] at h
    have hi : i < rules.length := by omega
    simp only [hi, ↓reduceDIte] at h
    by_cases hskip : (rules[i].kind == RuleKind.builtin ||
        (p.atomicOnly && !Opt.isAtomicRule rules rules[i])) = true
    · rw [if_pos hskip] at h
      exact ih (i + 1) rules rules' (by omega) h
    · rw [if_neg hskip] at h
      cases hro : Opt.runOnce g rules p rules[i].body with
      | none => rw [hro] at h; exact absurd h (by simp)
      | some b =>
        rw [hro] at h
        refine htrans (hstep rules i hi b (fun hao => ?_) hro) (ih (i + 1) _ rules' (by simp; omega) h)
        simp only [Bool.or_eq_true, Bool.and_eq_true, Bool.not_eq_true', not_or, not_and,
          Bool.not_eq_false] at hskip
        exact hskip.2 hao

theorem fold_rel {g : Grammar} {R : List Rule → List Rule → Prop}
    (hrefl : ∀ rs, R rs rs) (htrans : ∀ {rs1 rs2 rs3}, R rs1 rs2 → R rs2 rs3 → R rs1 rs3) :
    ∀ (passes : List Opt.Pass), (∀ p ∈ passes, ∀ rs rs', Opt.runStep g p 0 rs = some rs' → R rs rs') →
      ∀ (rules rules' : List Rule),
      passes.foldl (fun acc p => acc.bind fun rs => Opt.runStep g p 0 rs) (some rules) = some rules' →
      R rules rules'
  | [], _, rules, rules', h => by
    simp only [List.foldl_nil, Option.some.injEq] at h
    subst h
    exact hrefl _
  | p :: rest, hp, rules, rules', h => by
    simp only [List.foldl_cons, Option.bind_some] at h
    cases h1 : Opt.runStep g p 0 rules with
    | none => rw [h1, Prim.foldl_none] at h; exact absurd h (by simp)
    | some rules1 =>
      rw [h1] at h
      exact htrans (hp p (by simp) _ _ h1) (fold_rel hrefl htrans rest (fun q hq => hp q (by simp [hq])) rules1 rules' h)

def Sound (F : Feat) (sg : String → Option (String × Nat)) (g : Grammar) (P : Expr → Prop)
    (rules rules' : List Rule) : Prop :=
  Inv F sg { g with rules := rules } → (∀ r ∈ rules, P r.body) →
    EquivG { g with rules := rules } { g with rules := rules' } ∧ Inv F sg { g with rules := rules' } ∧
      (∀ r ∈ rules', P r.body)

theorem Sound.refl {g : Grammar} {P : Expr → Prop} (rs : List Rule) : Sound F sg g P rs rs :=
  fun hinv hpr => ⟨EquivG.refl _, hinv, hpr⟩

theorem Sound.trans {g : Grammar} {P : Expr → Prop} {rs1 rs2 rs3 : List Rule}
    (h1 : Sound F sg g P rs1 rs2) (h2 : Sound F sg g P rs2 rs3) : Sound F sg g P rs1 rs3 :=
  fun hinv hpr =>
    have s1 := h1 hinv hpr
    have s2 := h2 s1.2.1 s1.2.2
    ⟨s1.1.trans s2.1, s2.2⟩

theorem runStep_sound {g : Grammar} {p : Opt.Pass} (hp : Allowed F p) (B : Builders F sg g)
    {P : Expr → Prop} (hP : Kept F P) :
    ∀ (d i : Nat) (rules rules' : List Rule), rules.length - i = d →
      Inv F sg { g with rules := rules } → (∀ r ∈ rules, P r.body) →
      Opt.runStep g p i rules = some rules' →
      EquivG { g with rules := rules } { g with rules := rules' } ∧ Inv F sg { g with rules := rules' } ∧
        (∀ r ∈ rules', P r.body) := by
  intro d i rules rules' hd hinv hpr h
  refine runStep_rel (R := Sound F sg g P) Sound.refl Sound.trans ?_ d i rules rules' hd h hinv hpr
  intro rules i hi b hatom hro hinv hpr
  let G : Grammar := { g with rules := rules }
  have hiG : i < G.rules.length := hi
  have hmem : rules[i] ∈ G.rules := List.getElem_mem hi
  rcases hinv.nodes _ hmem with hbody | ⟨_, alts, hleaf⟩
  case inr =>
    -- the fused `OptimizedChoiceRepeat` is a leaf no pass touches
    have hb : b = rules[i].body := by
      rw [hleaf] at hro ⊢
      exact runOnce_starLeaf hp.1 hro
    rw [hb, List.set_getElem_self hi]
    exact ⟨EquivG.refl _, hinv, hpr⟩
  have htr : ∀ b0, TR F G (ruleAtomic rules[i].name rules[i].mod b0) rules[i].body b := by
    intro b0
    refine runOnce_TR (g := g) (G := G) hp hinv (fun hF => B.sqB hF G rfl hinv)
      (fun hF => B.skB hF G hinv) ?_ hbody hro
    intro hao
    rcases isAtomic_flag hinv _ (hatom hao) with h1 | h1
    · exact Or.inl (h1 b0)
    · exact Or.inr h1
  refine ⟨equivG_of_GR (GR_setBody G i hiG b htr) B.sqSem (fun hF => B.skSem hF G),
    Inv_setBody hinv i hiG b ((htr true).allN hinv.sig hinv.lookup_nodes hbody) (htr true).totalBody, ?_⟩
  intro r hr
  rcases List.mem_or_eq_of_mem_set hr with h1 | h1
  · exact hpr r h1
  · subst h1
    exact hP G _ _ _ (htr true) (fun n r hl => hpr r (Prim.lookup_mem hl)) (hpr _ hmem)

theorem passes_sound {g : Grammar} (B : Builders F sg g) {P : Expr → Prop} (hP : Kept F P) :
    ∀ (passes : List Opt.Pass), (∀ p ∈ passes, Allowed F p) → ∀ (rules rules' : List Rule),
      Inv F sg { g with rules := rules } → (∀ r ∈ rules, P r.body) →
      passes.foldl (fun acc p => acc.bind fun rs => Opt.runStep g p 0 rs) (some rules) = some rules' →
      EquivG { g with rules := rules } { g with rules := rules' } ∧ Inv F sg { g with rules := rules' } ∧
        (∀ r ∈ rules', P r.body) :=
  fun passes hp rules rules' hinv hpr h =>
    fold_rel (R := Sound F sg g P) Sound.refl Sound.trans passes
      (fun p hpm rs rs' h1 hinv hpr => runStep_sound (hp p hpm) B hP _ 0 rs rs' rfl hinv hpr h1)
      rules rules' h hinv hpr

end OptS
end Pest
