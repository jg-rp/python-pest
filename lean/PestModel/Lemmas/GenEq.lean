/-
  Lemmas/GenEq.lean — the generated-code model LG does what the interpreter model L1 does, with
  equal fuel, for every grammar, unless it stops at one of the model's markers for trees the
  generator does not handle (`benign`), where nothing is compared.  Of the interpreter only its
  frames are used (`FrameBal`, Lemmas/Frame.lean), not its refinement of L0.

  `SRel cg c1`   the two parser states agree on everything a later step can observe:
                 position, user stack (contents and everything any pending snapshot would
                 restore — the delta encodings themselves may differ: POP_ALL pops one by one
                 in the interpreter and calls `clear()` in generated code), atomic depth,
                 position history, tag stack and tag history, negative-predicate depth, suppress flag and the
                 furthest failure *position*.  Not related: the rule stack and the keys of the
                 failure record (generated code inlines built-in rules instead of pushing a
                 frame for them, so the key under which a label is recorded differs).
  `GenRel`       same verdict, related end states, and on success the caller's list is the
                 old content followed by exactly the interpreter's new pairs (on failure its
                 content is garbage on the generated side).
-/
import PestModel.Gen
import PestModel.Lemmas.Frame

namespace Pest
open DStack

structure SRel (cg c1 : PState) : Prop where
  pos : cg.pos = c1.pos
  ui : cg.ustack.items = c1.ustack.items
  usn : snapsOf cg.ustack = snapsOf c1.ustack
  uinv : Inv cg.ustack
  ad : cg.adepth = c1.adepth
  ph : cg.posHist = c1.posHist
  tg : cg.tagStack = c1.tagStack ∧ cg.tagHist = c1.tagHist
  nd : cg.negDepth = c1.negDepth
  sp : cg.suppress = c1.suppress
  fp : cg.fpos = c1.fpos

theorem SRel.setPos {cg c1 : PState} (s : SRel cg c1) (q : Nat) :
    SRel { cg with pos := q } { c1 with pos := q } :=
  ⟨rfl, s.ui, s.usn, s.uinv, s.ad, s.ph, s.tg, s.nd, s.sp, s.fp⟩

theorem SRel.setUstack {cg c1 : PState} (s : SRel cg c1) {ug u1 : DStack Str}
    (hi : ug.items = u1.items) (hs : snapsOf ug = snapsOf u1) (hv : Inv ug) :
    SRel { cg with ustack := ug } { c1 with ustack := u1 } :=
  ⟨s.pos, hi, hs, hv, s.ad, s.ph, s.tg, s.nd, s.sp, s.fp⟩

theorem SRel.setRstack {cg c1 : PState} (s : SRel cg c1) (rg r1 : DStack String) :
    SRel { cg with rstack := rg } { c1 with rstack := r1 } :=
  ⟨s.pos, s.ui, s.usn, s.uinv, s.ad, s.ph, s.tg, s.nd, s.sp, s.fp⟩

theorem SRel.setAdepth {cg c1 : PState} (s : SRel cg c1) {a b : SnapInt} (h : a = b) :
    SRel { cg with adepth := a } { c1 with adepth := b } :=
  ⟨s.pos, s.ui, s.usn, s.uinv, h, s.ph, s.tg, s.nd, s.sp, s.fp⟩

theorem SRel.setTag {cg c1 : PState} (s : SRel cg c1) {ts ts' : List String} (h : ts = ts') :
    SRel { cg with tagStack := ts } { c1 with tagStack := ts' } :=
  ⟨s.pos, s.ui, s.usn, s.uinv, s.ad, s.ph, ⟨h, s.tg.2⟩, s.nd, s.sp, s.fp⟩

theorem SRel.setNeg {cg c1 : PState} (s : SRel cg c1) {n m : Nat} (h : n = m) :
    SRel { cg with negDepth := n } { c1 with negDepth := m } :=
  ⟨s.pos, s.ui, s.usn, s.uinv, s.ad, s.ph, s.tg, h, s.sp, s.fp⟩

theorem SRel.setSuppress {cg c1 : PState} (s : SRel cg c1) (b : Bool) :
    SRel { cg with suppress := b } { c1 with suppress := b } :=
  ⟨s.pos, s.ui, s.usn, s.uinv, s.ad, s.ph, s.tg, s.nd, rfl, s.fp⟩

theorem SRel.push {cg c1 : PState} (s : SRel cg c1) (i1 : Inv c1.ustack) (x : Str) :
    SRel { cg with ustack := cg.ustack.push x } { c1 with ustack := c1.ustack.push x } :=
  s.setUstack (by simp only [push_items, s.ui])
    (by simp only [snapsOf_push _ _ s.uinv, snapsOf_push _ _ i1, s.usn]) (inv_push _ _ s.uinv)

theorem SRel.pop {cg c1 : PState} (s : SRel cg c1) (i1 : Inv c1.ustack) :
    (cg.ustack.pop = none ∧ c1.ustack.pop = none) ∨
    ∃ x ug u1, cg.ustack.pop = some (x, ug) ∧ c1.ustack.pop = some (x, u1) ∧
      SRel { cg with ustack := ug } { c1 with ustack := u1 } := by
  cases hpg : cg.ustack.pop with
  | none =>
    cases hp1 : c1.ustack.pop with
    | none => exact .inl ⟨rfl, rfl⟩
    | some q =>
      have := pop_items hp1
      rw [← s.ui, items_of_pop_none hpg] at this
      cases this
  | some qg =>
    obtain ⟨xg, usg⟩ := qg
    have ig := pop_items hpg
    cases hp1 : c1.ustack.pop with
    | none => rw [s.ui, items_of_pop_none hp1] at ig; cases ig
    | some q1 =>
      obtain ⟨x1, us1⟩ := q1
      rw [s.ui, pop_items hp1] at ig
      simp only [List.cons.injEq] at ig
      obtain ⟨sg, _⟩ := snapsOf_pop _ s.uinv hpg
      obtain ⟨s1', _⟩ := snapsOf_pop _ i1 hp1
      obtain ⟨rfl, hu⟩ := ig
      exact .inr ⟨_, usg, us1, rfl, rfl,
        s.setUstack hu.symm (by rw [sg, s1', s.usn]) (inv_pop _ s.uinv hpg)⟩

/-- `SRel` does not relate the rule stacks, so the generated side carries its own: `fail()` needs
    a current rule (`PreG`), and the name a rule pushes must be there to be popped (`FrameR`, the
    rule-stack third of `Frame`) -/
structure PreG (cg : PState) : Prop where
  ir : Inv cg.rstack
  rne : cg.rstack.items ≠ []

theorem PreG.of_eq {c c' : PState} (p : PreG c) (hr : c'.rstack = c.rstack := by rfl) : PreG c' :=
  ⟨hr ▸ p.ir, hr ▸ p.rne⟩

structure FrameR (cg cg' : PState) : Prop where
  ri : cg'.rstack.items = cg.rstack.items
  rs : snapsOf cg'.rstack = snapsOf cg.rstack
  ir : Inv cg'.rstack

namespace FrameR
theorem refl {c : PState} (p : PreG c) : FrameR c c := ⟨rfl, rfl, p.ir⟩
theorem trans {a b c : PState} (h1 : FrameR a b) (h2 : FrameR b c) : FrameR a c :=
  ⟨h2.ri.trans h1.ri, h2.rs.trans h1.rs, h2.ir⟩
theorem pre {c c' : PState} (h : FrameR c c') (p : PreG c) : PreG c' :=
  ⟨h.ir, by rw [h.ri]; exact p.rne⟩
theorem of_eq {a b a' b' : PState} (f : FrameR a b) (ha : a'.rstack = a.rstack := by rfl)
    (hb : b'.rstack = b.rstack := by rfl) : FrameR a' b' :=
  ⟨by rw [ha, hb]; exact f.ri, by rw [ha, hb]; exact f.rs, hb ▸ f.ir⟩
end FrameR

theorem preG_checkpoint {c : PState} (p : PreG c) : PreG c.checkpoint :=
  ⟨inv_snapshot _ p.ir, p.rne⟩

theorem frameR_ok_after {c c1 : PState} (f : FrameR c.checkpoint c1) : FrameR c c1.ok :=
  ⟨(dropSnap_items _).trans f.ri, DStack.dropSnap_of_snaps f.rs f.ir, inv_dropSnap _ f.ir⟩

theorem frameR_restore_after {c c1 : PState} (f : FrameR c.checkpoint c1) : FrameR c c1.restore :=
  ⟨(DStack.restore_of_snaps f.rs).1, (DStack.restore_of_snaps f.rs).2, inv_restore _ f.ir⟩

theorem srel_checkpoint {cg c1 : PState} (s : SRel cg c1) : SRel cg.checkpoint c1.checkpoint :=
  ⟨by simp [PState.checkpoint, s.pos], by simp [PState.checkpoint, snapshot_items, s.ui],
   by simp [PState.checkpoint, snapsOf_snapshot, s.ui, s.usn], inv_snapshot _ s.uinv,
   by simp [PState.checkpoint, s.ad], by simp [PState.checkpoint, s.pos, s.ph],
   ⟨s.tg.1, by simp [PState.checkpoint, s.tg.1, s.tg.2]⟩, s.nd, s.sp, s.fp⟩

theorem srel_ok {cg c1 : PState} (s : SRel cg c1) (i1 : Inv c1.ustack) : SRel cg.ok c1.ok :=
  ⟨s.pos, by simp [PState.ok, dropSnap_items, s.ui],
   by simp only [PState.ok]; rw [snapsOf_dropSnap _ s.uinv, snapsOf_dropSnap _ i1, s.usn],
   inv_dropSnap _ s.uinv, by simp [PState.ok, s.ad], by simp [PState.ok, s.ph],
   ⟨s.tg.1, by simp [PState.ok, s.tg.2]⟩, s.nd, s.sp, s.fp⟩

theorem srel_restore {cg c1 : PState} (s : SRel cg c1) : SRel cg.restore c1.restore := by
  have ha : DStack.abs cg.ustack.restore = DStack.abs c1.ustack.restore := by
    rw [abs_restore, abs_restore, abs_eq s.ui s.usn]
  simp only [DStack.abs, RStack.mk.injEq] at ha
  exact ⟨by simp [PState.restore, s.pos, s.ph], by simp [PState.restore, ha.1],
    by simp [PState.restore, ha.2], inv_restore _ s.uinv, by simp [PState.restore, s.ad],
    by simp [PState.restore, s.ph],
    ⟨by simp [PState.restore, s.tg.1, s.tg.2], by simp [PState.restore, s.tg.2]⟩, s.nd, s.sp, s.fp⟩

theorem srel_fail {cg c1 cg' c1' : PState} {rn rn' : Option String} {force : Bool}
    (s : SRel cg c1) (hg : cg.fail rn force = some cg') (h1 : c1.fail rn' force = some c1') :
    SRel cg' c1' ∧ cg'.rstack = cg.rstack := by
  obtain ⟨_, _, _, rfl⟩ := fail_eq hg
  obtain ⟨_, _, _, rfl⟩ := fail_eq h1
  refine ⟨⟨s.pos, s.ui, s.usn, s.uinv, s.ad, s.ph, s.tg, s.nd, s.sp, ?_⟩, rfl⟩
  dsimp only []
  rw [s.nd, s.sp, show cg.failPos none = c1.failPos none from s.pos, s.fp]

/-- the model's two markers for grammar trees the generator does not handle (Gen.lean: a call
    of a rule without a generated function, an embedded rule object it does not inline): where
    the generated code stops with one of them, nothing is compared -/
def benign : PyExc → Bool
  | .other | .nameError => true
  | _ => false

/-- the clause for `.exc`: the generated code raises nothing but the two markers, and nothing is
    claimed of the interpreter then.  By the other two clauses an exception of the interpreter
    (`KeyError`, an unknown rule) can only meet a marker (the `NameError` of the missing
    function).  `FrameR` is the generated side's own rule-stack frame (see `PreG`). -/
def GenRel (cg : PState) (ps0 : List Pair) : RG → R1 → Prop
  | .oof, r1 => r1 = .oof
  | .exc k, _ => benign k = true
  | .done m cg' psg, r1 =>
    ∃ c1' ps1, r1 = .done m c1' ps1 ∧ SRel cg' c1' ∧ FrameR cg cg' ∧ (m = true → psg = ps0 ++ ps1)

structure GoodG (rG : SemG) (r1 : Sem1) : Prop where
  rel : ∀ e cg c1 ps0, SRel cg c1 → PreG cg → Pre c1 → GenRel cg ps0 (rG e cg ps0) (r1 e c1)

theorem GenRel.ite {cg : PState} {ps0 : List Pair} {p : Prop} [Decidable p] {a b : RG} {a1 b1 : R1}
    (ha : p → GenRel cg ps0 a a1) (hb : ¬p → GenRel cg ps0 b b1) :
    GenRel cg ps0 (if p then a else b) (if p then a1 else b1) := ite_ind₂ (P := GenRel cg ps0) ha hb

@[elab_as_elim]
theorem GenRel.elim {cg : PState} {ps0 : List Pair} {rg : RG} {r1 : R1} {motive : RG → R1 → Prop}
    (h : GenRel cg ps0 rg r1) (oof : motive .oof .oof)
    (exc : ∀ k r, benign k = true → motive (.exc k) r)
    (done : ∀ m cg' psg c1' ps1, rg = .done m cg' psg → r1 = .done m c1' ps1 → SRel cg' c1' →
      FrameR cg cg' → (m = true → psg = ps0 ++ ps1) → motive (.done m cg' psg) (.done m c1' ps1)) :
    motive rg r1 := by
  cases rg with
  | oof => cases h; exact oof
  | exc k => exact exc k r1 h
  | done m cg' psg =>
    obtain ⟨c1', ps1, rfl, s, f, hp⟩ := h
    exact done m cg' psg c1' ps1 rfl rfl s f hp

theorem GenRel.mono_start {cg dg : PState} {ps0 : List Pair} {rg : RG} {r1 : R1}
    (f : FrameR cg dg) (h : GenRel dg ps0 rg r1) : GenRel cg ps0 rg r1 := by
  cases rg with
  | oof => exact h
  | exc k => exact h
  | done m cg' psg =>
    obtain ⟨c1', ps1, e, s, fr, hp⟩ := h
    exact ⟨c1', ps1, e, s, f.trans fr, hp⟩

variable (g : Grammar) (inp : Input)

theorem failT_gen {cg c1 : PState} (ps0 : List Pair) (s : SRel cg c1) (pg : PreG cg) (p1 : Pre c1) :
    GenRel cg ps0 (LG.failT cg ps0) (L1.failT c1) := by
  obtain ⟨cg', hg, eg⟩ := failT_inside pg.rne
  obtain ⟨c1', h1, e1⟩ := failT_inside p1.rne
  rw [LG.failT_eq, eg, e1]
  obtain ⟨sr, hr⟩ := srel_fail s hg h1
  exact ⟨c1', [], rfl, sr, (FrameR.refl pg).of_eq rfl hr, fun h => by cases h⟩

theorem srel_enter {cg c1 : PState} (name : String) (mod : Nat) (s : SRel cg c1) :
    SRel (L1.ruleEnter name mod { cg with rstack := cg.rstack.push name })
         (L1.ruleEnter name mod { c1 with rstack := c1.rstack.push name }) := by
  rw [L1.ruleEnter_eq, L1.ruleEnter_eq]
  exact (s.setRstack _ _).setAdepth (congrArg (L1.enterDepth name mod) s.ad)

theorem enter_rstack (name : String) (mod : Nat) (c : PState) :
    (L1.ruleEnter name mod { c with rstack := c.rstack.push name }).rstack = c.rstack.push name := by
  rw [L1.ruleEnter_eq]

theorem rule_gen {rG : SemG} {r1 : Sem1} (hG : GoodG rG r1) (h1 : FrameBal r1)
    (name : String) (mod : Nat) (body : Expr) (cg c1 : PState) (ps0 : List Pair)
    (s : SRel cg c1) (pgi : Inv cg.rstack) (p1 : PreW c1) :
    GenRel cg ps0 (LG.ruleG rG name mod body cg ps0) (L1.ruleParse r1 name mod body c1) := by
  unfold LG.ruleG L1.ruleParse
  have he := rule_enter name mod c1 p1
  have se := srel_enter name mod s
  have rg := enter_rstack name mod cg
  generalize L1.ruleEnter name mod { cg with rstack := cg.rstack.push name } = eng at se rg
  generalize L1.ruleEnter name mod { c1 with rstack := c1.rstack.push name } = en1 at se he
  have peng : PreG eng := ⟨by rw [rg]; exact inv_push _ _ pgi, by rw [rg]; simp [push_items]⟩
  refine (hG.rel body eng en1 [] se peng he.pre).elim rfl (fun _ _ hb => hb)
    fun m cg2 chg c12 ch1 _ e1 s2 fr2 hch => ?_
  · dsimp only []
    have f12 : Frame en1 c12 := h1 _ _ _ _ _ e1 he.pre
    obtain ⟨rsg, hpg, hgi, hgs, hginv⟩ : ∃ rs, cg2.rstack.pop = some (name, rs) ∧
        rs.items = cg.rstack.items ∧ snapsOf rs = snapsOf cg.rstack ∧ Inv rs :=
      pop_pushed (by rw [fr2.ri, rg]; simp [push_items])
        (by rw [fr2.rs, rg, snapsOf_push _ _ pgi]) fr2.ir
    obtain ⟨rs1, hp1, _⟩ := rule_exit p1 he f12
    rw [LG.ruleExitG_eq, L1.ruleExit_eq, L1.ruleExit_eq, hpg, hp1]
    refine ⟨_, _, rfl, ?_, ⟨hgi, hgs, hginv⟩, fun hm => ?_⟩
    · exact ((s2.setAdepth (by rw [s2.ad])).setRstack rsg rs1).setTag (by rw [s2.tg.1])
    · subst hm
      have hch' : chg = ch1 := (hch rfl).trans (List.nil_append _)
      subst hch'
      unfold L1.exitPairs
      rw [s.pos, s2.pos, s2.tg.1]

theorem ruleParse_fail_ps {r1 : Sem1} {name : String} {mod : Nat} {body : Expr} {c c' : PState}
    {ps : List Pair} (h : L1.ruleParse r1 name mod body c = .done false c' ps) : ps = [] := by
  unfold L1.ruleParse at h
  cases hb : r1 body (L1.ruleEnter name mod { c with rstack := c.rstack.push name }) with
  | oof => rw [hb] at h; cases h
  | exc k => rw [hb] at h; cases h
  | done m c2 ch =>
    rw [hb] at h
    dsimp only at h
    rw [L1.ruleExit_eq] at h
    cases hp : c2.rstack.pop with
    | none => rw [hp] at h; cases h
    | some q => rw [hp] at h; cases h; rfl

theorem ruleG_fail_ps {rG : SemG} {name : String} {mod : Nat} {body : Expr} {cg cg' : PState}
    {ps0 psg : List Pair} (h : LG.ruleG rG name mod body cg ps0 = .done false cg' psg) : psg = ps0 := by
  unfold LG.ruleG at h
  cases hb : rG body (L1.ruleEnter name mod { cg with rstack := cg.rstack.push name }) [] with
  | oof => rw [hb] at h; cases h
  | exc k => rw [hb] at h; cases h
  | done m c2 ch =>
    rw [hb] at h
    dsimp only at h
    rw [LG.ruleExitG_eq, L1.ruleExit_eq] at h
    cases hp : c2.rstack.pop with
    | none => rw [hp] at h; cases h
    | some q => rw [hp] at h; cases h; exact List.append_nil ps0

theorem callRuleG_fail_ps {rG : SemG} {name : String} {cg cg' : PState}
    {ps0 psg : List Pair} (h : LG.callRuleG g rG name cg ps0 = .done false cg' psg) : psg = ps0 := by
  unfold LG.callRuleG at h
  cases hl : g.lookup name with
  | none => rw [hl] at h; cases h
  | some r =>
    rw [hl] at h
    dsimp only [] at h
    by_cases hb : (r.kind == RuleKind.builtin && r.name != "EOI") = true
    · rw [if_pos hb] at h; cases h
    · rw [if_neg hb] at h; exact ruleG_fail_ps h

theorem callRule_gen {rG : SemG} {r1 : Sem1} (hG : GoodG rG r1) (h1 : FrameBal r1)
    (name : String) (cg c1 : PState) (ps0 : List Pair) (s : SRel cg c1) (pg : PreG cg) (p1 : Pre c1) :
    GenRel cg ps0 (LG.callRuleG g rG name cg ps0) (L1.callRule g r1 name c1) := by
  unfold LG.callRuleG L1.callRule
  cases g.lookup name with
  | none => simp [GenRel, benign]
  | some r =>
    dsimp only []
    by_cases hb : (r.kind == RuleKind.builtin && r.name != "EOI") = true
    · simp [hb, GenRel, benign]
    · simp only [hb, Bool.false_eq_true, ↓reduceIte]
      exact rule_gen hG h1 r.name r.mod r.body cg c1 ps0 s pg.ir p1.weak

theorem withTag_gen (tag : Option String) (cg c1 : PState) (ps0 : List Pair) (s : SRel cg c1)
    (pg : PreG cg) (p1 : Pre c1) (bodyG : PState → RG) (body1 : PState → R1)
    (hbody : ∀ dg d1, SRel dg d1 → PreG dg → Pre d1 → GenRel dg ps0 (bodyG dg) (body1 d1)) :
    GenRel cg ps0 (LG.withTagG tag cg bodyG) (L1.withTag tag c1 body1) := by
  unfold LG.withTagG L1.withTag
  cases tag with
  | none => exact hbody cg c1 s pg p1
  | some t =>
    dsimp only []
    exact (hbody _ _ (s.setTag (congrArg (t :: ·) s.tg.1)) pg.of_eq p1.of_eq).elim rfl (fun _ _ hb => hb)
      fun m cg' psg c1' ps1 _ _ sr fr hp =>
        ⟨_, ps1, rfl, sr.setTag (congrArg List.tail sr.tg.1), fr.of_eq, hp⟩

/-- like `GenRel`, for `parse_trivia`, whose Boolean result nobody reads -/
def GenRelT (cg : PState) (ps0 : List Pair) : RG → R1 → Prop
  | .oof, r1 => r1 = .oof
  | .exc k, _ => benign k = true
  | .done _ cg' psg, r1 =>
    ∃ m1 c1' ps1, r1 = .done m1 c1' ps1 ∧ SRel cg' c1' ∧ FrameR cg cg' ∧ psg = ps0 ++ ps1

def TryRelG (cg : PState) (ps0 : List Pair) : LG.TryG → L1.TryR → Prop
  | .matched cg' psg, t1 => ∃ c1' ps1, t1 = .matched c1' ps1 ∧ SRel cg' c1' ∧ FrameR cg cg' ∧ psg = ps0 ++ ps1
  | .no cg' psg, t1 => ∃ c1', t1 = .no c1' ∧ SRel cg' c1' ∧ FrameR cg cg' ∧ psg = ps0
  | .stop rg, t1 => (rg = .oof ∧ t1 = .stop .oof) ∨ (∃ k, rg = .exc k ∧ benign k = true)

@[elab_as_elim]
theorem GenRelT.elim {cg : PState} {ps0 : List Pair} {rg : RG} {r1 : R1} {motive : RG → R1 → Prop}
    (h : GenRelT cg ps0 rg r1) (oof : motive .oof .oof)
    (exc : ∀ k r, benign k = true → motive (.exc k) r)
    (done : ∀ m cg' psg m1 c1' ps1, r1 = .done m1 c1' ps1 → SRel cg' c1' → FrameR cg cg' →
      psg = ps0 ++ ps1 → motive (.done m cg' psg) (.done m1 c1' ps1)) :
    motive rg r1 := by
  cases rg with
  | oof => cases h; exact oof
  | exc k => exact exc k r1 h
  | done m cg' psg =>
    obtain ⟨m1, c1', ps1, rfl, s, f, hp⟩ := h
    exact done m cg' psg m1 c1' ps1 rfl s f hp

theorem GenRelT.mono_start {cg dg : PState} {ps0 : List Pair} {rg : RG} {r1 : R1}
    (f : FrameR cg dg) (h : GenRelT dg ps0 rg r1) : GenRelT cg ps0 rg r1 := by
  cases rg with
  | oof => exact h
  | exc k => exact h
  | done m cg' psg =>
    obtain ⟨m1, c1', ps1, e, s, fr, hp⟩ := h
    exact ⟨m1, c1', ps1, e, s, f.trans fr, hp⟩

@[elab_as_elim]
theorem TryRelG.elim {cg : PState} {ps0 : List Pair} {tg : LG.TryG} {t1 : L1.TryR}
    {motive : LG.TryG → L1.TryR → Prop} (h : TryRelG cg ps0 tg t1)
    (matched : ∀ cg' psg c1' ps1, t1 = .matched c1' ps1 → SRel cg' c1' → FrameR cg cg' →
      psg = ps0 ++ ps1 → motive (.matched cg' psg) (.matched c1' ps1))
    (no : ∀ cg' c1', t1 = .no c1' → SRel cg' c1' → FrameR cg cg' → motive (.no cg' ps0) (.no c1'))
    (oof : motive (.stop .oof) (.stop .oof))
    (exc : ∀ k t, benign k = true → motive (.stop (.exc k)) t) : motive tg t1 := by
  cases tg with
  | matched cg' psg => obtain ⟨c1', ps1, rfl, s, f, hp⟩ := h; exact matched cg' psg c1' ps1 rfl s f hp
  | no cg' psg => obtain ⟨c1', rfl, s, f, rfl⟩ := h; exact no cg' c1' rfl s f
  | stop rg =>
    rcases h with ⟨rfl, rfl⟩ | ⟨k, rfl, hb⟩
    · exact oof
    · exact exc k t1 hb

theorem tryTrivia_gen {rG : SemG} {r1 : Sem1} (hG : GoodG rG r1) (h1 : FrameBal r1)
    (name : String) (cg c1 : PState) (ps0 : List Pair) (s : SRel cg c1) (pg : PreG cg) (p1 : Pre c1) :
    TryRelG cg ps0 (LG.tryTriviaG g rG (g.lookup name).isSome name cg ps0)
      (L1.tryTrivia r1 (g.lookup name) c1) := by
  unfold LG.tryTriviaG L1.tryTrivia
  cases hl : g.lookup name with
  | none => exact ⟨c1, rfl, s, FrameR.refl pg, rfl⟩
  | some r =>
    simp only [Option.isSome_some, Bool.not_true, Bool.false_eq_true, ↓reduceIte]
    have hc := callRule_gen g hG h1 name cg.checkpoint c1.checkpoint ps0 (srel_checkpoint s)
      (preG_checkpoint pg) (pre_checkpoint p1)
    have hfp := fun cg' psg => @callRuleG_fail_ps g rG name cg.checkpoint cg' ps0 psg
    have e1 : L1.callRule g r1 name c1.checkpoint = L1.ruleParse r1 r.name r.mod r.body c1.checkpoint := by
      simp [L1.callRule, hl]
    rw [e1] at hc
    refine hc.elim (.inl ⟨rfl, rfl⟩) (fun k _ hb => .inr ⟨k, rfl, hb⟩)
      fun m cg' psg c1' ps1 eg e2 sr fr hp => ?_
    have f1 : Frame c1.checkpoint c1' := h1.ruleParse (pre_checkpoint p1) e2
    cases m with
    | true => exact ⟨c1'.ok, ps1, rfl, srel_ok sr f1.iu, frameR_ok_after fr, hp rfl⟩
    | false => exact ⟨c1'.restore, rfl, srel_restore sr, frameR_restore_after fr, hfp _ _ eg⟩

theorem triviaLoop_gen {rG : SemG} {r1 : Sem1} (hG : GoodG rG r1) (h1 : FrameBal r1) :
    ∀ (k : Nat) (cg c1 : PState) (ps0 ps acc : List Pair), ps = ps0 ++ acc → SRel cg c1 → PreG cg → Pre c1 →
      GenRelT cg ps0
        (LG.triviaLoopG g rG (g.lookup "WHITESPACE").isSome (g.lookup "COMMENT").isSome k cg ps)
        (L1.triviaLoop r1 (g.lookup "WHITESPACE") (g.lookup "COMMENT") k c1 acc) := by
  intro k
  induction k with
  | zero => intro cg c1 ps0 ps acc _ _ _ _; simp [LG.triviaLoopG, L1.triviaLoop, GenRelT]
  | succ k ih =>
    intro cg c1 ps0 ps acc hps s pg p1
    subst hps
    simp only [LG.triviaLoopG, L1.triviaLoop]
    refine (tryTrivia_gen g hG h1 "WHITESPACE" cg c1 (ps0 ++ acc) s pg p1).elim
      (fun cg' psg c1' ps1 e1 sr fr hp => ?_) (fun cg1 c11 e1 sr1 fr1 => ?_) rfl (fun _ _ hb => hb)
    · exact (ih cg' c1' ps0 psg (acc ++ ps1) (by rw [hp, List.append_assoc]) sr (fr.pre pg)
        ((h1.tryTrivia_matched p1 e1).pre p1)).mono_start fr
    · have f1 : Frame c1 c11 := h1.tryTrivia_no p1 e1
      dsimp only []
      refine (tryTrivia_gen g hG h1 "COMMENT" cg1 c11 (ps0 ++ acc) sr1 (fr1.pre pg) (f1.pre p1)).elim
        (fun cg' psg c1' ps1 e2 sr fr hp => ?_)
        (fun cg2 c12 _ sr2 fr2 => ⟨true, c12, acc, rfl, sr2, fr1.trans fr2, rfl⟩) rfl (fun _ _ hb => hb)
      exact (ih cg' c1' ps0 psg (acc ++ ps1) (by rw [hp, List.append_assoc]) sr (fr.pre (fr1.pre pg))
        ((h1.tryTrivia_matched (f1.pre p1) e2).pre (f1.pre p1))).mono_start (fr1.trans fr)

theorem fusedSkip_none_or (h : g.fusedSkip = none) :
    g.lookup "SKIP" = none ∨ ∃ q, g.lookup "SKIP" = some q := by
  cases g.lookup "SKIP" with
  | none => exact Or.inl rfl
  | some q => exact Or.inr ⟨q, rfl⟩

theorem isNone_and_isNone {α β} (a : Option α) (b : Option β) :
    (a.isNone && b.isNone) = !(a.isSome || b.isSome) := by
  cases a <;> cases b <;> rfl

theorem parseTrivia_gen {rG : SemG} {r1 : Sem1} (hG : GoodG rG r1) (h1 : FrameBal r1)
    (k : Nat) (cg c1 : PState) (ps0 : List Pair) (s : SRel cg c1) (pg : PreG cg) (p1 : Pre c1) :
    GenRelT cg ps0 (LG.parseTriviaG g rG k cg ps0) (L1.parseTrivia g r1 k c1) := by
  unfold LG.parseTriviaG L1.parseTrivia
  have same : GenRelT cg ps0 (RG.done true cg ps0) (R1.done false c1 []) :=
    ⟨false, c1, [], rfl, s, FrameR.refl pg, by simp⟩
  simp only [Grammar.defines]
  have hcond : (cg.adepth.val > 0) = (c1.adepth.val > 0) := by rw [s.ad]
  simp only [hcond]
  by_cases ha : c1.adepth.val > 0
  · simp only [ha, ↓reduceIte]
    by_cases hn : (!(g.fusedSkip.isSome || (g.lookup "WHITESPACE").isSome || (g.lookup "COMMENT").isSome)) = true
    · simp only [hn, ↓reduceIte]; exact same
    · simp only [hn, Bool.false_eq_true, ↓reduceIte]; exact same
  · simp only [ha, ↓reduceIte]
    cases hsk : g.fusedSkip with
    | some skip =>
      simp only [Option.isSome_some, Bool.true_or, Bool.not_true, Bool.false_eq_true, ↓reduceIte]
      have hc := callRule_gen g hG h1 "SKIP" cg c1 ps0 s pg p1
      have e1 : L1.callRule g r1 "SKIP" c1 = L1.ruleParse r1 skip.name skip.mod skip.body c1 := by
        simp [L1.callRule, Prim.fusedSkip_lookup hsk]
      rw [e1] at hc
      refine hc.elim rfl (fun _ _ hb => hb) fun m cg' psg c1' ps1 eg e2 sr fr hp => ?_
      cases m with
      | true => exact ⟨true, c1', ps1, rfl, sr, fr, hp rfl⟩
      | false =>
        exact ⟨false, c1', ps1, rfl, sr, fr,
          by rw [callRuleG_fail_ps g eg, ruleParse_fail_ps e2, List.append_nil]⟩
    | none =>
      simp only [Option.isSome_none, Bool.false_or]
      rw [isNone_and_isNone]
      by_cases hn : (!((g.lookup "WHITESPACE").isSome || (g.lookup "COMMENT").isSome)) = true
      · simp only [hn, ↓reduceIte]; exact same
      · simp only [hn, Bool.false_eq_true, ↓reduceIte]
        have hl := triviaLoop_gen g hG h1 k { cg with suppress := true } { c1 with suppress := true }
          ps0 ps0 [] (by simp) (s.setSuppress true) pg.of_eq p1.of_eq
        exact hl.elim rfl (fun _ _ hb => hb) fun m cg' psg m1 c1' ps1 _ sr fr hp =>
          ⟨m1, _, ps1, rfl, sr.setSuppress false, fr.of_eq, hp⟩

theorem seq_gen {rG : SemG} {r1 : Sem1} (hG : GoodG rG r1) (h1 : FrameBal r1)
    (k : Nat) :
    ∀ (es : List Expr) (cg c1 : PState) (ps0 acc : List Pair), SRel cg c1 → PreG cg → Pre c1 →
      GenRel cg ps0 (LG.seqG g rG k es cg (ps0 ++ acc)) (L1.seqParse g r1 k es c1 acc) := by
  intro es
  induction es with
  | nil => intro cg c1 ps0 acc s pg _; exact ⟨c1, acc, rfl, s, FrameR.refl pg, fun _ => rfl⟩
  | cons e rest ih =>
    intro cg c1 ps0 acc s pg p1
    simp only [LG.seqG, L1.seqParse]
    refine (hG.rel e cg c1 (ps0 ++ acc) s pg p1).elim rfl (fun _ _ hb => hb)
      fun m cg1 psg c11 ps1 _ e1 sr fr hp => ?_
    cases m with
    | false => exact ⟨c11, [], rfl, sr, fr, fun h => by cases h⟩
    | true =>
      have hp' := hp rfl
      have f1 : Frame c1 c11 := h1 _ _ _ _ _ e1 p1
      dsimp only []
      refine .ite (fun _ => ⟨c11, acc ++ ps1, rfl, sr, fr, fun _ => by rw [hp', List.append_assoc]⟩)
        fun _ => ?_
      refine (parseTrivia_gen g hG h1 k cg1 c11 psg sr (fr.pre pg) (f1.pre p1)).elim rfl
        (fun _ _ hb => hb) fun m2 cg2 psg2 m1 c12 tps e2 sr2 fr2 hp2 => ?_
      have := ih cg2 c12 ps0 (acc ++ ps1 ++ tps) sr2 (fr2.pre (fr.pre pg))
        ((h1.parseTrivia (f1.pre p1) e2).pre (f1.pre p1))
      have e3 : ps0 ++ (acc ++ ps1 ++ tps) = psg2 := by
        rw [hp2, hp']; simp [List.append_assoc]
      rw [e3] at this
      exact this.mono_start (fr.trans fr2)

theorem seq_gen_nil {rG : SemG} {r1 : Sem1} (hG : GoodG rG r1) (h1 : FrameBal r1) (k : Nat)
    (es : List Expr) (cg c1 : PState) (ps0 : List Pair) (s : SRel cg c1) (pg : PreG cg) (p1 : Pre c1) :
    GenRel cg ps0 (LG.seqG g rG k es cg ps0) (L1.seqParse g r1 k es c1 []) := by
  have := seq_gen g hG h1 k es cg c1 ps0 [] s pg p1
  rw [List.append_nil] at this
  exact this

theorem choice_gen {rG : SemG} {r1 : Sem1} (hG : GoodG rG r1) (h1 : FrameBal r1) :
    ∀ (es : List Expr) (cg c1 : PState) (ps0 : List Pair), SRel cg c1 → PreG cg → Pre c1 →
      GenRel cg ps0 (LG.choiceG rG es cg ps0) (L1.choiceParse r1 es c1) := by
  intro es
  induction es with
  | nil => intro cg c1 ps0 s pg _; exact ⟨c1, [], rfl, s, FrameR.refl pg, by simp⟩
  | cons e rest ih =>
    intro cg c1 ps0 s pg p1
    simp only [LG.choiceG, L1.choiceParse]
    refine (hG.rel e cg.checkpoint c1.checkpoint [] (srel_checkpoint s) (preG_checkpoint pg)
      (pre_checkpoint p1)).elim rfl (fun _ _ hb => hb) fun m cg1 tmp c11 ps1 _ e1 sr fr hp => ?_
    have f1 : Frame c1.checkpoint c11 := h1 _ _ _ _ _ e1 (pre_checkpoint p1)
    cases m with
    | true =>
      exact ⟨c11.ok, ps1, rfl, srel_ok sr f1.iu, frameR_ok_after fr, fun _ => by rw [hp rfl]; rfl⟩
    | false =>
      have := ih cg1.restore c11.restore ps0 (srel_restore sr) ((frameR_restore_after fr).pre pg)
        ((restore_after f1).1.pre p1)
      exact this.mono_start (frameR_restore_after fr)

theorem repLoop_gen {rG : SemG} {r1 : Sem1} (hG : GoodG rG r1) (h1 : FrameBal r1)
    (e : Expr) (kk : Nat) :
    ∀ (k : Nat) (first : Bool) (cg c1 : PState) (ps0 acc : List Pair), SRel cg c1 → PreG cg → Pre c1 →
      GenRel cg ps0 (LG.repLoopG g rG e k kk first cg (ps0 ++ acc)) (L1.repLoop g r1 e k kk first c1 acc) := by
  intro k
  induction k with
  | zero => intro first cg c1 ps0 acc _ _ _; simp [LG.repLoopG, L1.repLoop, GenRel]
  | succ k ih =>
    intro first cg c1 ps0 acc s pg p1
    simp only [LG.repLoopG, L1.repLoop]
    have sc := srel_checkpoint s
    have pgc := preG_checkpoint pg
    have p1c := pre_checkpoint p1
    have hT : GenRelT cg.checkpoint []
        (if first = true then RG.done true cg.checkpoint [] else LG.parseTriviaG g rG kk cg.checkpoint [])
        (if first = true then R1.done true c1.checkpoint [] else L1.parseTrivia g r1 kk c1.checkpoint) := by
      by_cases hf : first = true
      · simp only [hf, ↓reduceIte]; exact ⟨true, _, [], rfl, sc, FrameR.refl pgc, rfl⟩
      · simp only [hf, Bool.false_eq_true, ↓reduceIte]
        exact parseTrivia_gen g hG h1 kk cg.checkpoint c1.checkpoint [] sc pgc p1c
    refine hT.elim rfl (fun _ _ hb => hb) fun m cgt tmp m1 c1t tps e1 srt frt hpt => ?_
    have f1 : Frame c1.checkpoint c1t := by
      by_cases hf : first = true
      · rw [if_pos hf] at e1; cases e1; exact Frame.refl p1c
      · rw [if_neg hf] at e1; exact h1.parseTrivia p1c e1
    simp only [List.nil_append] at hpt
    subst hpt
    dsimp only []
    refine (hG.rel e cgt c1t tmp srt (frt.pre pgc) (f1.pre p1c)).elim rfl (fun _ _ hb => hb)
      fun m2 cg2 tmp2 c12 ps1 _ e2 sr2 fr2 hp2 => ?_
    have f2 : Frame c1t c12 := h1 _ _ _ _ _ e2 (f1.pre p1c)
    have f02 : Frame c1.checkpoint c12 := f1.trans f2
    cases m2 with
    | true =>
      have := ih false cg2.ok c12.ok ps0 (acc ++ tmp ++ ps1) (srel_ok sr2 f02.iu)
        ((frameR_ok_after (frt.trans fr2)).pre pg) ((ok_after f02).1.pre p1)
      have e3 : ps0 ++ (acc ++ tmp ++ ps1) = ps0 ++ acc ++ tmp2 := by
        rw [hp2 rfl]; simp [List.append_assoc]
      rw [e3] at this
      exact this.mono_start (frameR_ok_after (frt.trans fr2))
    | false =>
      exact ⟨c12.restore, acc, rfl, srel_restore sr2, frameR_restore_after (frt.trans fr2), fun _ => rfl⟩

/-- related states have the same position and stack contents, so the terminal's decision is the
    same on both sides -/
theorem leaf_gen (e : Expr) {cg c1 : PState} (ps0 : List Pair) (s : SRel cg c1) (pg : PreG cg)
    (p1 : Pre c1) :
    GenRel cg ps0 (((leafAct g inp e cg.pos cg.ustack.items).run1 cg).thread ps0)
      ((leafAct g inp e c1.pos c1.ustack.items).run1 c1) := by
  rw [s.pos, s.ui]
  have fr : ∀ {us : DStack Str} {q : Nat}, FrameR cg { cg with ustack := us, pos := q } :=
    (FrameR.refl pg).of_eq
  cases h : leafAct g inp e c1.pos c1.ustack.items with
  | fail =>
    rw [show (LeafAct.fail.run1 cg).thread ps0 = LG.failT cg ps0 from (LG.failT_eq cg ps0).symm]
    exact failT_gen ps0 s pg p1
  | no => exact ⟨c1, [], rfl, s, FrameR.refl pg, fun _ => rfl⟩
  | ok q op =>
    cases op with
    | keep => exact ⟨_, [], rfl, s.setPos q, fr, fun _ => rfl⟩
    | push x => exact ⟨_, [], rfl, (s.push p1.iu x).setPos q, fr, fun _ => rfl⟩
    | clear =>
      obtain ⟨sg, ig⟩ := snapsOf_clear _ s.uinv
      obtain ⟨s1, i1⟩ := snapsOf_clear _ p1.iu
      exact ⟨_, [], rfl,
        (s.setUstack (ig.trans i1.symm) (by rw [sg, s1, s.usn]) (inv_clear _ s.uinv)).setPos q, fr,
        fun _ => rfl⟩
    | pop =>
      dsimp only [LeafAct.run1]
      rcases s.pop p1.iu with ⟨_, h1'⟩ | ⟨x, ug, u1, hg, h1', su⟩
      · exact absurd (items_of_pop_none h1') (leafAct_pop h)
      · rw [hg, h1']; exact ⟨_, [], rfl, su.setPos q, fr, fun _ => rfl⟩

theorem step_leaf_gen {e : Expr} (he : e.isLeaf = true) (hp : e ≠ .popAll) (k : Nat) (rG : SemG)
    (r1 : Sem1) {cg c1 : PState} (ps0 : List Pair) (s : SRel cg c1) (pg : PreG cg) (p1 : Pre c1) :
    GenRel cg ps0 (LG.step g inp k rG e cg ps0) (L1.step g inp k r1 e c1) := by
  rw [LG.step_act he, L1.step_leaf_eq he hp]
  exact leaf_gen g inp e ps0 s pg p1

theorem step_gen {rG : SemG} {r1 : Sem1} (k : Nat) (hG : GoodG rG r1) (h1 : FrameBal r1) :
    GoodG (LG.step g inp k rG) (L1.step g inp k r1) := by
  constructor
  intro e cg c1 ps0 s pg p1
  have hpos := s.pos
  cases e with
  | ident name tag =>
    dsimp only [LG.step, L1.step]
    apply withTag_gen tag cg c1 ps0 s pg p1
    intro dg d1 sd pd p1d
    exact callRule_gen g hG h1 name dg d1 ps0 sd pd p1d
  | rule name mod sm body =>
    dsimp only [LG.step, L1.step]
    by_cases hE : (name == "EOI" || !hasBit mod SILENT || L1.ruleScoped name mod) = true
    · rw [if_pos hE]; exact rfl
    · rw [if_neg hE]
      simp only [Bool.not_eq_true, Bool.or_eq_false_iff, Bool.not_eq_false'] at hE
      obtain ⟨⟨_, hS⟩, hsc⟩ := hE
      -- generated code inlines the body; the interpreter pushes the rule's name around it
      unfold L1.ruleParse
      have he := rule_enter name mod c1 p1.weak
      have hen : L1.ruleEnter name mod { c1 with rstack := c1.rstack.push name }
          = { c1 with rstack := c1.rstack.push name } := by
        rw [L1.ruleEnter_eq, L1.enterDepth]
        have hsc' := hsc
        unfold L1.ruleScoped at hsc'
        simp only [Bool.or_eq_false_iff] at hsc'
        simp only [hsc'.1.1.1, hsc'.1.1.2, hsc'.1.2, hsc'.2, Bool.or_self, Bool.false_eq_true, ↓reduceIte]
      rw [hen] at he ⊢
      have se : SRel cg { c1 with rstack := c1.rstack.push name } := s.setRstack cg.rstack _
      refine (hG.rel body cg _ ps0 se pg he.pre).elim rfl (fun _ _ hb => hb)
        fun m cg2 psg c12 ch1 _ e1 s2 fr2 hch => ?_
      have f12 := h1 _ _ _ _ _ e1 he.pre
      obtain ⟨rs1, hp1, _⟩ := rule_exit p1.weak he f12
      dsimp only []
      rw [L1.ruleExit_eq, hp1]
      refine ⟨_, _, rfl, ?_, fr2, fun hm => ?_⟩
      · unfold L1.exitState
        simp only [hsc, hS, Bool.not_true, Bool.and_false, Bool.false_eq_true, ↓reduceIte]
        exact s2.setRstack cg2.rstack rs1
      · subst hm
        unfold L1.exitPairs
        simp only [hS, Bool.not_true, Bool.false_eq_true, ↓reduceIte]
        exact hch rfl
  | seq _ | rep1 _ | repExact _ _ | repMin _ _ | repMax _ _ | repMinMax _ _ _ =>
    exact seq_gen_nil g hG h1 k _ cg c1 ps0 s pg p1
  | choice es => exact choice_gen hG h1 es cg c1 ps0 s pg p1
  | opt e =>
    dsimp only [LG.step, L1.step]
    refine (hG.rel e cg.checkpoint c1.checkpoint [] (srel_checkpoint s) (preG_checkpoint pg)
      (pre_checkpoint p1)).elim rfl (fun _ _ hb => hb) fun m cg1 tmp c11 ps1 _ e1 sr fr hp => ?_
    have f1 : Frame c1.checkpoint c11 := h1 _ _ _ _ _ e1 (pre_checkpoint p1)
    cases m with
    | true => exact ⟨c11.ok, ps1, rfl, srel_ok sr f1.iu, frameR_ok_after fr, fun _ => by rw [hp rfl]; rfl⟩
    | false =>
      exact ⟨c11.restore, [], rfl, srel_restore sr, frameR_restore_after fr,
        fun _ => (List.append_nil _).symm⟩
  | rep e =>
    have := repLoop_gen g hG h1 e k k true cg c1 ps0 [] s pg p1
    rw [List.append_nil] at this
    exact this
  | andP e =>
    dsimp only [LG.step, L1.step]
    exact (hG.rel e cg.checkpoint c1.checkpoint [] (srel_checkpoint s) (preG_checkpoint pg)
      (pre_checkpoint p1)).elim rfl (fun _ _ hb => hb) fun m cg1 tmp c11 ps1 _ _ sr fr _ =>
        ⟨c11.restore, [], rfl, srel_restore sr, frameR_restore_after fr, fun _ => (List.append_nil _).symm⟩
  | notP e =>
    dsimp only [LG.step, L1.step]
    have sc0 := srel_checkpoint s
    have sc := sc0.setNeg (congrArg (· + 1) sc0.nd)
    have pgc : PreG { cg.checkpoint with negDepth := cg.checkpoint.negDepth + 1 } :=
      (preG_checkpoint pg).of_eq
    have p1c : Pre { c1.checkpoint with negDepth := c1.checkpoint.negDepth + 1 } :=
      (pre_checkpoint p1).of_eq
    refine (hG.rel e _ _ [] sc pgc p1c).elim rfl (fun _ _ hb => hb)
      fun m cg1 tmp c11 ps1 _ e1 sr fr _ => ?_
    have fr0 : FrameR cg.checkpoint cg1 := fr.of_eq
    have f1 : Frame c1.checkpoint c11 := (Frame.of_eq (pre_checkpoint p1)).trans (h1 _ _ _ _ _ e1 p1c)
    have srr := srel_restore sr
    have frr := frameR_restore_after fr0
    have f1r := (restore_after f1).1
    cases m with
    | false =>
      exact ⟨_, [], rfl, srr.setNeg (congrArg (· - 1) srr.nd), frr.of_eq,
        fun _ => (List.append_nil _).symm⟩
    | true =>
      dsimp only []
      obtain ⟨cg3, hg3⟩ := fail_isSome (frr.pre pg).rne (L1.failedName e) true
      obtain ⟨c13, h13⟩ := fail_isSome (f1r.pre p1).rne (L1.failedName e) true
      rw [if_pos rfl, if_pos rfl, hg3, h13]
      obtain ⟨s3, hr3⟩ := srel_fail srr hg3 h13
      exact ⟨_, [], rfl, s3.setNeg (congrArg (· - 1) s3.nd), frr.of_eq rfl hr3, fun h => by cases h⟩
  | group e tag =>
    dsimp only [LG.step, L1.step]
    apply withTag_gen tag cg c1 ps0 s pg p1
    intro dg d1 sd pd p1d
    exact hG.rel e dg d1 ps0 sd pd p1d
  | push e =>
    dsimp only [LG.step, L1.step]
    refine (hG.rel e cg c1 ps0 s pg p1).elim rfl (fun _ _ hb => hb)
      fun m cg1 psg c11 ps1 _ e1 sr fr hp => ?_
    have f1 : Frame c1 c11 := h1 _ _ _ _ _ e1 p1
    cases m with
    | false => exact ⟨c11, [], rfl, sr, fr, fun h => by cases h⟩
    | true =>
      have hsl : slice inp cg.pos cg1.pos = slice inp c1.pos c11.pos := by rw [s.pos, sr.pos]
      dsimp only []
      rw [hsl]
      exact ⟨_, ps1, rfl, sr.push f1.iu _, fr.of_eq, hp⟩
  | popAll =>
    dsimp only [LG.step, L1.step, LG.matchAllG]
    have p1c := pre_checkpoint p1
    obtain ⟨u, hs, hu, h0, he⟩ := popAllLoop_full inp (c1.ustack.items.length + 1) c1.checkpoint c1.pos
      p1c.iu (Nat.lt_succ_self _)
    have hi : c1.checkpoint.ustack.items = c1.ustack.items := rfl
    rw [he, hi, hpos, s.ui]
    -- the interpreter's state differs from `c1` in the user stack `u` only: same contents and
    -- snapshots as after `clear()`, reached by another route
    cases hm : L1.matchAll inp c1.ustack.items c1.pos with
    | some q =>
      obtain ⟨sc, ic⟩ := snapsOf_clear _ s.uinv
      have su := s.setUstack (ic.trans ((dropSnap_items u).trans (h0 (by rw [hi, hm]; nofun))).symm)
        ((sc.trans s.usn).trans (DStack.dropSnap_of_snaps hs hu).symm) (inv_clear _ s.uinv)
      -- the interpreter ends in `{ ({ c1.checkpoint with ustack := u }).ok with pos := q }`; the
      -- `SRel` given here is about `c1` with user stack, rule stack and position set.  The two
      -- are the same state by unfolding: `checkpoint` then `ok` gives back `posHist`, `adepth`
      -- and `tagHist` (tail of a cons, structure eta), so those three fields are closed by `rfl`
      exact ⟨_, [], rfl, (su.setRstack cg.rstack _).setPos q, (FrameR.refl pg).of_eq,
        fun _ => (List.append_nil _).symm⟩
    | none =>
      have fr := (restore_after ((Frame.refl p1c).setUstack hs hu)).1
      obtain ⟨ui, us⟩ := DStack.restore_of_snaps hs
      exact failT_gen ps0
        ((s.setUstack (s.ui.trans ui.symm) (s.usn.trans us.symm) s.uinv).setRstack cg.rstack _) pg
        (fr.pre p1)
  | _ => exact step_leaf_gen g inp rfl (by nofun) k rG r1 ps0 s pg p1

theorem run_gen : ∀ n, GoodG (LG.run g inp n) (L1.run g inp n)
  | 0 => ⟨fun _ _ _ _ _ _ _ => rfl⟩
  | n + 1 => step_gen g inp n (run_gen n) (frameBal_run g inp n)

end Pest
