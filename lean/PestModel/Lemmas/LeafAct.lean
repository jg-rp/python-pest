/-
  Lemmas/LeafAct.lean — what a node without sub-expressions decides, as a function of what every
  layer's terminal reads: the input, the position and the *contents* of the user stack
  (`leafAct`).  Each model runs that decision on its own state: the specification here
  (`LeafAct.run0`, `L0.step_leaf_eq`, and below it what L0's proofs draw from that: a terminal
  depends neither on the fuel nor on the recursive semantics, and fails or matches without pairs),
  the interpreter and the generated code in Lemmas/Thread.lean.  At the end, for the other nodes,
  what one step hands to the recursive call (`seqView`, `Sub`).
-/
import PestModel.Spec
import PestModel.Lemmas.Prim

namespace Pest

inductive StkOp where
  | keep | push (x : Str) | pop | clear

def StkOp.apply : StkOp → List Str → List Str
  | .keep, s => s
  | .push x, s => x :: s
  | .pop, s => s.tail
  | .clear, _ => []

/-- `fail`: no match, reported through `state.fail`; `no`: no match, silently; `ok q op`: a
    match that moves to `q` and does `op` to the stack -/
inductive LeafAct where
  | fail | no | ok (q : Nat) (op : StkOp)

def leafAct (g : Grammar) (inp : Input) : Expr → Nat → List Str → LeafAct
  | .str s, p, _ => if startsWithAt inp s p then .ok (p + s.length) .keep else .fail
  | .ci s, p, _ => if startsWithAtCI inp s p then .ok (p + s.length) .keep else .fail
  | .range a b, p, _ =>
    match inp[p]? with
    | some x => if L1.inRange a b x then .ok (p + 1) .keep else .fail
    | none => .fail
  | .pushLit s, p, _ => .ok p (.push s)
  | .peekSlice a b, p, st =>
    match L1.matchAll inp (pySlice st.reverse a b) p with | some q => .ok q .keep | none => .fail
  | .peek, p, st =>
    match st.head? with
    | none => .no
    | some v => if startsWithAt inp v p then .ok (p + v.length) .keep else .fail
  | .peekAll, p, st => match L1.matchAll inp st p with | some q => .ok q .keep | none => .fail
  | .pop, p, st =>
    match st.head? with
    | none => .no
    | some v => if startsWithAt inp v p then .ok (p + v.length) .pop else .fail
  | .popAll, p, st => match L1.matchAll inp st p with | some q => .ok q .clear | none => .fail
  | .drop, p, st => match st with | [] => .fail | _ :: _ => .ok p .pop
  | .anyB, p, _ => if p < inp.size then .ok (p + 1) .keep else .no
  | .soiB, p, _ => if p == 0 then .ok p .keep else .no
  | .eoiB, p, _ => if p == inp.size then .ok p .keep else .no
  | .uprop n, p, _ =>
    match inp[p]? with
    | some x => if g.uprop n x then .ok (p + 1) .keep else .no
    | none => .no
  | .skipUntil subs, p, _ => .ok (L1.skipUntilPos inp subs p) .keep
  | .optChoice alts star, p, _ =>
    match L1.optMatch g inp alts star p with | some q => .ok q .keep | none => .no
  | _, _, _ => .no

/-- the specification does not tell the two ways of not matching apart -/
def LeafAct.run0 (s : S0) : LeafAct → R0
  | .ok q op => .ok { s with pos := q, stk := op.apply s.stk } []
  | _ => .fail

theorem LeafAct.run0_ite (s : S0) (p : Prop) [Decidable p] (a b : LeafAct) :
    (if p then a else b).run0 s = if p then a.run0 s else b.run0 s := apply_ite ..

variable {g : Grammar} {inp : Input}

theorem L0.step_leaf_eq {e : Expr} (he : e.isLeaf = true) (k : Nat) (rec : Sem0) (s : S0) :
    L0.step g inp k rec e s = (leafAct g inp e s.pos s.stk).run0 s := by
  obtain ⟨pos, stk, atomic⟩ := s
  cases e with
  | str x => dsimp only [L0.step, leafAct]; rw [LeafAct.run0_ite] <;> rfl
  | ci x => dsimp only [L0.step, leafAct]; rw [LeafAct.run0_ite] <;> rfl
  | anyB | soiB | eoiB => dsimp only [L0.step, leafAct]; rw [LeafAct.run0_ite] <;> rfl
  | range a b =>
    dsimp only [L0.step, leafAct]
    cases inp[pos]? with
    | none => rfl
    | some x => dsimp only []; rw [LeafAct.run0_ite] <;> rfl
  | uprop n =>
    dsimp only [L0.step, leafAct]
    cases inp[pos]? with
    | none => rfl
    | some x => dsimp only []; rw [LeafAct.run0_ite] <;> rfl
  | peek | pop =>
    cases stk with
    | nil => rfl
    | cons t r => dsimp only [L0.step, leafAct, List.head?]; rw [LeafAct.run0_ite] <;> rfl
  | drop => cases stk <;> rfl
  | peekAll | popAll | peekSlice =>
    dsimp only [L0.step, leafAct, L0.matchLits]
    cases L1.matchAll inp _ pos <;> rfl
  | optChoice alts star => dsimp only [L0.step, leafAct]; cases L1.optMatch g inp alts star pos <;> rfl
  | pushLit | skipUntil => rfl
  | _ => cases he

/-- what `leafAct` promises of a decision taken at `p` on the stack contents `st` -/
def LeafAct.OK (inp : Input) (p : Nat) (st : List Str) : LeafAct → Prop
  | .ok q op => (p ≤ inp.size → p ≤ q ∧ q ≤ inp.size) ∧ (op = .pop → st ≠ [])
  | _ => True

theorem leafAct_ok (e : Expr) (p : Nat) (st : List Str) : (leafAct g inp e p st).OK inp p st := by
  have keep : ∀ {q}, (p ≤ inp.size → p ≤ q ∧ q ≤ inp.size) → (LeafAct.ok q .keep).OK inp p st :=
    fun h => ⟨h, nofun⟩
  have adv : ∀ {n}, p + n ≤ inp.size → p ≤ inp.size → p ≤ p + n ∧ p + n ≤ inp.size :=
    fun h _ => ⟨Nat.le_add_right _ _, h⟩
  have stay : p ≤ inp.size → p ≤ p ∧ p ≤ inp.size := fun h => ⟨Nat.le_refl _, h⟩
  have to : ∀ {q}, p ≤ q ∧ (p ≤ inp.size → q ≤ inp.size) → p ≤ inp.size → p ≤ q ∧ q ≤ inp.size :=
    fun h hp => ⟨h.1, h.2 hp⟩
  cases e with
  | str x => exact ite_ind (fun h => keep (adv (Prim.startsWithAt_le h))) fun _ => trivial
  | ci x => exact ite_ind (fun h => keep (adv (Prim.startsWithAtCI_le h))) fun _ => trivial
  | range _ _ | uprop _ =>
    dsimp only [leafAct]
    cases h : inp[p]? with
    | none => trivial
    | some x => exact ite_ind (fun _ => keep (adv (Prim.getElem?_lt h))) fun _ => trivial
  | pushLit x => exact ⟨stay, nofun⟩
  | peekSlice _ _ | peekAll =>
    dsimp only [leafAct]
    cases h : L1.matchAll inp _ p with
    | none => trivial
    | some q => exact keep (to (Prim.matchAll_le h))
  | popAll =>
    dsimp only [leafAct]
    cases h : L1.matchAll inp st p with
    | none => trivial
    | some q => exact ⟨to (Prim.matchAll_le h), nofun⟩
  | peek =>
    cases st with
    | nil => trivial
    | cons v r => exact ite_ind (fun h => keep (adv (Prim.startsWithAt_le h))) fun _ => trivial
  | pop =>
    cases st with
    | nil => trivial
    | cons v r =>
      exact ite_ind (fun h => ⟨adv (Prim.startsWithAt_le h), fun _ => List.cons_ne_nil v r⟩) fun _ => trivial
  | drop =>
    cases st with
    | nil => trivial
    | cons v r => exact ⟨stay, fun _ => List.cons_ne_nil v r⟩
  | anyB => exact ite_ind (fun h => keep (adv h)) fun _ => trivial
  | soiB | eoiB => exact ite_ind (fun _ => keep stay) fun _ => trivial
  | skipUntil subs => exact keep (Prim.skipUntilPos_le subs)
  | optChoice alts star =>
    dsimp only [leafAct]
    cases h : L1.optMatch g inp alts star p with
    | none => trivial
    | some q => exact keep (to (Prim.optMatch_le h))
  | _ => trivial

theorem leafAct_le (e : Expr) (p : Nat) (st : List Str) {q : Nat} {op : StkOp}
    (h : leafAct g inp e p st = .ok q op) : p ≤ inp.size → p ≤ q ∧ q ≤ inp.size :=
  (show (LeafAct.ok q op).OK inp p st from h ▸ leafAct_ok e p st).1

theorem leafAct_pop {e : Expr} {p q : Nat} {st : List Str} (h : leafAct g inp e p st = .ok q .pop) :
    st ≠ [] :=
  (show (LeafAct.ok q .pop).OK inp p st from h ▸ leafAct_ok e p st).2 rfl

namespace L0

theorem uprop_eq {g g' : Grammar} (hu : g'.usets = g.usets) : g'.uprop = g.uprop := by
  funext n c; simp [Grammar.uprop, hu]

theorem optMatchOnce_eq {g g' : Grammar} (hu : g'.usets = g.usets) (alts : List Alt) (pos : Nat) :
    L1.optMatchOnce g' inp alts pos = L1.optMatchOnce g inp alts pos := by
  simp only [L1.optMatchOnce, uprop_eq hu]

theorem optMatchStar_eq {g g' : Grammar} (hu : g'.usets = g.usets) (alts : List Alt) :
    ∀ (k pos : Nat), L1.optMatchStar g' inp alts k pos = L1.optMatchStar g inp alts k pos := by
  intro k
  induction k with
  | zero => intro pos; rfl
  | succ k ih => intro pos; simp only [L1.optMatchStar, optMatchOnce_eq hu, ih]

theorem optMatch_eq {g g' : Grammar} (hu : g'.usets = g.usets) (alts : List Alt) (star : Bool) (pos : Nat) :
    L1.optMatch g' inp alts star pos = L1.optMatch g inp alts star pos := by
  simp only [L1.optMatch, optMatchOnce_eq hu, optMatchStar_eq hu]

theorem leafAct_usets {g g' : Grammar} (hu : g'.usets = g.usets) (e : Expr) (p : Nat) (st : List Str) :
    leafAct g' inp e p st = leafAct g inp e p st := by
  cases e with
  | uprop n => dsimp only [leafAct]; rw [uprop_eq hu]
  | optChoice alts star => dsimp only [leafAct]; rw [optMatch_eq hu]
  | _ => rfl

/-- `Expr.isLeaf` of Lemmas/Prim.lean once more (`isLeaf_eq`): statements of the properties about
    L0 are written with this one, the proofs about L1 and LG with that -/
def isLeaf : Expr → Bool
  | .str _ | .ci _ | .range _ _ | .pushLit _ | .peek | .pop | .drop | .peekAll | .popAll
  | .peekSlice _ _ | .anyB | .soiB | .eoiB | .uprop _ | .skipUntil _ | .optChoice _ _ => true
  | _ => false

theorem isLeaf_eq (e : Expr) : e.isLeaf = isLeaf e := by
  cases e <;> rfl

theorem step_leaf {e : Expr} (hl : isLeaf e = true) (k : Nat) (rec : Sem0) (s : S0) :
    step g inp k rec e s = (leafAct g inp e s.pos s.stk).run0 s :=
  step_leaf_eq ((isLeaf_eq e).trans hl) k rec s

theorem step_leaf_indep {e : Expr} (hl : isLeaf e = true) (k k' : Nat) (rec rec' : Sem0) (s : S0) :
    step g inp k rec e s = step g inp k' rec' e s :=
  (step_leaf hl k rec s).trans (step_leaf hl k' rec' s).symm

end L0

theorem LeafAct.run0_ne_oof (a : LeafAct) (s : S0) : a.run0 s ≠ .oof := by
  cases a <;> exact R0.noConfusion

theorem LeafAct.run0_ne_stuck (a : LeafAct) (s : S0) : a.run0 s ≠ .stuck := by
  cases a <;> exact R0.noConfusion

theorem LeafAct.run0_ok {a : LeafAct} {s s' : S0} {ps : List Pair} (h : a.run0 s = .ok s' ps) :
    ∃ q op, a = .ok q op ∧ s' = { s with pos := q, stk := op.apply s.stk } ∧ ps = [] := by
  cases a with
  | ok q op => cases h; exact ⟨q, op, rfl, rfl, rfl⟩
  | _ => cases h

namespace L0

theorem step_leaf_ne_oof {e : Expr} (hl : isLeaf e = true) (k : Nat) (rec : Sem0) (s : S0) :
    step g inp k rec e s ≠ .oof :=
  step_leaf hl k rec s ▸ LeafAct.run0_ne_oof _ s

theorem leaf_spec {x : Expr} {s s' : S0} {ps : List Pair}
    (h : (leafAct g inp x s.pos s.stk).run0 s = .ok s' ps) :
    ps = [] ∧ s'.atomic = s.atomic ∧ (s.pos ≤ inp.size → s.pos ≤ s'.pos ∧ s'.pos ≤ inp.size) := by
  obtain ⟨q, op, hA, rfl, rfl⟩ := LeafAct.run0_ok h
  exact ⟨rfl, rfl, leafAct_le x s.pos s.stk hA⟩

/-- the list `step` hands to `seqL`, for the node kinds that are sequences by definition: `seq`
    itself, and the bounded repetitions as the model unrolls them (`L1.unrolled`, Interp.lean, which
    has no clause for `seq`: the interpreter treats that node directly) -/
def seqView : Expr → Option (List Expr)
  | .seq es => some es
  | e => L1.unrolled e

theorem step_seqView (g : Grammar) (inp : Input) (k : Nat) (rec : Sem0) {e : Expr} {es : List Expr}
    (h : seqView e = some es) (s : S0) :
    step g inp k rec e s = seqL g rec k es s [] := by
  cases e with
  | seq _ | rep1 _ | repExact _ _ | repMin _ _ | repMax _ _ | repMinMax _ _ _ => cases h; rfl
  | _ => cases h

theorem seqView_cases {e : Expr} {es : List Expr} (h : seqView e = some es) :
    e = .seq es ∨ L1.unrolled e = some es := by
  cases e with
  | seq _ => cases h; exact .inl rfl
  | _ => exact .inr h

/-- `Sub x c`: one step of the semantics on `x` may hand `c` to the recursive call (the
    syntactic children, and the `e*` / `e?` that the bounded repetitions unroll to) -/
inductive Sub : Expr → Expr → Prop
  | rule {n m sm b} : Sub (.rule n m sm b) b
  | seq {es c} : c ∈ es → Sub (.seq es) c
  | choice {es c} : c ∈ es → Sub (.choice es) c
  | opt {e} : Sub (.opt e) e
  | rep {e} : Sub (.rep e) e
  | rep1 {e} : Sub (.rep1 e) e
  | rep1' {e} : Sub (.rep1 e) (.rep e)
  | repExact {e n} : Sub (.repExact e n) e
  | repMin {e n} : Sub (.repMin e n) e
  | repMin' {e n} : Sub (.repMin e n) (.rep e)
  | repMax {e n} : Sub (.repMax e n) (.opt e)
  | repMinMax {e m n} : Sub (.repMinMax e m n) e
  | repMinMax' {e m n} : Sub (.repMinMax e m n) (.opt e)
  | andP {e} : Sub (.andP e) e
  | notP {e} : Sub (.notP e) e
  | group {e t} : Sub (.group e t) e
  | push {e} : Sub (.push e) e

theorem Sub.of_seqView {x c : Expr} {es : List Expr} (h : seqView x = some es) (hc : c ∈ es) : Sub x c := by
  cases x with
  | seq _ => cases h; exact .seq hc
  | rep1 _ =>
    cases h
    simp only [List.mem_cons, List.not_mem_nil, or_false] at hc
    rcases hc with rfl | rfl
    · exact .rep1
    · exact .rep1'
  | repExact _ _ => cases h; rw [(List.mem_replicate.mp hc).2]; exact .repExact
  | repMin _ _ =>
    cases h
    rcases List.mem_append.mp hc with hc | hc
    · rw [(List.mem_replicate.mp hc).2]; exact .repMin
    · rw [List.mem_singleton.mp hc]; exact .repMin'
  | repMax _ _ => cases h; rw [(List.mem_replicate.mp hc).2]; exact .repMax
  | repMinMax _ _ _ =>
    cases h
    rcases List.mem_append.mp hc with hc | hc
    · rw [(List.mem_replicate.mp hc).2]; exact .repMinMax
    · rw [(List.mem_replicate.mp hc).2]; exact .repMinMax'
  | _ => cases h

end L0

end Pest
