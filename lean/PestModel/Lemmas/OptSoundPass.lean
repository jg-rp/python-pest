/-
  Lemmas/OptSoundPass.lean — the passes of `Opt.lean` compute `TR`-related bodies.

  `NodeOK` is the node-local well-formedness the rewrites rely on (true of every tree the front
  end builds); `Inv` is the invariant of the rule table during optimization.  The two traversals
  are done once, for any node function with a sound root step.

  Rests on OptSoundTR and says nothing about meaning (OptSoundSim, its sibling).  Three files
  join the two, side by side: the matcher passes OptSoundSquash and OptSoundSkip, and
  OptSoundRun, which takes their results as hypotheses (`Builders`).
-/
import PestModel.Lemmas.OptSoundTR
import PestModel.Hyps
import PestModel.OptHyps

namespace Pest
namespace OptS

open L0

/-- the body of an embedded rule object is not itself a rule object or a reference -/
def rootOK : Expr → Prop
  | .rule _ _ _ _ => False
  | .ident _ _ => False
  | _ => True

set_option linter.unusedVariables false in
/-- node-local well-formedness, relative to the signature `sg` of the rule table.
    Embedded rule nodes are the built-in objects: they are silent (except `EOI`) and never atomic /
    non-atomic, their body is not directly another rule object or a reference; `ANY`'s body is
    `_Any`; a Unicode property rule carries its own name.  References: never to `ANY` by name (the
    front end embeds the built-in object); a reference to a silent rule is a reference to a rule
    whose modifier is `_` alone (the front end gives a rule one modifier; the fused `SKIP`, silent
    *and* atomic, is therefore never referenced).  A `Choice` has at least one alternative.  A
    range is not reversed (`Range.__init__` compiles `[a-b]`, which raises for `a > b`).  An
    `OptimizedChoice` (only the optimizer makes them) is not empty and not the repeating kind
    (that one is the body of `SKIP`). -/
def NodeOK (sg : String → Option (String × Nat)) : Expr → Prop
  | .rule n m sm b =>
    rootOK b ∧ hasBit m ATOMIC = false ∧ hasBit m COMPOUND = false ∧ hasBit m NONATOMIC = false ∧
    L1.isTriviaName n = false ∧ (n ≠ "EOI" → hasBit m SILENT = true) ∧ (n = "EOI" → b = .eoiB) ∧
    (∀ pn, b = .uprop pn → pn = n) ∧ (n = "ANY" → b = .anyB)
  | .ident n t =>
    n ≠ "ANY" ∧ (∀ nm md, sg n = some (nm, md) → hasBit md SILENT = true → plainSilent md)
  | .choice es => es ≠ []
  | .range a b => a ≤ b
  | .optChoice alts star => star = false ∧ alts ≠ [] ∧ ∀ a ∈ alts, AltOK a
  | _ => True

section
variable {sg : String → Option (String × Nat)} {n : String} {m : Nat} {sm : Bool} {b : Expr}

theorem NodeOK.notTrivia (h : NodeOK sg (.rule n m sm b)) : L1.isTriviaName n = false := h.2.2.2.2.1

theorem NodeOK.bits (h : NodeOK sg (.rule n m sm b)) :
    hasBit m ATOMIC = false ∧ hasBit m COMPOUND = false ∧ hasBit m NONATOMIC = false :=
  ⟨h.2.1, h.2.2.1, h.2.2.2.1⟩

theorem NodeOK.plainSilent (h : NodeOK sg (.rule n m sm b)) (hn : n ≠ "EOI") : plainSilent m :=
  ⟨h.2.2.2.2.2.1 hn, h.bits⟩

theorem NodeOK.anyBody (h : NodeOK sg (.rule "ANY" m sm b)) : b = .anyB := h.2.2.2.2.2.2.2.2 rfl

end

variable {F : Feat} {G : Grammar} {sg : String → Option (String × Nat)}

theorem TR.root_facts {a : Bool} {b b' : Expr} (h : TR F G a b b') (hr : rootOK b) :
    rootOK b' ∧ (∀ pn, b' = .uprop pn → b = .uprop pn) ∧ (b = .eoiB → b' = .eoiB) ∧ (b = .anyB → b' = .anyB) := by
  cases h with
  | term _ => exact ⟨hr, fun _ h => h, id, id⟩
  | ident => exact absurd hr id
  | rule => exact absurd hr id
  | ruleC _ _ => exact absurd hr id
  | inlB _ _ _ => exact absurd hr id
  | inlS _ _ _ _ => exact absurd hr id
  | skip _ hpat =>
    obtain ⟨_, _, _, _, _, he, _⟩ := hpat
    subst he
    exact ⟨trivial, (fun _ h => by cases h), (fun h => by cases h), (fun h => by cases h)⟩
  | _ => exact ⟨trivial, (fun _ h => by cases h), (fun h => by cases h), (fun h => by cases h)⟩

/-- The total bodies are `rep _`, a starred `optChoice` and `skipUntil _` (`totalBody`, Hyps.lean).
    `TR` leaves the two terminals alone (`exact ht`) and takes a `rep` to a `rep` (congruence) or
    to a `skipUntil` (the `skip` rewrite), both total by `rfl`; no other rewrite starts from a
    total body. -/
theorem TR.totalBody {a : Bool} {e e' : Expr} (h : TR F G a e e') (ht : totalBody e = true) :
    totalBody e' = true := by
  cases h <;> first | exact ht | rfl | (simp [Pest.totalBody] at ht)

/-! ### same root, related children -/

inductive Cong1 (a : Bool) (R : Expr → Expr → Prop) : Expr → Expr → Prop
  | term {e} : isTerm e = true → Cong1 a R e e
  | ident {n t} : Cong1 a R (.ident n t) (.ident n t)
  | rule {n m sm b} : Cong1 a R (.rule n m sm b) (.rule n m sm b)
  | ruleC {n m sm b b'} : ruleAtomic n m a = a → R b b' → Cong1 a R (.rule n m sm b) (.rule n m sm b')
  | seq {es es'} : es.length = es'.length →
      (∀ i (h1 : i < es.length) (h2 : i < es'.length), R es[i] es'[i]) → Cong1 a R (.seq es) (.seq es')
  | choice {es es'} : es.length = es'.length →
      (∀ i (h1 : i < es.length) (h2 : i < es'.length), R es[i] es'[i]) → Cong1 a R (.choice es) (.choice es')
  | opt {e e'} : R e e' → Cong1 a R (.opt e) (.opt e')
  | rep {e e'} : R e e' → Cong1 a R (.rep e) (.rep e')
  | rep1 {e e'} : R e e' → Cong1 a R (.rep1 e) (.rep1 e')
  | repExact {e e' n} : R e e' → Cong1 a R (.repExact e n) (.repExact e' n)
  | repMin {e e' n} : R e e' → Cong1 a R (.repMin e n) (.repMin e' n)
  | repMax {e e' n} : R e e' → Cong1 a R (.repMax e n) (.repMax e' n)
  | repMinMax {e e' m n} : R e e' → Cong1 a R (.repMinMax e m n) (.repMinMax e' m n)
  | andP {e e'} : R e e' → Cong1 a R (.andP e) (.andP e')
  | notP {e e'} : R e e' → Cong1 a R (.notP e) (.notP e')
  | group {e e' t} : R e e' → Cong1 a R (.group e t) (.group e' t)
  | push {e e'} : R e e' → Cong1 a R (.push e) (.push e')

theorem Cong1.imp {a : Bool} {R R' : Expr → Expr → Prop} {e e' : Expr} (h : Cong1 a R e e')
    (f : ∀ x y, R x y → R' x y) : Cong1 a R' e e' := by
  cases h with
  | term ht => exact .term ht
  | ident => exact .ident
  | rule => exact .rule
  | ruleC hra h => exact .ruleC hra (f _ _ h)
  | seq hl hh => exact .seq hl fun i h1 h2 => f _ _ (hh i h1 h2)
  | choice hl hh => exact .choice hl fun i h1 h2 => f _ _ (hh i h1 h2)
  | opt h => exact .opt (f _ _ h)
  | rep h => exact .rep (f _ _ h)
  | rep1 h => exact .rep1 (f _ _ h)
  | repExact h => exact .repExact (f _ _ h)
  | repMin h => exact .repMin (f _ _ h)
  | repMax h => exact .repMax (f _ _ h)
  | repMinMax h => exact .repMinMax (f _ _ h)
  | andP h => exact .andP (f _ _ h)
  | notP h => exact .notP (f _ _ h)
  | group h => exact .group (f _ _ h)
  | push h => exact .push (f _ _ h)

theorem Cong1.children {a : Bool} {R : Expr → Expr → Prop} {e e' : Expr} (h : Cong1 a R e e') :
    e' = e ∨ ∀ c' ∈ Opt.children e', ∃ c ∈ Opt.children e, R c c' := by
  cases h with
  | term | ident | rule => exact Or.inl rfl
  | seq hl hh | choice hl hh =>
    refine Or.inr fun c' hc' => ?_
    obtain ⟨i, hi, rfl⟩ := List.getElem_of_mem hc'
    exact ⟨_, List.getElem_mem (hl ▸ hi), hh i _ hi⟩
  | ruleC _ h | opt h | rep h | rep1 h | repExact h | repMin h | repMax h | repMinMax h | andP h | notP h
  | group h | push h =>
    exact Or.inr fun c' hc' => ⟨_, List.mem_singleton_self _, List.mem_singleton.1 hc' ▸ h⟩

theorem TR.of_cong1 {a : Bool} {e x : Expr} (h : Cong1 a (TR F G a) e x) : TR F G a e x := by
  cases h with
  | term ht => exact .term ht
  | ident => exact .ident
  | rule => exact .rule
  | ruleC hra h => exact .ruleC hra h
  | seq hl hh => exact .seq hl hh
  | choice hl hh => exact .choice hl hh
  | opt h => exact .opt h
  | rep h => exact .rep h
  | rep1 h => exact .rep1 h
  | repExact h => exact .repExact h
  | repMin h => exact .repMin h
  | repMax h => exact .repMax h
  | repMinMax h => exact .repMinMax h
  | andP h => exact .andP h
  | notP h => exact .notP h
  | group h => exact .group h
  | push h => exact .push h

theorem Cong1.keeps {P Q : Expr → Prop} (hP : ∀ e, P e ↔ Q e ∧ ∀ c ∈ Opt.children e, P c)
    {a : Bool} {R : Expr → Expr → Prop} {e e' : Expr} (h : Cong1 a R e e')
    (hR : ∀ x y, R x y → P x → P y) (hQ : Q e → Q e') (he : P e) : P e' := by
  rcases h.children with rfl | hch
  · exact he
  · have hpe := (hP e).1 he
    refine (hP e').2 ⟨hQ hpe.1, fun c' hc' => ?_⟩
    obtain ⟨c, hc, hr⟩ := hch c' hc'
    exact hR c c' hr (hpe.2 c hc)

/-- a predicate checked node by node (`Q` at the root, `P` at every child) is kept by every rewrite
    if `Q` survives a change of children and holds of the nodes the rewrites make -/
theorem TR.keeps {P Q : Expr → Prop} (hP : ∀ e, P e ↔ Q e ∧ ∀ c ∈ Opt.children e, P c)
    (hcong : ∀ a e e', Cong1 a (TR F G a) e e' → Q e → Q e')
    (hseq : ∀ es, Q (.seq es)) (hrep : ∀ e, Q (.rep e)) (hopt : ∀ e, Q (.opt e))
    (hsq : ∀ es' alts, SqPat G es' alts → Q (.optChoice alts false)) (hsk : ∀ subs, Q (.skipUntil subs))
    (hinl : ∀ n r, G.lookup n = some r → hasBit r.mod SILENT = true → P (.ident n none) → P r.body)
    {a : Bool} {e e' : Expr} (h : TR F G a e e') : P e → P e' := by
  have ch : ∀ {x c}, P x → c ∈ Opt.children x → P c := fun h hc => ((hP _).1 h).2 _ hc
  have mkSeq : ∀ {es}, (∀ c ∈ es, P c) → P (.seq es) := fun h => (hP _).2 ⟨hseq _, h⟩
  have mkRep : ∀ {x}, P x → P (.rep x) := fun h => (hP _).2 ⟨hrep _, List.forall_mem_singleton.2 h⟩
  have mkOpt : ∀ {x}, P x → P (.opt x) := fun h => (hP _).2 ⟨hopt _, List.forall_mem_singleton.2 h⟩
  have repl : ∀ {x n}, P x → ∀ c ∈ List.replicate n x, P c := fun h c hc => List.eq_of_mem_replicate hc ▸ h
  have app : ∀ {l1 l2 : List Expr}, (∀ c ∈ l1, P c) → (∀ c ∈ l2, P c) → ∀ c ∈ l1 ++ l2, P c :=
    fun h1 h2 c hc => (List.mem_append.1 hc).elim (h1 c) (h2 c)
  have key : ∀ {a e e'}, Cong1 a (fun x y => TR F G a x y ∧ (P x → P y)) e e' → P e → P e' :=
    fun h => h.keeps hP (fun _ _ h => h.2) (hcong _ _ _ (h.imp fun _ _ h => h.1))
  induction h with
  | term _ | ident | rule => exact id
  | ruleC hra h ih => exact key (.ruleC hra ⟨h, ih⟩)
  | seq hl hh ih => exact key (.seq hl fun i h1 h2 => ⟨hh i h1 h2, ih i h1 h2⟩)
  | choice hl hh ih => exact key (.choice hl fun i h1 h2 => ⟨hh i h1 h2, ih i h1 h2⟩)
  | opt h ih => exact key (.opt ⟨h, ih⟩)
  | rep h ih => exact key (.rep ⟨h, ih⟩)
  | rep1 h ih => exact key (.rep1 ⟨h, ih⟩)
  | repExact h ih => exact key (.repExact ⟨h, ih⟩)
  | repMin h ih => exact key (.repMin ⟨h, ih⟩)
  | repMax h ih => exact key (.repMax ⟨h, ih⟩)
  | repMinMax h ih => exact key (.repMinMax ⟨h, ih⟩)
  | andP h ih => exact key (.andP ⟨h, ih⟩)
  | notP h ih => exact key (.notP ⟨h, ih⟩)
  | group h ih => exact key (.group ⟨h, ih⟩)
  | push h ih => exact key (.push ⟨h, ih⟩)
  | unroll1 _ ih =>
    intro h
    have h' := ih (ch h (List.mem_singleton_self _))
    exact mkSeq (List.forall_mem_cons.2 ⟨h', List.forall_mem_singleton.2 (mkRep h')⟩)
  | unroll1g _ ih =>
    intro h
    have h' := ih (ch h (List.mem_singleton_self _))
    exact mkSeq (List.forall_mem_cons.2 ⟨ch h' (List.mem_singleton_self _), List.forall_mem_singleton.2 (mkRep h')⟩)
  | unrollExact _ ih => exact fun h => mkSeq (repl (ih (ch h (List.mem_singleton_self _))))
  | unrollMin _ ih =>
    intro h
    have h' := ih (ch h (List.mem_singleton_self _))
    exact mkSeq (app (repl h') (List.forall_mem_singleton.2 (mkRep h')))
  | unrollMax _ ih => exact fun h => mkSeq (repl (mkOpt (ih (ch h (List.mem_singleton_self _)))))
  | unrollMinMax _ ih =>
    intro h
    have h' := ih (ch h (List.mem_singleton_self _))
    exact mkSeq (app (repl h') (repl (mkOpt h')))
  | inlB _ _ _ ih => exact fun h => ih (ch h (List.mem_singleton_self _))
  | inlS hl hs _ _ ih => exact fun h => ih (hinl _ _ hl hs h)
  | squash _ _ _ hpat _ => exact fun _ => (hP _).2 ⟨hsq _ _ hpat, fun _ hc => (List.not_mem_nil hc).elim⟩
  | skip _ _ => exact fun _ => (hP _).2 ⟨hsk _, fun _ hc => (List.not_mem_nil hc).elim⟩

theorem nodeOK_cong {a : Bool} {e e' : Expr} (h : Cong1 a (TR F G a) e e') :
    NodeOK sg e → NodeOK sg e' := by
  cases h with
  | term _ | ident | rule => exact id
  | @ruleC n m sm b b' _ h1 =>
    intro hn
    simp only [NodeOK] at hn ⊢
    obtain ⟨h0, h2, h3, h4, h5, h6, h7, h8, h9⟩ := hn
    obtain ⟨r1, r2, r3, r4⟩ := h1.root_facts h0
    exact ⟨r1, h2, h3, h4, h5, h6, fun hn => r3 (h7 hn), fun pn hb => h8 pn (r2 pn hb), fun hn => r4 (h9 hn)⟩
  | @choice es es' hl _ =>
    intro hn h0
    rw [h0] at hl
    exact hn (List.eq_nil_of_length_eq_zero hl)
  | _ => exact fun _ => trivial

theorem TR.allN {a : Bool} {e e' : Expr} (h : TR F G a e e')
    (hsig : ∀ n, sigOf G n = sg n)
    (hG : ∀ n r, G.lookup n = some r → hasBit r.mod ATOMIC = false → AllN (NodeOK sg) r.body) :
    AllN (NodeOK sg) e → AllN (NodeOK sg) e' := by
  refine h.keeps AllN_iff (fun _ _ _ => nodeOK_cong) (fun _ => trivial) (fun _ => trivial) (fun _ => trivial)
    ?_ (fun _ => trivial) ?_
  · rintro es' alts ⟨k, hk, hne, _, hall⟩
    exact ⟨rfl, hne, (squash_Sq hk).altOK hall⟩
  · intro n r hl hsil h
    have hsg : sg n = some (r.name, r.mod) := by
      rw [← hsig n]; simp only [sigOf, hl, Option.map_some]
    exact hG _ _ hl ((h.root : NodeOK sg (.ident n none)).2 _ _ hsg hsil).2.1

theorem withChildren_cong1 {a : Bool} {R : Expr → Expr → Prop} (T : Expr → Expr) (x : Expr)
    (hsm : ∀ n m sm b, x = .rule n m sm b → ruleAtomic n m a = a) (h : ∀ c ∈ Opt.children x, R c (T c)) :
    Cong1 a R x (Opt.withChildren x ((Opt.children x).map T)) := by
  cases x with
  | rule n m sm b =>
    have hra := hsm n m sm b rfl
    cases sm with
    | true =>
      simp only [Opt.withChildren, ↓reduceIte]
      exact .rule
    | false =>
      simp only [Opt.withChildren, Bool.false_eq_true, ↓reduceIte, Opt.children, List.map_cons, List.map_nil,
        List.headD_cons]
      exact .ruleC hra (h b (List.mem_singleton_self b))
  | seq es =>
    simp only [Opt.withChildren, Opt.children]
    exact .seq (by simp) fun i h1 h2 => by
      simp only [List.getElem_map]; exact h _ (List.getElem_mem h1)
  | choice es =>
    simp only [Opt.withChildren, Opt.children]
    exact .choice (by simp) fun i h1 h2 => by
      simp only [List.getElem_map]; exact h _ (List.getElem_mem h1)
  | opt e => exact .opt (h e (List.mem_singleton_self e))
  | rep e => exact .rep (h e (List.mem_singleton_self e))
  | rep1 e => exact .rep1 (h e (List.mem_singleton_self e))
  | repExact e n => exact .repExact (h e (List.mem_singleton_self e))
  | repMin e n => exact .repMin (h e (List.mem_singleton_self e))
  | repMax e n => exact .repMax (h e (List.mem_singleton_self e))
  | repMinMax e m n => exact .repMinMax (h e (List.mem_singleton_self e))
  | andP e => exact .andP (h e (List.mem_singleton_self e))
  | notP e => exact .notP (h e (List.mem_singleton_self e))
  | group e t => exact .group (h e (List.mem_singleton_self e))
  | push e => exact .push (h e (List.mem_singleton_self e))
  | ident n t => exact .ident
  | _ => exact .term rfl

theorem mapBottomUpL_eq (f : Expr → Expr) : ∀ es, Opt.mapBottomUpL f es = es.map (Opt.mapBottomUp f)
  | [] => by simp [Opt.mapBottomUpL]
  | e :: es => by simp [Opt.mapBottomUpL, mapBottomUpL_eq f es]

theorem mapBottomUp_eq (f : Expr → Expr) (e : Expr) :
    Opt.mapBottomUp f e = f (Opt.withChildren e ((Opt.children e).map (Opt.mapBottomUp f))) := by
  cases e
  case rule n m sm b => cases sm <;> rfl
  case seq | choice => simp only [Opt.mapBottomUp, mapBottomUpL_eq]; rfl
  all_goals rfl

theorem bottomUp_TR (f : Expr → Expr) (a : Bool)
    (hroot : ∀ e x, AllN (NodeOK sg) e → Cong1 a (TR F G a) e x → TR F G a e (f x)) (e : Expr) :
    AllN (NodeOK sg) e → TR F G a e (Opt.mapBottomUp f e) := by
  induction e using Expr.children_ind with
  | _ e ih =>
    intro h
    rw [mapBottomUp_eq]
    refine hroot _ _ h (withChildren_cong1 _ e (fun n m sm b hx => ?_) fun c hc => ih c hc (h.children c hc))
    have hr : NodeOK sg (.rule n m sm b) := hx ▸ h.root
    exact ruleAtomic_id hr.bits hr.notTrivia a

theorem bottomUp_TRL (f : Expr → Expr) (a : Bool)
    (hroot : ∀ e x, AllN (NodeOK sg) e → Cong1 a (TR F G a) e x → TR F G a e (f x)) :
    ∀ (es : List Expr), AllNL (NodeOK sg) es → ∀ i (h : i < es.length),
      TR F G a es[i] (Opt.mapBottomUp f es[i]) :=
  fun es hh i h => bottomUp_TR f a hroot es[i] (hh.index i h)

theorem topDown_TR (f : Expr → Expr) (a : Bool) (I : Expr → Prop)
    (hI_f : ∀ e, I e → I (f e)) (hI_ch : ∀ x, I x → ∀ c ∈ Opt.children x, I c)
    (hI_sm : ∀ n m sm b, I (.rule n m sm b) → ruleAtomic n m a = a)
    (hpre : ∀ e x', I e → TR F G a (f e) x' → TR F G a e x') :
    ∀ k e, I e → TR F G a e (Opt.mapTopDown f k e) := by
  intro k
  induction k with
  | zero => intro e _; exact TR.refl F G e a
  | succ k ih =>
    intro e he
    simp only [Opt.mapTopDown]
    apply hpre e _ he
    apply TR.of_cong1
    have hfe := hI_f e he
    apply withChildren_cong1 (Opt.mapTopDown f k) (f e)
    · intro n m sm b hx
      rw [hx] at hfe
      exact hI_sm n m sm b hfe
    · intro c hc
      exact ih c (hI_ch _ hfe c hc)

structure Inv (F : Feat) (sg : String → Option (String × Nat)) (G : Grammar) : Prop where
  sig : ∀ n, sigOf G n = sg n
  /-- every body is well-formed; the fused rule of the WHITESPACE case (an atomic rule whose body is
      an `OptimizedChoiceRepeat` leaf) is the one exception -/
  nodes : ∀ r ∈ G.rules, AllN (NodeOK sg) r.body ∨
    (hasBit r.mod ATOMIC = true ∧ ∃ alts, r.body = .optChoice alts true)
  fusedTrivia : G.fusedSkip ≠ none → ¬(G.lookup "WHITESPACE" = none ∧ G.lookup "COMMENT" = none)
  total : ∀ r, G.fusedSkip = some r → totalBody r.body = true

theorem Inv.lookup_nodes (h : Inv F sg G) (n : String) (r : Rule) (hl : G.lookup n = some r)
    (ha : hasBit r.mod ATOMIC = false) : AllN (NodeOK sg) r.body := by
  rcases h.nodes r (Prim.lookup_mem hl) with h1 | ⟨h1, _⟩
  · exact h1
  · rw [ha] at h1; exact absurd h1 (by simp)

/-! ### the passes

The root step of a bottom-up pass (`unroll_root`, `inlineSilent_root`, `squashChoice_root`) goes by
cases on the node as congruence has rebuilt it: a node the step leaves alone is covered by
`TR.of_cong1`, the one kind it rewrites is the work, and on a terminal it is the identity. -/

theorem unroll_term {x : Expr} (ht : isTerm x = true) : Opt.unroll x = x := by
  cases x <;> first | rfl | exact absurd ht Bool.false_ne_true

theorem inlineSilent_term (rules : List Rule) (d : Expr) {x : Expr} (ht : isTerm x = true) :
    (Opt.inlineSilent rules x).getD d = x := by
  cases x <;> first | rfl | exact absurd ht Bool.false_ne_true

theorem unroll_root {a : Bool} {e x : Expr} (h : Cong1 a (TR F G a) e x) : TR F G a e (Opt.unroll x) := by
  by_cases hx : Opt.unroll x = x
  · rw [hx]; exact TR.of_cong1 h
  · cases h with
    | @rep1 e0 e' h =>
      simp only [Opt.unroll]
      split
      · exact .unroll1g h
      · exact .unroll1 h
    | repExact h => exact .unrollExact h
    | repMin h => exact .unrollMin h
    | repMax h => exact .unrollMax h
    | repMinMax h => exact .unrollMinMax h
    | term ht => exact absurd (unroll_term ht) hx
    | _ => exact absurd rfl hx

theorem unroll_TR (a : Bool) (e : Expr) (he : AllN (NodeOK sg) e) :
    TR F G a e (Opt.mapBottomUp Opt.unroll e) :=
  bottomUp_TR Opt.unroll a (fun _ _ _ h => unroll_root h) e he

/-- `Opt.inlineSilent` always answers `some _`: the default `d` plays no part -/
theorem inlineSilent_root (hsig : ∀ n, sigOf G n = sg n) (d : Expr) {a : Bool}
    {e x : Expr} (he : AllN (NodeOK sg) e)
    (h : Cong1 a (TR F G a) e x) :
    TR F G a e ((Opt.inlineSilent G.rules x).getD d) := by
  by_cases hx : (Opt.inlineSilent G.rules x).getD d = x
  · rw [hx]; exact TR.of_cong1 h
  · cases h with
    | @ident n t =>
      simp only [Opt.inlineSilent] at hx ⊢
      cases hl : G.rules.find? (·.name == n) with
      | none => rw [hl] at hx; exact absurd rfl hx
      | some r =>
        rw [hl] at hx
        dsimp only at hx ⊢
        by_cases hc : (hasBit r.mod SILENT && t.isNone && !(r.name == "WHITESPACE" || r.name == "COMMENT")) = true
        · rw [if_pos hc]
          simp only [Bool.and_eq_true, Option.isNone_iff_eq_none, Bool.not_eq_true', Bool.or_eq_false_iff,
            beq_eq_false_iff_ne] at hc
          obtain ⟨⟨hs, ht⟩, hw, hcm⟩ := hc
          subst ht
          have hn := he.root
          simp only [NodeOK] at hn
          have hsg : sg n = some (r.name, r.mod) := by
            rw [← hsig n]; simp only [sigOf, Grammar.lookup, hl, Option.map_some]
          have htriv : L1.isTriviaName r.name = false := by
            simp [L1.isTriviaName, hw, hcm]
          exact .inlS hl hs (ruleAtomic_id (hn.2 _ _ hsg hs).2 htriv a) (TR.refl F G _ _)
        · rw [if_neg hc] at hx; exact absurd rfl hx
    | term ht => exact absurd (inlineSilent_term _ d ht) hx
    | _ => exact absurd rfl hx

theorem inlineSilent_TR (hsig : ∀ n, sigOf G n = sg n) (d : Expr) (a : Bool)
    (e : Expr) (he : AllN (NodeOK sg) e) :
    TR F G a e (Opt.mapBottomUp (fun x => (Opt.inlineSilent G.rules x).getD d) e) :=
  bottomUp_TR _ a (fun _ _ he h => inlineSilent_root hsig d he h) e he

theorem inlineBuiltin_TR (a : Bool) (k : Nat) (e : Expr) (he : AllN (NodeOK sg) e) :
    TR F G a e (Opt.mapTopDown Opt.inlineBuiltin k e) := by
  refine topDown_TR Opt.inlineBuiltin a (AllN (NodeOK sg)) ?_ (fun x hx => AllN.children hx) ?_ ?_ k e he
  · intro e he
    cases e with
    | rule n m sm b =>
      simp only [Opt.inlineBuiltin]
      split
      · exact he.2
      · exact he
    | _ => exact he
  · intro n m sm b h
    exact ruleAtomic_id (NodeOK.bits h.1) (NodeOK.notTrivia h.1) a
  · intro e x' he h
    cases e with
    | rule n m sm b =>
      simp only [Opt.inlineBuiltin] at h
      split at h
      · rename_i hne
        have hn : NodeOK sg (.rule n m sm b) := he.1
        exact .inlB (hn.plainSilent (by simpa using hne)) hn.notTrivia h
      · exact h
    | _ => exact h

end OptS
end Pest
