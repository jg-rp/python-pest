/-
  Lemmas/TagHist.lean — the two fields `tagStack` / `tagHist` under `checkpoint / ok / restore /
  fail`, and the tag frame of every finished call in both models (an instance of the traversal
  of Lemmas/Kit.lean).  What this says about the code is in Props/Tags.lean.
-/
import PestModel.Lemmas.Kit

namespace Pest
open FailPos (namesOK)

@[simp] theorem checkpoint_tagStack (c : PState) : c.checkpoint.tagStack = c.tagStack := rfl
@[simp] theorem checkpoint_tagHist (c : PState) :
    c.checkpoint.tagHist = c.tagStack :: c.tagHist := rfl
@[simp] theorem ok_tagStack (c : PState) : c.ok.tagStack = c.tagStack := rfl
@[simp] theorem ok_tagHist (c : PState) : c.ok.tagHist = c.tagHist.tail := rfl
@[simp] theorem restore_tagStack (c : PState) :
    c.restore.tagStack = c.tagHist.headD c.tagStack := rfl
@[simp] theorem restore_tagHist (c : PState) : c.restore.tagHist = c.tagHist.tail := rfl

theorem restore_tags_of_hist {c c1 : PState} (h : c1.tagHist = c.tagStack :: c.tagHist) :
    c1.restore.tagStack = c.tagStack ∧ c1.restore.tagHist = c.tagHist := by
  simp [h]

theorem ok_tags_of_hist {c c1 : PState} (h : c1.tagHist = c.tagStack :: c.tagHist) :
    c1.ok.tagStack = c1.tagStack ∧ c1.ok.tagHist = c.tagHist := by
  simp [h]

theorem fail_tags {c c' : PState} {rn : Option String} {force : Bool} {pa : Option Nat}
    (h : c.fail rn force pa = some c') : c'.tagStack = c.tagStack ∧ c'.tagHist = c.tagHist := by
  obtain ⟨_, _, _, rfl⟩ := fail_eq h
  exact ⟨rfl, rfl⟩

theorem ruleEnter_tagStack (name : String) (mod : Nat) (c : PState) :
    (L1.ruleEnter name mod c).tagStack = c.tagStack := by
  rw [L1.ruleEnter_eq]

/-- what a run from `c` to `c'` does to the tags: the history of saved tag stacks is back to
    what it was, and the pending tags are a suffix of those pending at the start (tags are only
    consumed from the top; whatever a node pushes it removes again) -/
structure TagFrame (c c' : PState) : Prop where
  hist : c'.tagHist = c.tagHist
  suf : c'.tagStack <:+ c.tagStack

/-- both tag fields exactly as they were: what a catcher that gives up returns (`restore`
    after a `TagFrame` run from the checkpoint, `TagFrame.restore_after`), where a call in
    general only promises `TagFrame` -/
structure TagEq (c c' : PState) : Prop where
  stack : c'.tagStack = c.tagStack
  hist : c'.tagHist = c.tagHist

theorem TagFrame.of_eq {c c' : PState} (h1 : c'.tagStack = c.tagStack := by rfl)
    (h2 : c'.tagHist = c.tagHist := by rfl) : TagFrame c c' :=
  ⟨h2, by rw [h1]; exact List.suffix_refl _⟩

namespace TagEq
theorem refl (c : PState) : TagEq c c := ⟨rfl, rfl⟩
theorem frame {c c' : PState} (h : TagEq c c') : TagFrame c c' := .of_eq h.stack h.hist
theorem trans {a b c : PState} (h1 : TagEq a b) (h2 : TagEq b c) : TagEq a c :=
  ⟨h2.stack.trans h1.stack, h2.hist.trans h1.hist⟩
end TagEq

theorem suffix_tail_of_cons {α} {l s : List α} {t : α} (h : l <:+ t :: s) : l.tail <:+ s := by
  rcases List.suffix_cons_iff.mp h with rfl | h
  · exact List.suffix_refl _
  · exact (List.tail_suffix l).trans h

namespace TagFrame

theorem refl (c : PState) : TagFrame c c := .of_eq

theorem trans {a b c : PState} (h1 : TagFrame a b) (h2 : TagFrame b c) : TagFrame a c :=
  ⟨h2.hist.trans h1.hist, h2.suf.trans h1.suf⟩

theorem ok_after {c c1 : PState} (f : TagFrame c.checkpoint c1) : TagFrame c c1.ok :=
  ⟨by simp [f.hist], by simpa using f.suf⟩

theorem restore_after {c c1 : PState} (f : TagFrame c.checkpoint c1) : TagEq c c1.restore :=
  ⟨by simp [f.hist], by simp [f.hist]⟩

end TagFrame

theorem TagFrame.scope {c c2 : PState} {name : String} (mod : Nat) (matched : Bool) {rs : DStack String}
    (f : TagFrame (L1.ruleEnter name mod { c with rstack := c.rstack.push name }) c2) :
    TagFrame c (L1.exitState name mod matched c2 rs) := by
  have hh := f.hist
  have hs := f.suf
  rw [L1.ruleEnter_eq] at hh hs
  refine ⟨hh, List.IsSuffix.trans ?_ hs⟩
  unfold L1.exitState
  dsimp only []
  by_cases hc : (matched && !hasBit mod SILENT) = true
  · rw [if_pos hc]; exact List.tail_suffix _
  · rw [if_neg hc]; exact List.suffix_refl _

def tagKit : RKit where
  F := TagFrame
  N := fun _ => True
  refl := TagFrame.refl
  trans := TagFrame.trans
  ustack := fun _ => .of_eq
  negDepth := fun _ => .of_eq
  suppress := fun _ => .of_eq
  ok_after := TagFrame.ok_after
  restore_after := fun f => f.restore_after.frame
  fail := fun _ h => .of_eq (fail_tags h).1 (fail_tags h).2
  scope := fun mod matched _ f _ => f.scope mod matched
  tag := fun _ f => ⟨f.hist, suffix_tail_of_cons f.suf⟩

theorem tagKit_rules (g : Grammar) : tagKit.Rules g := RKit.rules_of_forall (fun _ => trivial) g

theorem tagKit_moves (inp : Input) : tagKit.Moves inp := fun _ _ => .of_eq

def TagBal (rec : Sem1) : Prop := ∀ x c m c' ps, rec x c = .done m c' ps → TagFrame c c'

theorem tagBal_iff {rec : Sem1} : TagBal rec ↔ tagKit.Bal rec :=
  (RKit.bal_iff (K := tagKit) fun _ => trivial).symm

namespace L1

variable {g : Grammar} (inp : Input)

theorem ruleParse_tf {rec : Sem1} (hrec : TagBal rec) (name : String) (mod : Nat) (body : Expr)
    (c : PState) (m : Bool) (c' : PState) (ps : List Pair)
    (h : ruleParse rec name mod body c = .done m c' ps) : TagFrame c c' :=
  (HKit.ruleParse_post (tagBal_iff.mp hrec) mod trivial (namesOK.of_forall (fun _ => trivial) body)
    c).of_done h

theorem parseTrivia_tf {rec : Sem1} (hrec : TagBal rec) (k : Nat) (c : PState) (m : Bool)
    (c' : PState) (ps : List Pair) (h : parseTrivia g rec k c = .done m c' ps) : TagFrame c c' :=
  (HKit.parseTrivia_post (tagKit_rules g) (tagBal_iff.mp hrec) k c).of_done h

theorem tryTrivia_no_tags {rec : Sem1} (hrec : TagBal rec) {r : Option Rule} {c c1 : PState}
    (h : tryTrivia rec r c = .no c1) : TagEq c c1 := by
  unfold tryTrivia at h
  cases r with
  | none => cases h; exact TagEq.refl c
  | some r =>
    dsimp only [] at h
    cases hx : ruleParse rec r.name r.mod r.body c.checkpoint with
    | oof => rw [hx] at h; cases h
    | exc k => rw [hx] at h; cases h
    | done m c' ps =>
      rw [hx] at h
      cases m with
      | true => cases h
      | false => cases h; exact (ruleParse_tf hrec _ _ _ _ _ _ _ hx).restore_after

theorem choiceParse_fail_tags {rec : Sem1} (hrec : TagBal rec) :
    ∀ (es : List Expr) (c c' : PState) (ps : List Pair),
      choiceParse rec es c = .done false c' ps → TagEq c c'
  | [], c, c', ps, h => by cases h; exact TagEq.refl c
  | e :: rest, c, c', ps, h => by
    simp only [choiceParse] at h
    cases he : rec e c.checkpoint with
    | oof => rw [he] at h; cases h
    | exc kx => rw [he] at h; cases h
    | done m c1 ps1 =>
      rw [he] at h
      cases m with
      | true => cases h
      | false =>
        exact (hrec _ _ _ _ _ he).restore_after.trans (choiceParse_fail_tags hrec rest _ _ _ h)

theorem run_tf (g : Grammar) (inp : Input) (n : Nat) : TagBal (run g inp n) :=
  tagBal_iff.mpr (RKit.run_bal (tagKit_rules g) (tagKit_moves inp) n)

end L1

def TagBalG (rec : SemG) : Prop := ∀ x c ps0 m c' ps, rec x c ps0 = .done m c' ps → TagFrame c c'

theorem tagBalG_iff {rec : SemG} : TagBalG rec ↔ tagKit.BalG rec :=
  (RKit.balG_iff (K := tagKit) fun _ => trivial).symm

namespace LG

variable {g : Grammar} (inp : Input)

theorem choiceG_fail_tags {rec : SemG} (hrec : TagBalG rec) :
    ∀ (es : List Expr) (c : PState) (ps : List Pair) (c' : PState) (ps' : List Pair),
      choiceG rec es c ps = .done false c' ps' → TagEq c c'
  | [], c, ps, c', ps', h => by cases h; exact TagEq.refl c
  | e :: rest, c, ps, c', ps', h => by
    simp only [choiceG] at h
    cases he : rec e c.checkpoint [] with
    | oof => rw [he] at h; cases h
    | exc kx => rw [he] at h; cases h
    | done m c1 tmp =>
      rw [he] at h
      cases m with
      | true => cases h
      | false =>
        exact (hrec _ _ _ _ _ _ he).restore_after.trans (choiceG_fail_tags hrec rest _ _ _ _ h)

theorem run_tf (g : Grammar) (inp : Input) (n : Nat) : TagBalG (run g inp n) :=
  tagBalG_iff.mpr (RKit.run_balG (tagKit_rules g) (tagKit_moves inp) n)

end LG

end Pest
