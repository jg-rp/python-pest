/-
  Lemmas/Ev.lean — the answer of the specification L0 "for all sufficiently large fuel", as the
  statements about a *particular* grammar on a *particular* family of inputs have it (C17: the
  bundled JSON grammars), and the way between it and the big-step relation.

  `Ev e s r`   for all sufficiently large fuel, `run n e s = r`
  `EvRep …`    the same for the repetition loop, for all large fuel and loop budget

  In this form are the interface structures of the JSON proofs (what a proof about documents
  assumes of the token rules), the statements that the checks audit by name, and the lemmas of
  Lemmas/JsonPrefixDoc.lean that feed such fields.  Everything else is stated with `Big` and proved
  by applying its rules, since a derivation composes by constructor application while an `Ev` fact
  would have to have its threshold combined with those of its neighbours.  A derivation is read as
  an `Ev` fact by `Big.ev` (as an `EvRep` fact by `Big.sound`), whose conclusions are these
  definitions unfolded; an `Ev` hypothesis enters a derivation by `Ev.big`, which asks that the
  answer is not `oof` (`h.big nofun` for an answer that is written out).
-/
import PestModel.Lemmas.BigSim

namespace Pest
namespace L0

variable (g : Grammar) (inp : Input)

def Ev (e : Expr) (s : S0) (r : R0) : Prop := ∃ N, ∀ n, N ≤ n → run g inp n e s = r

/-- the loop of `e*`, entered with `first` (no trivia before the first iteration), for all
    large fuel and loop budget -/
def EvRep (e : Expr) (first : Bool) (s : S0) (acc : List Pair) (r : R0) : Prop :=
  ∃ N, ∀ n k, N ≤ n → N ≤ k → repLoop g (L0.run g inp n) e k n first s acc = r

variable {g inp}

theorem Ev.conv {e : Expr} {s : S0} {r : R0} (h : Ev g inp e s r) (hr : r ≠ .oof) : Conv g inp e s r := by
  obtain ⟨N, h⟩ := h
  exact ⟨N, h N (Nat.le_refl _), hr⟩

theorem Ev.run {e : Expr} {s : S0} {r : R0} (h : Ev g inp e s r) : ∃ n, L0.run g inp n e s = r := by
  obtain ⟨N, h⟩ := h
  exact ⟨N, h N (Nat.le_refl _)⟩

theorem Ev.big {e : Expr} {s : S0} {r : R0} (h : Ev g inp e s r) (hr : r ≠ .oof) : Big g inp (.expr e) s r :=
  big_conv.2 (h.conv hr)

end L0
end Pest
