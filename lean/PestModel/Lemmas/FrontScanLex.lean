/-
  Lemmas/FrontScanLex.lean — what the two halves of the scanner proof (accept:
  Lemmas/FrontAccKit.lean …; inversion: Lemmas/FrontInvScan.lean) share below trivia: the emitted
  tokens as kinds and values (`out`), look-ahead as a predicate on the first character of what
  follows (`Hd p t`), the layout `ScA` of Lemmas/FrontInvCst.lean taken apart, and per lexeme that a
  matcher takes the whole of it when the next character cannot continue it.
  Namespace `RT`; `TRT.nic`, `TRT.ndg` at the head, `IA.strBody_length` and the `IS` block at the end
  stand under other namespaces (key: header of Lemmas/FrontScanBase.lean).  Read after
  Lemmas/FrontCstSep.lean; Lemmas/FrontSkipTrivia.lean follows.
-/
import PestModel.Lemmas.FrontCstSep

namespace Pest
namespace Front

def kvOf (toks : List Token) : List KV := toks.map fun t => (t.kind, t.value)

/-- look-ahead classes: a character that cannot continue an identifier, a number -/
def TRT.nic (c : Nat) : Bool := !isIdentChar c
def TRT.ndg (c : Nat) : Bool := !isDigit c

namespace RT
open TRT

/-- the tokens emitted so far, oldest first, as kinds and values -/
def out (s : St) : List KV := kvOf s.toks.reverse

@[simp] theorem adv_rest (s : St) (n : Nat) : (s.adv n).rest = s.rest.drop n := rfl
/-- `Front.emit_rest` (simp, Lemmas/FrontScanBase.lean) under the name of this family -/
theorem emit_rest (s : St) (k : TK) (v : Text) : (s.emit k v).rest = s.rest := Front.emit_rest s k v
@[simp] theorem out_adv (s : St) (n : Nat) : out (s.adv n) = out s := rfl
@[simp] theorem out_emit (s : St) (k : TK) (v : Text) : out (s.emit k v) = out s ++ [(k, v)] := by
  simp [out, kvOf, St.emit]
@[simp] theorem out_setStart (s : St) (n : Nat) : out { s with start := n } = out s := rfl
@[simp] theorem rest_setStart (s : St) (n : Nat) : ({ s with start := n } : St).rest = s.rest := rfl

/-! ### look-ahead: the first character of what follows, and the classes the methods test -/

def Hd (p : Nat → Bool) : Text → Prop
  | c :: _ => p c = true
  | [] => False

@[simp] theorem hd_cons (p : Nat → Bool) (c : Nat) (r : Text) : Hd p (c :: r) ↔ p c = true := Iff.rfl
@[simp] theorem hd_nil (p : Nat → Bool) : Hd p [] ↔ False := Iff.rfl

theorem ne_of_class {p : Nat → Bool} {c d : Nat} (h : p c = true) (hd : p d = false := by decide) :
    c ≠ d :=
  fun e => by subst e; rw [h] at hd; cases hd

theorem Hd.mono {p q : Nat → Bool} {t : Text} (h : Hd p t) (hpq : ∀ c, p c = true → q c = true) :
    Hd q t := by
  cases t with
  | nil => exact h
  | cons c r => exact hpq c h

theorem Hd.dest {p : Nat → Bool} {t : Text} (h : Hd p t) : ∃ c r, t = c :: r ∧ p c = true := by
  cases t with
  | nil => exact False.elim h
  | cons c r => exact ⟨c, r, rfl, h⟩

theorem head_ne_of_hd {p : Nat → Bool} {t : Text} {c : Nat} (h : Hd p t) (hc : p c = false) :
    t.head? ≠ some c := by
  obtain ⟨d, r, rfl, hd⟩ := h.dest
  intro e
  simp at e
  subst e
  rw [hc] at hd
  cases hd

/-- a character no trivia starts with -/
def tokc (c : Nat) : Bool := !(c == 32 || c == 9 || c == 10 || c == 13 || c == 47)

/-- what may follow a term: `~ | ) }` -/
def afterTerm (c : Nat) : Bool := c == 126 || c == 124 || c == 41 || c == 125
/-- what may follow a node: a postfix operator or what follows a term -/
def afterNode (c : Nat) : Bool := c == 63 || c == 42 || c == 43 || c == 123 || afterTerm c
/-- what ends an expression: `) }` -/
def closer (c : Nat) : Bool := c == 41 || c == 125
def nodeStart (c : Nat) : Bool := c == 34 || c == 94 || c == 39 || c == 40 || isIdentStart c
/-- first characters of a term: `#`, `&`, `!`, or a node -/
def termStart (c : Nat) : Bool := c == 35 || c == 38 || c == 33 || nodeStart c
/-- first characters of a term without a tag -/
def preStart (c : Nat) : Bool := c == 38 || c == 33 || nodeStart c

theorem not_tokc_cases {c : Nat} (h : tokc c = false) : c = 32 ∨ c = 9 ∨ c = 10 ∨ c = 13 ∨ c = 47 := by
  unfold tokc at h
  rw [Bool.not_eq_false'] at h
  simpa [or_assoc] using h

theorem tokc_of {p : Nat → Bool} (hp : (p 32 || p 9 || p 10 || p 13 || p 47) = false) {c : Nat}
    (h : p c = true) : tokc c = true := by
  cases ht : tokc c with
  | true => rfl
  | false => rcases not_tokc_cases ht with rfl | rfl | rfl | rfl | rfl <;> simp [h] at hp

theorem tokc_identStart {c : Nat} (h : isIdentStart c = true) : tokc c = true :=
  tokc_of (by decide) h

theorem tokc_termStart {c : Nat} (h : termStart c = true) : tokc c = true :=
  tokc_of (by decide) h

theorem tokc_preStart {c : Nat} (h : preStart c = true) : tokc c = true :=
  tokc_of (by decide) h

theorem termStart_of_preStart {c : Nat} (h : preStart c = true) : termStart c = true := by
  unfold preStart at h
  unfold termStart
  rw [Bool.or_assoc (c == 35), Bool.or_assoc (c == 35), h, Bool.or_true]

theorem afterNode_cases {c : Nat} (h : afterNode c = true) :
    c = 63 ∨ c = 42 ∨ c = 43 ∨ c = 123 ∨ c = 126 ∨ c = 124 ∨ c = 41 ∨ c = 125 := by
  simpa [afterNode, afterTerm, or_assoc] using h

theorem tokc_afterNode {c : Nat} (h : afterNode c = true) : tokc c = true :=
  tokc_of (by decide) h

theorem afterNode_of_afterTerm {c : Nat} (h : afterTerm c = true) : afterNode c = true := by
  simp [afterNode, h]

theorem afterTerm_of_closer {c : Nat} (h : closer c = true) : afterTerm c = true := by
  rcases (by simpa [closer] using h : c = 41 ∨ c = 125) with rfl | rfl <;> rfl

theorem tokc_afterTerm {c : Nat} (h : afterTerm c = true) : tokc c = true :=
  tokc_of (by decide) h

/-- no trivia starts here -/
def Stop (t : Text) : Prop := mWhitespace t = none ∧ mLineComment t = none ∧ mBlockComment t = none

theorem stop_nil : Stop [] := ⟨rfl, rfl, rfl⟩

theorem wsLen_tokc {c : Nat} (r : Text) (h : tokc c = true) : wsLen (c :: r) = 0 := by
  have h13 : c ≠ 13 := ne_of_class h
  have : (c == 32 || c == 9 || c == 10) = false := by
    simp [ne_of_class (d := 32) h, ne_of_class (d := 9) h, ne_of_class (d := 10) h]
  simp [wsLen, h13, this]

theorem stop_tokc {c : Nat} (r : Text) (h : tokc c = true) : Stop (c :: r) := by
  have h47 : c ≠ 47 := ne_of_class h
  refine ⟨?_, ?_, ?_⟩
  · simp [mWhitespace, wsLen_tokc r h]
  · simp [mLineComment, h47]
  · simp [mBlockComment, h47]

theorem Hd.stop {p : Nat → Bool} {t : Text} (h : Hd p t) (hp : ∀ c, p c = true → tokc c = true) :
    Stop t := by
  obtain ⟨c, r, rfl, hc⟩ := h.dest
  exact stop_tokc r (hp c hc)

/-- a doc-comment marker is no trivia -/
theorem stop_doc (r : Text) : Stop (47 :: 47 :: 47 :: r) ∧ Stop (47 :: 47 :: 33 :: r) :=
  ⟨⟨rfl, rfl, rfl⟩, ⟨rfl, rfl, rfl⟩⟩

/-! ### the layout `ScA` taken apart -/

theorem spellsA_verb {k : TK} {v w : Text} (h1 : k ≠ .string) (h2 : k ≠ .stringCI) :
    SpellsA (k, v) w ↔ w = v := by
  cases k <;> first | exact Iff.rfl | exact absurd rfl h1 | exact absurd rfl h2

theorem scA_nil_inv {t tl : Text} (h : ScA [] t tl) : t = tl := by cases h; rfl

theorem scA_cons_inv {kv : KV} {K : List KV} {t tl : Text} (h : ScA (kv :: K) t tl) :
    ∃ w ws m, SpellsA kv w ∧ IsTrivia ws ∧ t = w ++ (ws ++ m) ∧ ScA K m tl := by
  cases h with
  | cons _ hsp hw hr => exact ⟨_, _, _, hsp, hw, rfl, hr⟩

/-- `h1`, `h2` are found by `decide` when `k` is a constant -/
theorem scA_cons_v {k : TK} {v : Text} {K : List KV} {t tl : Text} (h : ScA ((k, v) :: K) t tl)
    (h1 : k ≠ .string := by decide) (h2 : k ≠ .stringCI := by decide) :
    ∃ ws m, IsTrivia ws ∧ t = v ++ (ws ++ m) ∧ ScA K m tl := by
  obtain ⟨w, ws, m, hsp, hw, rfl, hr⟩ := scA_cons_inv h
  cases (spellsA_verb h1 h2).1 hsp
  exact ⟨ws, m, hw, rfl, hr⟩

theorem scA_append : ∀ (a : List KV) {b : List KV} {t tl : Text}, ScA (a ++ b) t tl →
    ∃ m, ScA a t m ∧ ScA b m tl
  | [], _, t, _, h => ⟨t, .nil t, h⟩
  | kv :: a, _, _, _, h => by
    obtain ⟨w, ws, m, hsp, hw, rfl, hr⟩ := scA_cons_inv h
    obtain ⟨m', h1, h2⟩ := scA_append a hr
    exact ⟨m', .cons kv hsp hw h1, h2⟩

theorem scA_length {K : List KV} {t tl : Text} (h : ScA K t tl) : tl.length ≤ t.length := by
  induction h with
  | nil _ => exact Nat.le_refl _
  | cons kv _ _ _ ih => simp; omega

/-! ### the lexemes

  Per regular expression `mX`: `mX_inv` is the last part of `mX_some` (Lemmas/FrontScanBase.lean),
  the shape of the matched text, as the inversion reads it; `mX_of` is the converse the accept half
  uses — on a lexeme of that shape, followed by a character that cannot continue it, `mX` matches the
  whole lexeme; `mX_none`: a first character on which it fails. -/

theorem spanLen_append (p : Nat → Bool) : ∀ (w : Text) (x : Nat) (tl : Text),
    w.all p = true → p x = false → spanLen p (w ++ x :: tl) = w.length := fun w x tl hw hx => by
  rw [spanLen_eq, Unescape.takeWhile_stop p w x tl (List.all_eq_true.1 hw) hx]

theorem spanLen_all (p : Nat → Bool) : ∀ (w : Text), spanLen p w = w.length → w.all p = true := fun w h => by
  have := take_spanLen p w
  rw [h, List.take_length] at this
  rw [this]; exact List.all_takeWhile

theorem spanLen_of_all (p : Nat → Bool) : ∀ (w : Text), w.all p = true → spanLen p w = w.length := fun w h => by
  have := List.takeWhile_append_of_pos (p := p) (l₁ := w) (l₂ := []) (List.all_eq_true.1 h)
  rw [List.append_nil, List.takeWhile_nil, List.append_nil] at this
  rw [spanLen_eq, this]

theorem startsWith_self_append : ∀ (lit tl : Text), startsWith (lit ++ tl) lit = true :=
  fun lit tl => startsWith_iff.2 (List.prefix_append lit tl)

theorem startsWith_append_ne : ∀ (w lit : Text) (x : Nat) (tl : Text), (∀ c ∈ lit, c ≠ x) →
    startsWith (w ++ x :: tl) lit = startsWith w lit := fun w lit x tl h => by
  rw [Bool.eq_iff_iff, startsWith_iff, startsWith_iff]
  refine ⟨fun hp => ?_, fun hp => hp.trans (List.prefix_append _ _)⟩
  -- both are prefixes of one text: `lit <+: w`, or `lit = w ++ q` with `q` empty or starting with `x`
  rcases List.prefix_or_prefix_of_prefix hp (List.prefix_append w (x :: tl)) with h1 | ⟨q, rfl⟩
  · exact h1
  · cases q with
    | nil => rw [List.append_nil]; exact List.prefix_refl w
    | cons y q =>
      obtain ⟨rfl, _⟩ := List.cons_prefix_cons.1 ((List.prefix_append_right_inj w).1 hp)
      exact absurd rfl (h y (List.mem_append_right w List.mem_cons_self))

theorem startsWith_prefix : ∀ (t a b : Text), startsWith t (a ++ b) = true → startsWith t a = true :=
  fun _ a b h => startsWith_iff.2 ((List.prefix_append a b).trans (startsWith_iff.1 h))

theorem mLit_inv {lit t : Text} {n : Nat} (h : mLit lit t = some n) : t.take n = lit :=
  (mLit_some h).2.2

theorem mLit_of (lit tl : Text) : mLit lit (lit ++ tl) = some lit.length := by
  simp [mLit, startsWith_self_append]

theorem mLit_ne {d : Nat} {l : Text} {c : Nat} (r : Text) (h : c ≠ d) :
    mLit (d :: l) (c :: r) = none := by
  have : (c == d) = false := by simp; omega
  simp [mLit, startsWith, this]

theorem nic_of_not_tokc (c : Nat) (h : tokc c = false) : nic c = true := by
  rcases not_tokc_cases h with h | h | h | h | h <;> subst h <;> rfl

theorem ndg_of_not_tokc (c : Nat) (h : tokc c = false) : ndg c = true := by
  rcases not_tokc_cases h with h | h | h | h | h <;> subst h <;> rfl

theorem nic_afterNode {c : Nat} (h : afterNode c = true) : nic c = true := by
  rcases afterNode_cases h with h | h | h | h | h | h | h | h <;> subst h <;> decide

theorem isIdent_iff (name : Text) :
    IsIdent name ↔ ∃ c r, name = c :: r ∧ isIdentStart c = true ∧ r.all isIdentChar = true ∧
      startsWith name sPUSH = false := by
  unfold IsIdent mIdentifier
  constructor
  · intro h
    by_cases hp : startsWith name sPUSH = true
    · simp [hp] at h
    · simp only [hp] at h
      cases name with
      | nil => simp at h
      | cons c r =>
        by_cases hc : isIdentStart c = true
        · simp [hc] at h
          exact ⟨c, r, rfl, hc, spanLen_all _ r h, by simpa using hp⟩
        · simp [hc] at h
  · rintro ⟨c, r, rfl, hc, hr, hp⟩
    simp [hp, hc, spanLen_of_all _ r hr]

theorem isIdent_dest {name : Text} (h : IsIdent name) :
    ∃ c r, name = c :: r ∧ isIdentStart c = true ∧ r.all isIdentChar = true ∧
      startsWith name sPUSH = false := (isIdent_iff name).1 h

theorem mIdentifier_inv {t : Text} {n : Nat} (h : mIdentifier t = some n) : IsIdent (t.take n) :=
  (isIdent_iff _).2 (mIdentifier_some h).2.2

/-- the character behind an identifier is no identifier character, so none of the letters of
    `PUSH`: what follows cannot complete the prefix `PUSH` that `IsIdent` excludes -/
theorem startsWith_push_ident {name : Text} (h : IsIdent name) {F : Text} (hF : Hd nic F) :
    startsWith (name ++ F) sPUSH = false := by
  obtain ⟨x, F', rfl, hx⟩ := hF.dest
  obtain ⟨c, r, rfl, _, _, hp⟩ := isIdent_dest h
  have hne : ∀ d ∈ sPUSH, d ≠ x := by
    intro d hd e
    have hd' : isIdentChar d = true :=
      List.all_eq_true.1 (by decide : sPUSH.all isIdentChar = true) d hd
    rw [e] at hd'
    simp [nic, hd'] at hx
  rw [startsWith_append_ne (c :: r) sPUSH x F' hne]
  exact hp

theorem mIdentifier_of {name : Text} (h : IsIdent name) {F : Text} (hF : Hd nic F) :
    mIdentifier (name ++ F) = some name.length := by
  have h1 := startsWith_push_ident h hF
  obtain ⟨x, F', rfl, hx⟩ := hF.dest
  obtain ⟨c, r, rfl, hc, hr, _⟩ := isIdent_dest h
  have h2 := spanLen_append isIdentChar r x F' hr (by simpa [nic] using hx)
  unfold mIdentifier
  rw [h1]
  simp [hc, h2]

theorem mIdentifier_none {c : Nat} (r : Text) (h : isIdentStart c = false) :
    mIdentifier (c :: r) = none := by
  unfold mIdentifier
  split <;> simp [h]

theorem mLit_push_ident {name : Text} (h : IsIdent name) {F : Text} (hF : Hd nic F) :
    mLit sPUSH (name ++ F) = none := by
  simp [mLit, startsWith_push_ident h hF]

theorem mLit_append_none {a : Text} (b : Text) {t : Text} (h : mLit a t = none) :
    mLit (a ++ b) t = none := by
  unfold mLit at h ⊢
  by_cases h1 : startsWith t (a ++ b) = true
  · simp [startsWith_prefix t a b h1] at h
  · simp [h1]

theorem keywordKind_peek {v : Text} : keywordKind v = .peek ↔ v = sPEEK := by
  constructor
  · intro hk
    rcases PRT.keywordKind_cases v with ⟨h, _⟩ | h | h | h | h | h
    · exact h
    all_goals rw [h] at hk; cases hk
  · intro h; subst h; rfl

theorem isIdent_PEEK : IsIdent sPEEK := by unfold IsIdent; decide

theorem isTagName_dest {t : Text} (h : IsTagName t) :
    ∃ c r, t = c :: r ∧ isIdentStart c = true ∧ r.all isIdentChar = true := by
  cases t with
  | nil => exact False.elim h
  | cons c r => exact ⟨c, r, rfl, h.1, h.2⟩

theorem mTag_inv {t : Text} {n : Nat} (h : mTag t = some n) :
    ∃ name, t.take n = 35 :: name ∧ IsTagName name :=
  let ⟨c, r, e, hc, hr⟩ := (mTag_some h).2.2
  ⟨c :: r, e, hc, hr⟩

theorem mTag_of {t : Text} (h : IsTagName t) {F : Text} (hF : Hd nic F) :
    mTag ((35 :: t) ++ F) = some (35 :: t).length := by
  obtain ⟨x, F', rfl, hx⟩ := hF.dest
  obtain ⟨c, r, rfl, hc, hr⟩ := isTagName_dest h
  have h2 := spanLen_append isIdentChar r x F' hr (by simpa [nic] using hx)
  simp [mTag, hc, h2]

theorem mTag_none {c : Nat} (r : Text) (h : c ≠ 35) : mTag (c :: r) = none := by
  simp [mTag, h]

theorem mNumber_inv {t : Text} {n : Nat} (h : mNumber t = some n) : IsDigits (t.take n) :=
  (mNumber_some h).2.2

theorem mNumber_of {w : Text} (hw : IsDigits w) {F : Text} (hF : Hd ndg F) :
    mNumber (w ++ F) = some w.length := by
  obtain ⟨x, F', rfl, hx⟩ := hF.dest
  have h := spanLen_append isDigit w x F' (List.all_eq_true.2 hw.2) (by simpa [ndg] using hx)
  have : w.length ≠ 0 := by
    cases w with
    | nil => exact absurd rfl hw.1
    | cons _ _ => simp
  simp [mNumber, h, this]

theorem mNumber_none {c : Nat} (r : Text) (h : isDigit c = false) : mNumber (c :: r) = none := by
  simp [mNumber, spanLen, h]

theorem isDigits_cons {w : Text} (h : IsDigits w) : ∃ d ds, w = d :: ds ∧ isDigit d = true := by
  cases w with
  | nil => exact absurd rfl h.1
  | cons d ds => exact ⟨d, ds, rfl, h.2 d (by simp)⟩

theorem mInteger_inv {t : Text} {n : Nat} (h : mInteger t = some n) : IsIntTok (t.take n) :=
  (mInteger_some h).2.2

theorem mInteger_of {w : Text} (h : IsIntTok w) {F : Text} (hF : Hd ndg F) :
    mInteger (w ++ F) = some w.length := by
  rcases h with hd | ⟨zs, d, ds, rfl, hz, h1, h2, hds⟩
  · simp only [mInteger, mNumber_of hd hF]
  · obtain ⟨x, F', rfl, hx⟩ := hF.dest
    have hn0 : mNumber (45 :: (zs ++ d :: (ds ++ x :: F'))) = none := mNumber_none _ (by decide)
    have hz' : spanLen (· == 48) (zs ++ d :: (ds ++ x :: F')) = zs.length :=
      spanLen_append (· == 48) zs d (ds ++ x :: F')
        (by simp only [List.all_eq_true, beq_iff_eq]; exact hz) (by simp; omega)
    have hd : (decide (49 ≤ d) && decide (d ≤ 57)) = true := by simp; omega
    have hs := spanLen_append isDigit ds x F' (List.all_eq_true.2 hds) (by simpa [ndg] using hx)
    simp only [mInteger, List.cons_append, List.append_assoc, hn0, hz', List.drop_left, hd,
      ↓reduceIte, hs, List.length_cons, List.length_append]
    congr 1; omega

theorem isIntTok_hd {w : Text} (h : IsIntTok w) : ∃ d r, w = d :: r ∧ (isDigit d || d == 45) = true := by
  rcases h with hd | ⟨zs, d, ds, rfl, _⟩
  · obtain ⟨d, ds, rfl, hdd⟩ := isDigits_cons hd
    exact ⟨d, ds, rfl, by simp [hdd]⟩
  · exact ⟨45, _, rfl, rfl⟩

theorem mInteger_none {c : Nat} (r : Text) (h : isDigit c = false) (h' : c ≠ 45) :
    mInteger (c :: r) = none := by
  simp [mInteger, mNumber_none r h, h']

theorem mEscape_append {e : Text} {n : Nat} (h : mEscape e = some n) (post : Text) :
    mEscape (e ++ post) = some n := by
  obtain ⟨x, rest, v, rfl, hx⟩ := Unescape.escapeLen_iff.1 h
  exact Unescape.escapeLen_iff.2 ⟨x, rest ++ post, v, List.append_assoc .., hx⟩

theorem mChar_inv {t : Text} {n : Nat} (h : mChar t = some n) : IsCharLit (t.take n) :=
  (mChar_some h).2.2

theorem mChar_of {w : Text} (h : IsCharLit w) (tl : Text) : mChar (w ++ tl) = some w.length := by
  obtain ⟨body, rfl, ⟨c, rfl, hc⟩ | ⟨e, rfl, he⟩⟩ := h
  · simp [mChar]
  · have hk : mEscape (e ++ 39 :: tl) = some e.length := mEscape_append he _
    simp only [List.cons_append, List.append_assoc, List.nil_append, mChar, hk]
    simp

theorem mChar_none {c : Nat} (r : Text) (h : c ≠ 39) : mChar (c :: r) = none := by
  simp [mChar, h]

theorem isCharLit_cons {w : Text} (h : IsCharLit w) : ∃ r, w = 39 :: r := by
  obtain ⟨body, rfl, _⟩ := h
  exact ⟨_, rfl⟩

theorem mModifier_inv {t : Text} {n : Nat} (h : mModifier t = some n) :
    ∃ c, t.take n = [c] ∧ (c = 95 ∨ c = 64 ∨ c = 36 ∨ c = 33) :=
  (mModifier_some h).2.2

theorem mModifier_of {c : Nat} (hm : c = 95 ∨ c = 64 ∨ c = 36 ∨ c = 33) (tl : Text) :
    mModifier ([c] ++ tl) = some [c].length ∧ tokc c = true := by
  rcases hm with h | h | h | h <;> subst h <;> exact ⟨by simp [mModifier], by decide⟩

/-! ### string bodies

  `SBody b`: a text the loop of `accept_string` runs over up to the closing quote — characters
  other than `"` and `\`, and backslashes followed by a match of `RE_ESCAPE`.
  `StrVal acc esc b v`: the value the loop emits at the closing quote when it reads `b` with `acc`
  accumulated (reversed) and `esc` saying whether an escape was seen: a body without escapes is
  copied, one with escapes goes through `unescape`.  From the empty accumulator this is the
  relation `StrBody` of the layout (`strBody_iff`).  The accept half runs the loop over a given
  `SBody` (`TRT.sp_stringLoop`), the inversion finds one (`IS.stringLoop_inv`). -/

inductive SBody : Text → Prop
  | nil : SBody []
  | char (c : Nat) {r : Text} : c ≠ 92 → c ≠ 34 → SBody r → SBody (c :: r)
  | esc {x r : Text} : Unescape.escapeLen x = some x.length → SBody r → SBody (92 :: (x ++ r))

def hasEsc (b : Text) : Bool := b.any (· == 92)

def StrVal (acc : Text) (esc : Bool) (b v : Text) : Prop :=
  if (esc || hasEsc b) = true then Unescape.unescape (acc.reverse ++ b) = .ok v
  else v = acc.reverse ++ b

theorem strVal_nil_raw {acc v : Text} : StrVal acc false [] v ↔ v = acc.reverse := by
  simp [StrVal, hasEsc]

theorem strVal_nil_esc {acc v : Text} :
    StrVal acc true [] v ↔ Unescape.unescape acc.reverse = .ok v := by
  simp [StrVal]

theorem strVal_char {acc : Text} {esc : Bool} {c : Nat} {b v : Text} (h : c ≠ 92) :
    StrVal acc esc (c :: b) v ↔ StrVal (c :: acc) esc b v := by
  have : (c == 92) = false := by simpa using h
  simp [StrVal, hasEsc, this]

theorem strVal_esc {acc : Text} {esc : Bool} {e b v : Text} :
    StrVal acc esc (92 :: (e ++ b)) v ↔ StrVal (e.reverse ++ 92 :: acc) true b v := by
  simp [StrVal, hasEsc]

theorem denotes_of_strBody {body s : Text} (h : StrBody body s) : Unescape.Denotes body s := by
  induction h with
  | nil => exact .nil
  | char c h1 _ _ ih => exact .char c _ _ h1 ih
  | esc he _ ih => exact .esc _ _ _ _ he ih

theorem SBody.of_strBody {b v : Text} (h : StrBody b v) : SBody b := by
  induction h with
  | nil => exact .nil
  | char c h1 h2 _ ih => exact .char c h1 h2 ih
  | esc he _ ih => exact .esc (Unescape.escapeLen_whole.2 ⟨_, .ok he⟩) ih

theorem strBody_plain {b v : Text} (h : StrBody b v) (hn : hasEsc b = false) : v = b := by
  induction h with
  | nil => rfl
  | char c _ _ _ ih =>
    simp only [hasEsc, List.any_cons, Bool.or_eq_false_iff] at hn
    rw [ih hn.2]
  | esc _ _ _ => simp [hasEsc] at hn

theorem SBody.plain {b : Text} (h : SBody b) (hn : hasEsc b = false) : StrBody b b := by
  induction h with
  | nil => exact .nil
  | char c h92 h34 _ ih =>
    simp only [hasEsc, List.any_cons, Bool.or_eq_false_iff] at hn
    exact .char c h92 h34 (ih hn.2)
  | esc _ _ _ => simp [hasEsc] at hn

theorem SBody.of_spec {body : Text} (h : SBody body) : ∀ v,
    Unescape.specUnescape body = some v → StrBody body v := by
  induction h with
  | nil =>
    intro v hv
    rw [Unescape.specUnescape_nil] at hv
    cases hv
    exact .nil
  | @char c r h92 h34 _ ih =>
    intro v hv
    rw [Unescape.specUnescape_cons_char r h92] at hv
    obtain ⟨v', hs, rfl⟩ := Option.map_eq_some_iff.1 hv
    exact .char c h92 h34 (ih v' hs)
  | @esc x r hx _ ih =>
    intro v hv
    obtain ⟨ov, hl⟩ := Unescape.escapeLen_whole.1 hx
    cases ov with
    | none => rw [Unescape.specUnescape_esc_range (Unescape.specEscape_lexeme hl r)] at hv; cases hv
    | some cp =>
      rw [Unescape.specUnescape_cons_lexeme hl] at hv
      obtain ⟨v', hs, rfl⟩ := Option.map_eq_some_iff.1 hv
      exact .esc (Unescape.escape_iff.2 hl) (ih v' hs)

theorem strBody_iff {b v : Text} : StrBody b v ↔ SBody b ∧ StrVal [] false b v := by
  unfold StrVal
  simp only [Bool.false_or, List.reverse_nil, List.nil_append]
  constructor
  · intro h
    refine ⟨.of_strBody h, ?_⟩
    split
    · exact Unescape.unescape_of_spec (Unescape.spec_of_denotes (denotes_of_strBody h))
    · rename_i hn
      exact strBody_plain h (by simpa using hn)
  · rintro ⟨hs, hv⟩
    split at hv
    · exact hs.of_spec v (Unescape.spec_of_unescape hv)
    · rename_i hn
      subst hv
      exact hs.plain (by simpa using hn)

theorem _root_.Pest.Front.IA.strBody_length {body s : Text} (h : StrBody body s) : s.length ≤ body.length := by
  induction h with
  | nil => simp
  | char c _ _ _ ih => simp; omega
  | esc _ _ ih => simp; omega

/-! ### line ends and doc lines -/

theorem findNewline_cons {c : Nat} {t : Text} (h10 : c ≠ 10) (h13 : c = 13 → t.head? ≠ some 10) :
    findNewline (c :: t) = (findNewline t).map (· + 1) := by
  by_cases hc : c = 13
  · subst hc
    cases t with
    | nil => simp [findNewline]
    | cons d t' =>
      have hd : d ≠ 10 := by simpa using h13 rfl
      simp [findNewline, hd]
  · simp [findNewline, hc]

theorem findNewline_cons_inv {c : Nat} {t : Text} {n : Nat}
    (h : findNewline (c :: t) = some (n + 1)) : c ≠ 10 ∧ (c = 13 → t.head? ≠ some 10) := by
  constructor
  · intro hc; subst hc; simp [findNewline] at h
  · intro hc; subst hc
    cases t with
    | nil => simp
    | cons d t' =>
      intro hd
      simp at hd; subst hd
      simp [findNewline] at h

theorem isDocLine_tail {c : Nat} {r : Text} (h : IsDocLine (c :: r)) : IsDocLine r := by
  unfold IsDocLine at h ⊢
  simp only [List.cons_append, List.length_cons] at h
  obtain ⟨h10, h13⟩ := findNewline_cons_inv h
  rw [findNewline_cons h10 h13] at h
  cases hf : findNewline (r ++ [10]) with
  | none => simp [hf] at h
  | some k => simp [hf] at h; rw [h]

theorem docEnd_tail {c : Nat} {l rest : Text} (h : DocEnd (c :: l) rest) : DocEnd l rest := by
  rcases h with h | ⟨r, h, hl⟩ | h
  · exact .inl h
  · refine .inr (.inl ⟨r, h, ?_⟩)
    cases l with
    | nil => simp
    | cons d l' => simpa using hl
  · exact .inr (.inr h)

/-- the line ends where what follows it begins: at the end of the text, at LF, or at CR LF -/
theorem findNewline_docEnd : ∀ (l rest : Text), NoLF l → DocEnd l rest →
    (findNewline (l ++ rest)).getD (l.length + rest.length) = l.length := by
  intro l
  induction l with
  | nil =>
    intro rest _ hd
    rcases hd with rfl | ⟨r, rfl, _⟩ | ⟨r, rfl⟩ <;> simp [findNewline]
  | cons c l ih =>
    intro rest hn hd
    have h10 : c ≠ 10 := hn c (by simp)
    have hn' : NoLF l := fun d hd' => hn d (by simp [hd'])
    have h13 : c = 13 → (l ++ rest).head? ≠ some 10 := by
      intro hc
      cases l with
      | nil =>
        rcases hd with rfl | ⟨r, rfl, hl⟩ | ⟨r, rfl⟩
        · simp
        · subst hc; simp at hl
        · simp
      | cons d l' =>
        have := hn d (by simp)
        simpa using this
    have := ih rest hn' (docEnd_tail hd)
    simp only [List.cons_append, List.length_cons]
    rw [findNewline_cons h10 h13]
    cases hf : findNewline (l ++ rest) with
    | none => rw [hf] at this; simp at this ⊢; omega
    | some k => rw [hf] at this; simp at this ⊢; omega

end RT

/-! what the inversion and the accept half both read of `findNewline` and of doc lines; in `IS`
    because Lemmas/FrontCstGlue.lean and Lemmas/FrontInvScan.lean know them by these names -/
namespace IS

theorem findNewline_none_inv : ∀ t : Text, findNewline t = none → ∀ c ∈ t, c ≠ 10 := by
  intro t
  fun_induction findNewline t with
  | case1 => intro _ c hc; cases hc
  | case2 r => intro h; cases h
  | case3 r => intro h; cases h
  | case4 c r h1 h2 ih =>
    intro h x hx
    cases hf : findNewline r with
    | some k => rw [hf] at h; cases h
    | none =>
      simp only [List.mem_cons] at hx
      rcases hx with rfl | hx
      · exact h1
      · exact ih hf x hx

theorem findNewline_some_inv : ∀ (t : Text) (n : Nat), findNewline t = some n →
    (∀ c ∈ t.take n, c ≠ 10) ∧
      ((∃ u, t.drop n = 10 :: u ∧ (t.take n).getLast? ≠ some 13) ∨ ∃ u, t.drop n = 13 :: 10 :: u) := by
  intro t
  fun_induction findNewline t with
  | case1 => intro n h; cases h
  | case2 r => intro n h; cases h; exact ⟨by simp, .inl ⟨r, rfl, by simp⟩⟩
  | case3 r => intro n h; cases h; exact ⟨by simp, .inr ⟨r, rfl⟩⟩
  | case4 c r h1 h2 ih =>
    intro n h
    cases hf : findNewline r with
    | none => rw [hf] at h; cases h
    | some k =>
      rw [hf] at h
      simp only [Option.map_some, Option.some.injEq] at h
      subst h
      obtain ⟨i1, i2⟩ := ih k hf
      have hc10 : c ≠ 10 := h1
      refine ⟨?_, ?_⟩
      · intro x hx
        simp only [List.take_succ_cons, List.mem_cons] at hx
        rcases hx with rfl | hx
        · exact hc10
        · exact i1 x hx
      · rcases i2 with ⟨u, hu, hl⟩ | ⟨u, hu⟩
        · refine .inl ⟨u, by simpa using hu, ?_⟩
          simp only [List.take_succ_cons]
          cases hk : r.take k with
          | nil =>
            simp only [List.getLast?_singleton, ne_eq, Option.some.injEq]
            intro e
            subst e
            have hk0 : k = 0 ∨ r = [] := by
              cases k with
              | zero => exact .inl rfl
              | succ j =>
                cases r with
                | nil => exact .inr rfl
                | cons y r' => simp at hk
            rcases hk0 with rfl | rfl
            · simp only [List.drop_zero] at hu
              exact h2 u rfl hu
            · simp at hu
          | cons y l =>
            rw [List.getLast?_cons_cons, ← hk]
            exact hl
        · exact .inr ⟨u, by simpa using hu⟩

def docsKV (k : TK) (m : Text) (docs : List Text) : List KV := (docs.map (docKV k m)).flatten

@[simp] theorem docsKV_nil (k : TK) (m : Text) : docsKV k m [] = [] := rfl

@[simp] theorem docsKV_cons (k : TK) (m l : Text) (ls : List Text) :
    docsKV k m (l :: ls) = (k, m) :: (.commentText, l) :: docsKV k m ls := by
  simp [docsKV, docKV]

end IS
end Front
end Pest
