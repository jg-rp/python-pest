/-
  Lemmas/OptSoundKeepsAll.lean — C07 and the tags of C06 for the optimized modes, with hypotheses
  on the original grammar only: `opt_parse_total` of Props/AllModes.lean and `C06.interp_tags`,
  `C06.gen_tags`, carried over by Lemmas/OptSoundKeeps.lean.
-/
import PestModel.Lemmas.OptSoundKeeps
import PestModel.Props.AllModes

namespace Pest
namespace AllModes

open L0 OptS

variable {g g' : Grammar} {passes : List Opt.Pass}

/-- **C07 for both optimized modes, hypotheses on the original grammar only.** -/
theorem opt_parse_total' (hwf : OptS.WF g) (hp : ∀ p ∈ passes, p ∈ Opt.defaultPasses)
    (h : Opt.optimize g passes = some g') (hwfg : Pest.WF.wellFormed g = true)
    (hg : C07.GenShape g) (inp : Input) (start : String)
    (hst : C07.callable g start = true) (k : Nat) (hk : k ≤ inp.size) :
    ∃ n, ∀ fuel, n ≤ fuel →
      (∃ m c ps, L1.parse g' inp fuel start k = .done m c ps) ∧
      (∃ m c ps, LG.parse g' inp fuel start k = .done m c ps) := by
  have hs : g.lookup start ≠ none := by
    have := C07.callable_isSome hst
    intro e; rw [e] at this; cases this
  exact opt_parse_total hwf hp h hwfg (optimizer_keeps_genShape hwf hp h hg) inp start hs
    (optimizer_keeps_callable h start hst) k hk

/-- **Tags, against the original grammar** (interpreter on the optimized table; any verdict, any
    start position): every tag on every pair at every depth is a tag written in `g` -/
theorem opt_interp_tags' (hwf : OptS.WF g) (hp : ∀ p ∈ passes, p ∈ Opt.defaultPasses)
    (h : Opt.optimize g passes = some g') (inp : Input) (fuel : Nat) (start : String) (k : Nat)
    (c : PState) (m : Bool) (ps : List Pair) (hr : L1.parse g' inp fuel start k = .done m c ps) :
    AllPairs (fun p => ∀ t, p.tag = some t → C06.GTagOK g t) ps :=
  (C06.interp_tags g' inp fuel start k c m ps hr).mono
    fun _ hp' t ht => optimizer_keeps_tags hwf hp h t (hp' t ht)

/-- the same for code generated from the optimized table -/
theorem opt_gen_tags' (hwf : OptS.WF g) (hp : ∀ p ∈ passes, p ∈ Opt.defaultPasses)
    (h : Opt.optimize g passes = some g') (inp : Input) (fuel : Nat) (start : String) (k : Nat)
    (cg : PState) (ps : List Pair) (hr : LG.parse g' inp fuel start k = .done true cg ps)
    (hk : k ≤ inp.size) :
    AllPairs (fun p => ∀ t, p.tag = some t → C06.GTagOK g t) ps :=
  (C06.gen_tags g' inp fuel start k cg ps hr).mono
    fun _ hp' t ht => optimizer_keeps_tags hwf hp h t (hp' t ht)

end AllModes
end Pest
