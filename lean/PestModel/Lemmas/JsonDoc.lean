/-
  Lemmas/JsonDoc.lean — values and documents of the bundled JSON grammars under the specification L0.

  Both grammars skip `WHITESPACE` implicitly (first section), and both write an array or object as
  `open ~ item ~ ("," ~ item)* ~ close` next to `open ~ close`.  The sequence is run once, over a list of items
  (`Item`: a text with the whitespace around it, and the pair its expression yields), for any item expression and any
  pair of brackets: `rep_items_ok`, `full_alt_ok`, `brackets_empty`, `brackets_full`.  `Elems` and `Members` of the
  model are such lists.  What the traversal of a value needs of a rule table is `ValueRules fl`: the token facts of
  Lemmas/Json.lean and the lookups of `value`, `array`, `object`, `null`, `bool` with bodies written over the flavour
  (`valueBody`, `bracketsBody`); `kind_ok` is the traversal.  The two tables as the `.pest` files write them
  (`ExDocRules`, `TDocRules`) provide `ValueRules` (`exRules`, `tRules`): their bodies are the generic ones at
  `.examples`/`.tests` by computation, said once in `exArrayBody_eq` … `tValueBody_eq`.  Last, the run of `json` on a
  whole document.
-/
import PestModel.Lemmas.Json

namespace Pest
namespace Json
open L0

variable {g : Grammar} {inp : Input}

/-! ### Implicit whitespace -/

def wsBody : Expr := .choice [(.str [32]), (.str [9]), (.str [13]), (.str [10])]

/-- the grammar's trivia is the rule `WHITESPACE = _{ " " | "\t" | "\r" | "\n" }` and nothing else -/
structure WsRules (g : Grammar) : Prop where
  ws : ∃ k, g.lookup "WHITESPACE" = some { name := "WHITESPACE", mod := 2, body := wsBody, kind := k }
  nocomment : g.lookup "COMMENT" = none
  nofused : g.fusedSkip = none

def IsWs (c : CP) : Prop := c = 32 ∨ c = 9 ∨ c = 13 ∨ c = 10

def wsChars : List CP := [32, 9, 13, 10]

theorem not_mem_wsChars {c : CP} (h : ¬ IsWs c) : c ∉ wsChars := by
  unfold IsWs at h
  simp only [wsChars, List.mem_cons, List.not_mem_nil, or_false]
  exact h

theorem big_ws_ok {s : S0} (c : WsCh) {r : Str} (h : RestAt inp s.pos (c.cp :: r)) :
    Big g inp (.expr wsBody) s (.ok (adv s 1) []) :=
  .choiceE (big_strs_ok h [] wsChars (by cases c <;> decide))

theorem skipLoop_ws (kd : RuleKind) :
    ∀ (w : Ws) (s : S0) (r : Str) (acc : List Pair), RestAt inp s.pos (wsText w ++ r) →
      HeadIs (fun c => ¬ IsWs c) r →
      Big g inp (.loop (some { name := "WHITESPACE", mod := 2, body := wsBody, kind := kd }) none acc) s
        (.ok (adv s w.length) acc)
  | [], s, r, acc, hr, hf =>
    .loopDone (.attemptSome (.rule (rej_strs' wsChars { s with atomic := _ } r hr
      (hf.mono fun c hc => not_mem_wsChars hc)))) .attemptNone
  | c :: w, s, r, acc, hr, hf => by
    have hr' : RestAt inp s.pos (c.cp :: (wsText w ++ r)) := hr
    have h1 : Big g inp (.attempt (some { name := "WHITESPACE", mod := 2, body := wsBody, kind := kd })) s
        (.ok (adv s 1) []) := by
      have := Big.attemptSome (rl := { name := "WHITESPACE", mod := 2, body := wsBody, kind := kd }) (s := s)
        (.rule (big_ws_ok (g := g) (s := { s with atomic := ruleAtomic "WHITESPACE" 2 s.atomic }) c hr'))
      rw [wrapK, ruleWrap_silent (show hasBit 2 SILENT = true from rfl)] at this
      exact this
    have h2 := skipLoop_ws kd w (adv s 1) r acc hr'.tail hf
    rw [adv_adv, Nat.add_comm] at h2
    exact .loopWs h1 (by rwa [List.append_nil])

/-- **implicit whitespace**: between two elements of a sequence in a non-atomic context, exactly
    the run of whitespace is skipped, and it leaves no pairs -/
theorem evSkip_ws (hg : WsRules g) {s : S0} (hna : s.atomic = false) (w : Ws) {r : Str}
    (hr : RestAt inp s.pos (wsText w ++ r)) (hf : HeadIs (fun c => ¬ IsWs c) r) :
    Big g inp .skip s (.ok (adv s w.length) []) := by
  obtain ⟨k, hl⟩ := hg.ws
  have := skipLoop_ws (g := g) k w s r [] hr hf
  rw [← hl, ← hg.nocomment] at this
  exact .skipLoop hna hg.nofused (by rw [hl]; rfl) this

@[simp] theorem wsText_length (w : Ws) : (wsText w).length = w.length := by simp [wsText]

theorem wsText_head (w : Ws) : HeadIs IsWs (wsText w) := by
  cases w with
  | nil => trivial
  | cons c w => cases c <;> simp [wsText, HeadIs, WsCh.cp, IsWs]

theorem not_ws_struct {c : CP} (hc : c = 44 ∨ c = 93 ∨ c = 125 ∨ c = 58) : ¬ IsWs c := by
  unfold IsWs; rcases hc with h | h | h | h <;> subst h <;> decide

theorem not_ws_close {c : CP} (hc : c = 93 ∨ c = 125) : ¬ IsWs c := not_ws_struct (Or.inr (hc.imp_right Or.inl))

theorem not_ws_44 : ¬ IsWs 44 := not_ws_struct (Or.inl rfl)

theorem RestAt.advanceWs {p : Nat} {w : Ws} {r : Str} (h : RestAt inp p (wsText w ++ r)) :
    RestAt inp (p + w.length) r := by
  simpa using h.advance

/-- `X` begins with a character that is not whitespace: in front of such a text the implicit trivia stops where the
    whitespace ends.  True of every item of an array or object (`val_text_nonWs`, `memberText_nonWs`). -/
def NonWsStart (X : Str) : Prop := ∃ c t, X = c :: t ∧ ¬ IsWs c

theorem NonWsStart.head {X : Str} (h : NonWsStart X) (r : Str) : HeadIs (fun c => ¬ IsWs c) (X ++ r) := by
  obtain ⟨c, t, rfl, hc⟩ := h
  exact hc

/-! ### Calls of rules that inherit the context (`name = { body }`, `name = _{ body }`) -/

theorem pair_not_trivia : L1.isTriviaName "pair" = false := by decide
theorem value_not_trivia : L1.isTriviaName "value" = false := by decide
theorem json_not_trivia : L1.isTriviaName "json" = false := by decide

theorem big_call {name : String} {body : Expr} {k : RuleKind} {mod : Nat} {s : S0} {r : R0}
    (hl : g.lookup name = some { name := name, mod := mod, body := body, kind := k })
    (hm : mod = 0 ∨ mod = 2) (hn : L1.isTriviaName name = false) (hb : Big g inp (.expr body) s r) :
    Big g inp (.expr (.ident name none)) s (wrapK name mod s r) :=
  .ident hl (.rule (by rw [ruleAtomic_inherits name mod hm hn]; exact hb))

theorem big_plain_ok {name : String} {body : Expr} {k : RuleKind} {s s' : S0} {ps : List Pair}
    (hl : g.lookup name = some { name := name, mod := 0, body := body, kind := k })
    (hn : L1.isTriviaName name = false) (hb : Big g inp (.expr body) s (.ok s' ps)) (hat : s'.atomic = s.atomic) :
    Big g inp (.expr (.ident name none)) s (.ok s' [.mk name 0 s.pos s'.pos ps none]) := by
  have := big_call hl (Or.inl rfl) hn hb
  rw [wrapK, ruleWrap_pair rfl, restore_eq hat] at this
  exact this

theorem big_plain_fail {name : String} {body : Expr} {k : RuleKind} {mod : Nat} {s : S0}
    (hl : g.lookup name = some { name := name, mod := mod, body := body, kind := k })
    (hm : mod = 0 ∨ mod = 2) (hn : L1.isTriviaName name = false) (hb : Big g inp (.expr body) s .fail) :
    Big g inp (.expr (.ident name none)) s .fail :=
  big_call hl hm hn hb

theorem big_silent_ok {name : String} {body : Expr} {k : RuleKind} {s s' : S0} {ps : List Pair}
    (hl : g.lookup name = some { name := name, mod := 2, body := body, kind := k })
    (hn : L1.isTriviaName name = false) (hb : Big g inp (.expr body) s (.ok s' ps)) (hat : s'.atomic = s.atomic) :
    Big g inp (.expr (.ident name none)) s (.ok s' ps) := by
  have := big_call hl (Or.inr rfl) hn hb
  rw [wrapK, ruleWrap_silent rfl, restore_eq hat] at this
  exact this

/-! ### The first character of a value decides its alternative -/

inductive VKind where | object | array | string | number | boolean | null
deriving DecidableEq

def VKind.rule (fl : Flavour) : VKind → String
  | .object => "object" | .array => "array" | .string => "string" | .number => "number"
  | .boolean => match fl with | .examples => "boolean" | .tests => "bool"
  | .null => "null"

instance (c : CP) : Decidable (IsDigit c) := inferInstanceAs (Decidable (_ ∧ _))

def startKind (c : CP) : Option VKind :=
  if c = 123 then some .object else if c = 91 then some .array else if c = 34 then some .string
  else if c = 45 ∨ IsDigit c then some .number else if c = 116 ∨ c = 102 then some .boolean
  else if c = 110 then some .null else none

theorem startKind_digit {c : CP} (h : IsDigit c) : startKind c = some .number := by
  unfold IsDigit at h
  have h1 : c ≠ 123 := by cp_omega
  have h2 : c ≠ 91 := by cp_omega
  have h3 : c ≠ 34 := by cp_omega
  simp [startKind, h1, h2, h3, show IsDigit c from h]

theorem startKind_num {c : CP} (h : c = 45 ∨ IsDigit c) : startKind c = some .number := by
  rcases h with rfl | h
  · decide
  · exact startKind_digit h

theorem intText_head (i : IntPart) : ∃ c t, intText i = c :: t ∧ IsDigit c := by
  cases i with
  | zero => exact ⟨48, [], rfl, by unfold IsDigit; decide⟩
  | nonzero d ds => exact ⟨49 + d.val, _, rfl, isDigit_nonzero d⟩

theorem numText_head (n : Num) : ∃ c t, numText n = c :: t ∧ (c = 45 ∨ IsDigit c) := by
  rw [numText_eq]
  cases hn : n.neg with
  | true => exact ⟨45, intText n.int ++ (fracText n.frac ++ expOptText n.exp), by simp [signText], Or.inl rfl⟩
  | false =>
    obtain ⟨c, t, h1, h2⟩ := intText_head n.int
    exact ⟨c, t ++ (fracText n.frac ++ expOptText n.exp), by simp [signText, h1], Or.inr h2⟩

def Val.kind : Val → VKind
  | .null => .null | .tt => .boolean | .ff => .boolean | .num _ => .number | .str _ => .string
  | .arr0 _ => .array | .arr _ => .array | .obj0 _ => .object | .obj _ => .object

theorem val_text_kind (v : Val) : ∃ c t, v.text = c :: t ∧ startKind c = some v.kind := by
  cases v with
  | num n =>
    obtain ⟨c, t, h1, h2⟩ := numText_head n
    exact ⟨c, t, h1, startKind_num h2⟩
  | _ => exact ⟨_, _, rfl, by simp only [Val.kind]; decide⟩

def ValStart (c : CP) : Prop := (startKind c).isSome = true

theorem val_text_start (v : Val) : ∃ c t, v.text = c :: t ∧ ValStart c := by
  obtain ⟨c, t, h1, h2⟩ := val_text_kind v
  exact ⟨c, t, h1, by rw [ValStart, h2]; rfl⟩

theorem ValStart.not_ws {c : CP} (h : ValStart c) : ¬ IsWs c := by
  rintro (rfl | rfl | rfl | rfl) <;> exact absurd h (by unfold ValStart; decide)

theorem val_text_nonWs (v : Val) : NonWsStart v.text := by
  obtain ⟨c, t, hc, hst⟩ := val_text_start v
  exact ⟨c, t, hc, hst.not_ws⟩

theorem ValStart.not_close {c : CP} (h : ValStart c) : c ≠ 93 ∧ c ≠ 125 :=
  ⟨fun e => absurd (e ▸ h) (by unfold ValStart; decide), fun e => absurd (e ▸ h) (by unfold ValStart; decide)⟩

/-- in a document a value is followed by whitespace, `,`, `]`, `}` or the end -/
def ValFollow (c : CP) : Prop := IsWs c ∨ c = 44 ∨ c = 93 ∨ c = 125

theorem ValFollow.num {c : CP} (h : ValFollow c) : NumFollow c := by
  unfold ValFollow IsWs at h
  unfold NumFollow IsDigit
  rcases h with (h | h | h | h) | h | h | h <;> subst h <;> (unfold CP; decide)

theorem follow_close {c : CP} (hc : c = 93 ∨ c = 125) {r : Str} : HeadIs ValFollow (c :: r) :=
  show ValFollow c from Or.inr (Or.inr hc)

theorem close_ne_comma {c : CP} (hc : c = 93 ∨ c = 125) : c ≠ 44 := by rcases hc with rfl | rfl <;> decide

/-! ### `open ~ item ~ ("," ~ item)* ~ close` over a list of items

    An array is `[` items `]` with `value` for an item, an object is `{` items `}` with `pair`; an item is its text with
    the whitespace around it, and the pair it yields. -/

abbrev Item := Ws × Str × Ws

/-- the text after an item's own text: its trailing whitespace and, if more items follow, a
    comma and them -/
def tailText (wprev : Ws) : List Item → Str
  | [] => wsText wprev
  | (w1, X, w2) :: rest => wsText wprev ++ 44 :: (wsText w1 ++ (X ++ tailText w2 rest))

def itemsText : List Item → Str
  | [] => []
  | (w1, X, w2) :: rest => wsText w1 ++ (X ++ tailText w2 rest)

def commaOf (e : Expr) : Expr := .group (.seq [(.str [44]), e]) none

theorem big_commaOf_ok {e : Expr} {s s1 s2 : S0} {r : Str} {ps : List Pair} (h : RestAt inp s.pos (44 :: r))
    (hsk : Big g inp .skip (adv s 1) (.ok s1 [])) (he : Big g inp (.expr e) s1 (.ok s2 ps)) :
    Big g inp (.expr (commaOf e)) s (.ok s2 ps) :=
  .group (.seqE rfl (seqMoreN (big_str1_ok h) hsk (.seqLast he)))

theorem big_commaOf_fail_head {e : Expr} {s : S0} {r : Str} (h : RestAt inp s.pos r)
    (hh : HeadIs (fun c => c ≠ 44) r) : Big g inp (.expr (commaOf e)) s .fail :=
  (rej_str 44 []).seq.group s r h hh

theorem tailText_head (wprev : Ws) (items : List Item) : HeadIs ValFollow (tailText wprev items) := by
  cases items with
  | nil => exact (wsText_head wprev).mono fun _ h => Or.inl h
  | cons it rest =>
    obtain ⟨w1, X, w2⟩ := it
    exact headIs_append (fun _ => (wsText_head wprev).mono fun _ h => Or.inl h)
      (fun _ => show ValFollow 44 from Or.inr (Or.inl rfl))

/-- in front of a turn of the loop the whitespace before the comma is skipped, unless this is the first turn (where
    there is none) -/
theorem gap_ws {first : Bool} {s : S0} {k : Nat} (hk : first = true → k = 0)
    (hsk : Big g inp .skip s (.ok (adv s k) [])) : Big g inp (.gap first) s (.ok (adv s k) []) := by
  cases first with
  | false => exact .gapSkip hsk
  | true => rw [hk rfl, adv_zero]; exact .gapFirst

theorem rep_enter {e : Expr} {first : Bool} {s s' : S0} {k : Nat} {acc ps : List Pair} {res : R0}
    (hk : first = true → k = 0) (hsk : Big g inp .skip s (.ok (adv s k) []))
    (hit : Big g inp (.expr e) (adv s k) (.ok s' ps)) (hrest : Big g inp (.rep e false (acc ++ ps)) s' res) :
    Big g inp (.rep e first acc) s res :=
  .repMore (gap_ws hk hsk) hit (by rwa [List.append_nil])

theorem rep_halt {e : Expr} {first : Bool} {s : S0} {k : Nat} {acc : List Pair}
    (hk : first = true → k = 0) (hsk : Big g inp .skip s (.ok (adv s k) []))
    (hfail : Big g inp (.expr e) (adv s k) .fail) : Big g inp (.rep e first acc) s (.ok s acc) :=
  .repStop (gap_ws hk hsk) hfail rfl

def loopLen (wprev : Ws) : List Item → Nat
  | [] => 0
  | (w1, X, w2) :: rest => wprev.length + 1 + w1.length + X.length + loopLen w2 rest

def lastWs (wprev : Ws) : List Item → Ws
  | [] => wprev
  | (_, _, w2) :: rest => lastWs w2 rest

def itemsMirror : Nat → List Item → List (Nat → Pair) → List Pair
  | p, (w1, X, w2) :: rest, pr :: prs => pr (p + w1.length) :: itemsMirror (p + w1.length + X.length + w2.length + 1) rest prs
  | _, _, _ => []

theorem tailText_length (wprev : Ws) : ∀ items : List Item,
    (tailText wprev items).length = loopLen wprev items + (lastWs wprev items).length
  | [] => by simp [tailText, loopLen, lastWs]
  | (w1, X, w2) :: rest => by
    simp only [tailText, loopLen, lastWs, List.length_append, List.length_cons, wsText_length, tailText_length w2 rest]
    omega

def ItemOk (g : Grammar) (inp : Input) (e : Expr) (it : Item) (pr : Nat → Pair) : Prop :=
  (∀ (s : S0) (r : Str), s.atomic = false → RestAt inp s.pos (it.2.1 ++ r) → HeadIs ValFollow r →
    Big g inp (.expr e) s (.ok (adv s it.2.1.length) [pr s.pos])) ∧ NonWsStart it.2.1

inductive ItemsOk (g : Grammar) (inp : Input) (e : Expr) : List Item → List (Nat → Pair) → Prop
  | nil : ItemsOk g inp e [] []
  | cons {it pr rest prs} : ItemOk g inp e it pr → ItemsOk g inp e rest prs → ItemsOk g inp e (it :: rest) (pr :: prs)

theorem big_commaOf (hg : WsRules g) {e : Expr} {w1 : Ws} {X : Str} {w2 : Ws} {pr : Nat → Pair}
    (hit : ItemOk g inp e (w1, X, w2) pr) {s : S0} (hna : s.atomic = false) {r : Str}
    (h : RestAt inp s.pos (44 :: (wsText w1 ++ (X ++ r)))) (hf : HeadIs ValFollow r) :
    Big g inp (.expr (commaOf e)) s (.ok (adv (adv (adv s 1) w1.length) X.length) [pr (s.pos + 1 + w1.length)]) := by
  obtain ⟨hok, hX⟩ := hit
  have hsk := evSkip_ws hg (s := adv s 1) hna w1 (r := X ++ r) h.tail (hX.head r)
  exact big_commaOf_ok h hsk (hok (adv (adv s 1) w1.length) r hna h.tail.advanceWs hf)

/-- where the loop `("," ~ item)*` stops: at the end of the last item's own text -/
def loopEnd (s : S0) (wprev : Ws) : List Item → S0
  | [] => s
  | (w1, X, w2) :: rest => loopEnd (adv (adv (adv (adv s wprev.length) 1) w1.length) X.length) w2 rest

theorem loopEnd_eq : ∀ (items : List Item) (s : S0) (wprev : Ws), loopEnd s wprev items = adv s (loopLen wprev items)
  | [], s, _ => (adv_zero s).symm
  | (w1, X, w2) :: rest, s, wprev => by
    rw [loopEnd, loopEnd_eq rest, loopLen]
    simp only [adv_adv]

/-- the loop `("," ~ item)*`, entered at the comma (`first`) or right after the previous item, `wprev` before the
    comma; the closing bracket `c` follows the items -/
theorem rep_items_ok (hg : WsRules g) (e : Expr) (c : CP) (hc : c = 93 ∨ c = 125) :
    ∀ (items : List Item) (prs : List (Nat → Pair)), ItemsOk g inp e items prs →
      ∀ (first : Bool) (s : S0) (wprev : Ws) (acc : List Pair) (r : Str),
        s.atomic = false → (first = true → wprev = []) → RestAt inp s.pos (tailText wprev items ++ c :: r) →
        Big g inp (.rep (commaOf e) first acc) s
            (.ok (loopEnd s wprev items) (acc ++ itemsMirror (s.pos + wprev.length + 1) items prs)) ∧
          RestAt inp (loopEnd s wprev items).pos (wsText (lastWs wprev items) ++ c :: r) := by
  intro items prs hall
  induction hall with
  | nil =>
    intro first s wprev acc r hna hfirst h
    have h : RestAt inp s.pos (wsText wprev ++ c :: r) := h
    have hsk := evSkip_ws hg hna wprev h (not_ws_close hc)
    have hfail : Big g inp (.expr (commaOf e)) (adv s wprev.length) .fail :=
      big_commaOf_fail_head (r := c :: r) h.advanceWs (close_ne_comma hc)
    refine ⟨?_, h⟩
    rw [show acc ++ itemsMirror (s.pos + wprev.length + 1) [] [] = acc from List.append_nil acc]
    exact rep_halt (fun hf => by rw [hfirst hf]; rfl) hsk hfail
  | @cons it pr rest prs hit _ ih =>
    intro first s wprev acc r hna hfirst h
    obtain ⟨w1, X, w2⟩ := it
    have h' : RestAt inp s.pos (wsText wprev ++ 44 :: (wsText w1 ++ (X ++ (tailText w2 rest ++ c :: r)))) := by
      simp only [tailText, List.append_assoc, List.cons_append] at h
      exact h
    have hsk := evSkip_ws hg hna wprev h' not_ws_44
    have hf : HeadIs ValFollow (tailText w2 rest ++ c :: r) :=
      headIs_append (fun _ => tailText_head w2 rest)
        (fun _ => follow_close hc)
    have hit' := big_commaOf hg hit (s := adv s wprev.length) hna h'.advanceWs hf
    obtain ⟨ih1, ih2⟩ := ih false (adv (adv (adv (adv s wprev.length) 1) w1.length) X.length) w2
      (acc ++ [pr (s.pos + wprev.length + 1 + w1.length)]) r hna (by simp) h'.advanceWs.tail.advanceWs.advance
    refine ⟨rep_enter (fun hf => by rw [hfirst hf]; rfl) hsk hit' ?_, ih2⟩
    rw [List.append_assoc] at ih1
    exact ih1

theorem tailText_split (w : Ws) (items : List Item) : tailText w items = wsText w ++ tailText [] items := by
  cases items with
  | nil => simp [tailText, wsText]
  | cons it rest => obtain ⟨a, b, d⟩ := it; simp [tailText, wsText]

theorem tailText_nil_head (items : List Item) : HeadIs (fun d => ¬ IsWs d) (tailText [] items) := by
  cases items with
  | nil => trivial
  | cons it rest => obtain ⟨a, b, d⟩ := it; exact not_ws_44

theorem full_alt_ok (hg : WsRules g) (e : Expr) (o c : CP) (hc : c = 93 ∨ c = 125) {items : List Item}
    {prs : List (Nat → Pair)} (hall : ItemsOk g inp e items prs) (hne : items ≠ []) {s : S0} {r : Str}
    (hna : s.atomic = false) (h : RestAt inp s.pos (o :: (itemsText items ++ c :: r))) :
    Big g inp (.expr (.seq [(.str [o]), e, (.rep (commaOf e)), (.str [c])])) s
      (.ok (adv s ((itemsText items).length + 2)) (itemsMirror (s.pos + 1) items prs)) := by
  cases hall with
  | nil => exact absurd rfl hne
  | @cons it pr rest prs hit hrest =>
  obtain ⟨w1, X, w2⟩ := it
  obtain ⟨hok, hX⟩ := hit
  have h' : RestAt inp s.pos (o :: (wsText w1 ++ (X ++ (wsText w2 ++ (tailText [] rest ++ c :: r))))) := by
    simp only [itemsText, tailText_split w2 rest, List.append_assoc] at h
    exact h
  have hf : HeadIs ValFollow (wsText w2 ++ (tailText [] rest ++ c :: r)) := by
    rw [← List.append_assoc, ← tailText_split]
    exact headIs_append (fun _ => tailText_head w2 rest)
      (fun _ => follow_close hc)
  have hsk1 := evSkip_ws hg (s := adv s 1) hna w1 h'.tail (hX.head _)
  have hr2 := h'.tail.advanceWs
  have h2 := hok (adv (adv s 1) w1.length) _ hna hr2 hf
  have hsk2 := evSkip_ws hg (s := adv (adv (adv s 1) w1.length) X.length) hna w2 hr2.advance
    (headIs_append (fun _ => tailText_nil_head rest)
      fun _ => not_ws_close hc)
  obtain ⟨hrep, hr5⟩ := rep_items_ok hg e c hc rest prs hrest true
    (adv (adv (adv (adv s 1) w1.length) X.length) w2.length) [] [] r hna (fun _ => rfl) hr2.advance.advanceWs
  have hsk3 := evSkip_ws hg (s := loopEnd _ [] rest) (by rw [loopEnd_eq]; exact hna) (lastWs [] rest) hr5
    (not_ws_close hc)
  have h4 := big_str1_ok (g := g) (s := adv (loopEnd _ [] rest) (lastWs [] rest).length) hr5.advanceWs
  have e : adv s ((itemsText ((w1, X, w2) :: rest)).length + 2)
      = adv (adv (loopEnd (adv (adv (adv (adv s 1) w1.length) X.length) w2.length) [] rest)
          (lastWs [] rest).length) 1 := by
    rw [show itemsText ((w1, X, w2) :: rest) = wsText w1 ++ (X ++ tailText w2 rest) from rfl, tailText_split,
      List.length_append, List.length_append, List.length_append, wsText_length, wsText_length, tailText_length]
    simp only [loopEnd_eq, adv_adv]
    exact congrArg (adv s) (by omega)
  rw [e]
  exact .seqE rfl (seqMoreN (big_str1_ok h') hsk1 (seqMoreN h2 hsk2 (seqMoreN (.repE hrep) hsk3 (seqLastN h4))))

theorem tailText_of_ne_nil (w : Ws) {items : List Item} (hne : items ≠ []) :
    tailText w items = wsText w ++ 44 :: itemsText items := by
  cases items with
  | nil => exact absurd rfl hne
  | cons it rest => obtain ⟨a, b, d⟩ := it; rfl

theorem brackets_empty (hg : WsRules g) (e : Expr) (o c : CP) (hc : c = 93 ∨ c = 125)
    (he : ∀ (s : S0) (r : Str), RestAt inp s.pos (c :: r) → Big g inp (.expr e) s .fail) (w : Ws) {s : S0} {r : Str}
    (hna : s.atomic = false) (h : RestAt inp s.pos (o :: (wsText w ++ c :: r))) :
    Big g inp (.expr (.seq [(.str [o]), (.str [c])])) s (.ok (adv (adv (adv s 1) w.length) 1) []) ∧
      Big g inp (.expr (.seq [(.str [o]), e, (.rep (commaOf e)), (.str [c])])) s .fail := by
  have hsk := evSkip_ws hg (s := adv s 1) hna w h.tail
    (not_ws_close hc)
  exact ⟨.seqE rfl (seqMoreN (big_str1_ok h) hsk (seqLastN (big_str1_ok h.tail.advanceWs))),
    .seqE rfl (.seqMore (big_str1_ok h) hsk (.seqStop (he _ _ h.tail.advanceWs) rfl))⟩

theorem brackets_full (hg : WsRules g) (e : Expr) (o c : CP) (hc : c = 93 ∨ c = 125)
    (he : ∀ (s : S0) (r : Str), RestAt inp s.pos (c :: r) → Big g inp (.expr e) s .fail) {items : List Item}
    {prs : List (Nat → Pair)} (hall : ItemsOk g inp e items prs) (hne : items ≠ []) {s : S0} {r : Str}
    (hna : s.atomic = false) (h : RestAt inp s.pos (o :: (itemsText items ++ c :: r))) :
    Big g inp (.expr (.seq [(.str [o]), (.str [c])])) s .fail ∧
      Big g inp (.expr (.seq [(.str [o]), e, (.rep (commaOf e)), (.str [c])])) s
        (.ok (adv s ((itemsText items).length + 2)) (itemsMirror (s.pos + 1) items prs)) := by
  refine ⟨?_, full_alt_ok hg e o c hc hall hne hna h⟩
  cases hall with
  | nil => exact absurd rfl hne
  | @cons it pr rest prs hit hrest =>
    obtain ⟨w1, X, w2⟩ := it
    obtain ⟨hok, c0, t, hc0, hnws⟩ := hit
    have hc0' : X = c0 :: t := hc0
    subst hc0'
    have h' : RestAt inp s.pos (o :: (wsText w1 ++ (c0 :: t ++ (tailText w2 rest ++ c :: r)))) := by
      simp only [itemsText, List.append_assoc] at h
      exact h
    have hf : HeadIs ValFollow (tailText w2 rest ++ c :: r) :=
      headIs_append (fun _ => tailText_head w2 rest) (fun _ => follow_close hc)
    -- the item starts with something else than the closing bracket: `e` matches here, and fails on the bracket
    have hne' : c0 ≠ c := fun e0 => by
      subst e0
      cases (hok (adv (adv s 1) w1.length) _ hna h'.tail.advanceWs hf).det (he _ _ h'.tail.advanceWs)
    exact .seqE rfl (.seqMore (big_str1_ok h') (evSkip_ws hg (s := adv s 1) hna w1 h'.tail hnws)
      (.seqStop (rej_str c [] _ _ h'.tail.advanceWs hne') rfl))

/-! ### Arrays and objects of the model as lists of items -/

/-- the pair of a value, `Val.mirror`, under the name `ValOk` and `memberPair` write it with -/
abbrev vPair (fl : Flavour) (v : Val) (p : Nat) : Pair := v.mirror fl p

def valueE : Expr := .ident "value" none
def pairE : Expr := .ident "pair" none

/-- the text of one member after its leading whitespace: `string ws ":" ws value` -/
def memberText (k : SStr) (w2 w3 : Ws) (v : Val) : Str :=
  strText k ++ (wsText w2 ++ 58 :: (wsText w3 ++ v.text))

def memberPair (fl : Flavour) (p : Nat) (k : SStr) (w2 w3 : Ws) (v : Val) : Pair :=
  mkPair "pair" 0 p (p + (strText k).length + w2.length + 1 + w3.length + v.text.length)
    [mirrorStr fl p k, vPair fl v (p + (strText k).length + w2.length + 1 + w3.length)]

theorem memberText_length (k : SStr) (w2 w3 : Ws) (v : Val) :
    (memberText k w2 w3 v).length = (strText k).length + w2.length + 1 + w3.length + v.text.length := by
  simp [memberText]; omega

theorem memberText_head (k : SStr) (w2 w3 : Ws) (v : Val) : ∃ t, memberText k w2 w3 v = 34 :: t :=
  ⟨_, by simp [memberText, strText]; rfl⟩

theorem memberText_nonWs (k : SStr) (w2 w3 : Ws) (v : Val) : NonWsStart (memberText k w2 w3 v) := by
  obtain ⟨t, h⟩ := memberText_head k w2 w3 v
  exact ⟨34, t, h, by unfold IsWs; decide⟩

theorem adv_member (s : S0) (k : SStr) (w2 w3 : Ws) (v : Val) :
    adv (adv (adv (adv (adv s (strText k).length) w2.length) 1) w3.length) v.text.length
      = adv s (memberText k w2 w3 v).length := by
  rw [memberText_length]
  simp only [adv_adv]

def Elems.items : Elems → List Item
  | .one w1 v w2 => [(w1, v.text, w2)]
  | .cons w1 v w2 rest => (w1, v.text, w2) :: rest.items

def Members.items : Members → List Item
  | .one w1 k w2 w3 v w4 => [(w1, memberText k w2 w3 v, w4)]
  | .cons w1 k w2 w3 v w4 rest => (w1, memberText k w2 w3 v, w4) :: rest.items

theorem Elems.items_ne_nil (es : Elems) : es.items ≠ [] := by cases es <;> simp [Elems.items]
theorem Members.items_ne_nil (ms : Members) : ms.items ≠ [] := by cases ms <;> simp [Members.items]

theorem Elems.text_items : ∀ es : Elems, es.text = itemsText es.items
  | .one w1 v w2 => by simp [Elems.text, Elems.items, itemsText, tailText]
  | .cons w1 v w2 rest => by
    rw [Elems.items, itemsText, tailText_of_ne_nil _ rest.items_ne_nil, ← Elems.text_items rest, Elems.text]
    simp only [List.append_assoc]

theorem Members.text_items : ∀ ms : Members, ms.text = itemsText ms.items
  | .one w1 k w2 w3 v w4 => by simp [Members.text, memberText, Members.items, itemsText, tailText]
  | .cons w1 k w2 w3 v w4 rest => by
    rw [Members.items, itemsText, tailText_of_ne_nil _ rest.items_ne_nil, ← Members.text_items rest, Members.text]
    simp [memberText, List.append_assoc]

def Elems.prs (fl : Flavour) : Elems → List (Nat → Pair)
  | .one _ v _ => [fun p => v.mirror fl p]
  | .cons _ v _ rest => (fun p => v.mirror fl p) :: rest.prs fl

def Members.prs (fl : Flavour) : Members → List (Nat → Pair)
  | .one _ k w2 w3 v _ => [fun p => memberPair fl p k w2 w3 v]
  | .cons _ k w2 w3 v _ rest => (fun p => memberPair fl p k w2 w3 v) :: rest.prs fl

theorem Elems.mirror_items (fl : Flavour) : ∀ (es : Elems) (p : Nat), es.mirror fl p = itemsMirror p es.items (es.prs fl)
  | .one _ _ _, _ => rfl
  | .cons _ _ _ rest, _ => congrArg (_ :: ·) (Elems.mirror_items fl rest _)

theorem Members.mirror_items (fl : Flavour) :
    ∀ (ms : Members) (p : Nat), ms.mirror fl p = itemsMirror p ms.items (ms.prs fl)
  | .one _ _ _ _ _ _, _ => rfl
  | .cons w1 k w2 w3 v w4 rest, p => by
    have e : p + w1.length + (strText k).length + w2.length + 1 + w3.length + v.text.length + w4.length + 1
        = p + w1.length + (memberText k w2 w3 v).length + w4.length + 1 := by rw [memberText_length]; omega
    show _ :: rest.mirror fl _ = _ :: itemsMirror _ rest.items (rest.prs fl)
    rw [Members.mirror_items fl rest, e]
    rfl

/-! ### What the traversal of a value needs of a rule table: `ValueRules`

    The two rule tables differ in the order of the alternatives of `value` (and of `array`, `object`), in whether
    `value` is silent, and in the name of the rule for `true`/`false`; `pair`, `null` and the rule for `true`/`false`
    have one body in both. -/

def exPairBody : Expr := .seq [(.ident "string" none), (.str [58]), (.ident "value" none)]
def exBooleanBody : Expr := .choice [(.str [116, 114, 117, 101]), (.str [102, 97, 108, 115, 101])]
def exNullBody : Expr := .str [110, 117, 108, 108]

/-- what the container lemmas need from a grammar: its trivia, the rule
    `pair = { string ~ ":" ~ value }`, and the behaviour of `string` (Lemmas/Json.lean) -/
structure CoreRules (g : Grammar) (inp : Input) (fl : Flavour) : Prop where
  ws : WsRules g
  pair : g.lookup "pair" = some { name := "pair", mod := 0, body := exPairBody, kind := .grammar }
  str : ∀ (s : S0) (cs : SStr) (r : Str), RestAt inp s.pos (strText cs ++ r) →
    Ev g inp (.ident "string" none) s (.ok (adv s (strText cs).length) [mirrorStr fl s.pos cs])
  strFail : ∀ (s : S0) (c : CP) (r : Str), RestAt inp s.pos (c :: r) → c ≠ 34 →
    Ev g inp (.ident "string" none) s .fail

def ValOk (g : Grammar) (inp : Input) (fl : Flavour) (v : Val) : Prop :=
  ∀ (s : S0) (r : Str), s.atomic = false → RestAt inp s.pos (v.text ++ r) → HeadIs ValFollow r →
    Ev g inp (.ident "value" none) s (.ok (adv s v.text.length) [vPair fl v s.pos])

def kindOrder : Flavour → List VKind
  | .examples => [.object, .array, .string, .number, .boolean, .null]
  | .tests => [.string, .number, .object, .array, .boolean, .null]

def valueMod : Flavour → Nat | .examples => 2 | .tests => 0

def valueBody (fl : Flavour) : Expr := .choice ((kindOrder fl).map fun k => .ident (k.rule fl) none)

def altsOf (fl : Flavour) (empty full : Expr) : List Expr :=
  match fl with | .examples => [empty, full] | .tests => [full, empty]

def bracketsBody (fl : Flavour) (o c : CP) (e : Expr) : Expr :=
  .choice (altsOf fl (.seq [(.str [o]), (.str [c])]) (.seq [(.str [o]), e, (.rep (commaOf e)), (.str [c])]))

structure ValueRules (g : Grammar) (inp : Input) (fl : Flavour) : Prop where
  core : CoreRules g inp fl
  strRej : Rej g inp (.ident "string" none) (HeadIs fun c => c ≠ 34)
  num : ∀ (s : S0) (n : Num) (post : Str), RestAt inp s.pos (numText n ++ post) → HeadIs NumFollow post →
    Ev g inp (.ident "number" none) s
      (.ok (adv s (numText n).length) [mkPair "number" ATOMIC s.pos (s.pos + (numText n).length) []])
  numRej : Rej g inp (.ident "number" none) (HeadIs fun c => c ≠ 45 ∧ ¬ IsDigit c)
  null : g.lookup "null" = some { name := "null", mod := 0, body := exNullBody, kind := .grammar }
  bool : g.lookup (VKind.boolean.rule fl)
    = some { name := VKind.boolean.rule fl, mod := 0, body := exBooleanBody, kind := .grammar }
  value : g.lookup "value" = some
    { name := "value", mod := valueMod fl, body := valueBody fl, kind := .grammar }
  array : g.lookup "array"
    = some { name := "array", mod := 0, body := bracketsBody fl 91 93 valueE, kind := .grammar }
  object : g.lookup "object"
    = some { name := "object", mod := 0, body := bracketsBody fl 123 125 pairE, kind := .grammar }

theorem choice_kinds_fail {fl : Flavour} {s : S0} (hf : ∀ k : VKind, Big g inp (.expr (.ident (k.rule fl) none)) s .fail) :
    ∀ order : List VKind, Big g inp (.choice (order.map fun k => .ident (k.rule fl) none)) s .fail
  | [] => .choiceNil
  | k :: order => .choiceNext (hf k) (choice_kinds_fail hf order)

theorem choice_kinds_ok {fl : Flavour} {k : VKind} {s s' : S0} {ps : List Pair}
    (hf : ∀ k' : VKind, k' ≠ k → Big g inp (.expr (.ident (k'.rule fl) none)) s .fail)
    (h : Big g inp (.expr (.ident (k.rule fl) none)) s (.ok s' ps)) :
    ∀ order : List VKind, k ∈ order → Big g inp (.choice (order.map fun k => .ident (k.rule fl) none)) s (.ok s' ps)
  | k0 :: order, hm => by
    by_cases e : k0 = k
    · subst e; exact .choiceStop h nofun
    · exact .choiceNext (hf k0 e) (choice_kinds_ok hf h order ((List.mem_cons.mp hm).resolve_left (Ne.symm e)))

theorem rule_not_trivia (fl : Flavour) : ∀ k : VKind, L1.isTriviaName (k.rule fl) = false
  | .object | .array | .string | .number | .null => rfl
  | .boolean => by cases fl <;> rfl

theorem kind_mem_order (fl : Flavour) (k : VKind) : k ∈ kindOrder fl := by cases fl <;> cases k <;> decide

/-! A rule `a | b` in one table is `b | a` in the other: what does not depend on the order. -/

theorem Rej.alts {fl : Flavour} {a b : Expr} {F : Str → Prop} (ha : Rej g inp a F) (hb : Rej g inp b F) :
    Rej g inp (.choice (altsOf fl a b)) F := by
  cases fl
  · exact ha.choice (hb.choice rej_choice_nil)
  · exact hb.choice (ha.choice rej_choice_nil)

theorem alts_fail {fl : Flavour} {a b : Expr} {s : S0} (ha : Big g inp (.expr a) s .fail)
    (hb : Big g inp (.expr b) s .fail) : Big g inp (.expr (.choice (altsOf fl a b))) s .fail := by
  cases fl
  · exact .choiceE (.choiceNext ha (.choiceNext hb .choiceNil))
  · exact .choiceE (.choiceNext hb (.choiceNext ha .choiceNil))

theorem big_alts (fl : Flavour) {a b : Expr} {s s' : S0} {ps : List Pair}
    (h : Big g inp (.expr a) s (.ok s' ps) ∧ Big g inp (.expr b) s .fail ∨
      Big g inp (.expr a) s .fail ∧ Big g inp (.expr b) s (.ok s' ps)) :
    Big g inp (.expr (.choice (altsOf fl a b))) s (.ok s' ps) := by
  cases fl <;> rcases h with ⟨h1, h2⟩ | ⟨h1, h2⟩
  · exact .choiceE (.choiceStop h1 nofun)
  · exact .choiceE (.choiceNext h1 (.choiceStop h2 nofun))
  · exact .choiceE (.choiceNext h2 (.choiceStop h1 nofun))
  · exact .choiceE (.choiceStop h2 nofun)

section kinds
variable {fl : Flavour} (hv : ValueRules g inp fl)
include hv

theorem rejKind : ∀ k : VKind, Rej g inp (.ident (k.rule fl) none) (HeadIs fun c => startKind c ≠ some k)
  | .object => ((Rej.alts (rej_str 123 []).seq (rej_str 123 []).seq).ident ⟨_, hv.object⟩).monoH fun c h e => h (by subst e; decide)
  | .array => ((Rej.alts (rej_str 91 []).seq (rej_str 91 []).seq).ident ⟨_, hv.array⟩).monoH fun c h e => h (by subst e; decide)
  | .string => hv.strRej.monoH fun c h e => h (by subst e; decide)
  | .number => hv.numRej.monoH fun c h =>
      ⟨fun e => h (by subst e; decide), fun e => h (startKind_digit e)⟩
  | .boolean =>
    ((((rej_str 116 _).monoH fun c (h : startKind c ≠ some .boolean) e => h (by subst e; decide)).choice
      (((rej_str 102 _).monoH fun c (h : startKind c ≠ some .boolean) e => h (by subst e; decide)).choice
        rej_choice_nil)).ident ⟨_, hv.bool⟩)
  | .null => ((rej_str 110 _).ident ⟨_, hv.null⟩).monoH fun c h e => h (by subst e; decide)

theorem value_fail {s : S0} (hf : ∀ k : VKind, Big g inp (.expr (.ident (k.rule fl) none)) s .fail) :
    Big g inp (.expr valueE) s .fail := by
  have hb : Big g inp (.expr (valueBody fl)) s .fail := .choiceE (choice_kinds_fail hf (kindOrder fl))
  cases fl
  · exact big_plain_fail hv.value (Or.inr rfl) value_not_trivia hb
  · exact big_plain_fail hv.value (Or.inl rfl) value_not_trivia hb

theorem value_fail_none {s : S0} {r : Str} (hr : RestAt inp s.pos r) (hh : HeadIs (fun c => startKind c = none) r) :
    Big g inp (.expr valueE) s .fail :=
  value_fail hv fun k => rejKind hv k s r hr (hh.mono fun c h => by rw [h]; exact nofun)

theorem value_fail_kind {s : S0} {c : CP} {r : Str} (hr : RestAt inp s.pos (c :: r)) {k : VKind}
    (hk : startKind c = some k) (h : Big g inp (.expr (.ident (k.rule fl) none)) s .fail) :
    Big g inp (.expr valueE) s .fail :=
  value_fail hv fun k' =>
    if e : k' = k then e ▸ h
    else rejKind hv k' s _ hr (show startKind c ≠ some k' by rw [hk]; exact fun e' => e (Option.some.inj e').symm)

/-- where the alternative `k` matches, `value` is that alternative: the others fail on its first character -/
theorem big_value_kind {s : S0} {c : CP} {r : Str} (hr : RestAt inp s.pos (c :: r)) {k : VKind}
    (hk : startKind c = some k) {s' : S0} {p : Pair} (h : Big g inp (.expr (.ident (k.rule fl) none)) s (.ok s' [p]))
    (hat : s'.atomic = s.atomic) : Big g inp (.expr valueE) s (.ok s' [wrapValue fl s.pos s'.pos p]) := by
  have hb : Big g inp (.expr (valueBody fl)) s _ := .choiceE (choice_kinds_ok (fun k' hne => rejKind hv k' s _ hr
    (show startKind c ≠ some k' by rw [hk]; exact fun e => hne (Option.some.inj e).symm)) h
    (kindOrder fl) (kind_mem_order fl k))
  cases fl
  · exact big_silent_ok hv.value value_not_trivia hb hat
  · exact big_plain_ok hv.value value_not_trivia hb hat

end kinds

theorem rule_of_brackets {fl : Flavour} {name : String} {kd : RuleKind} {o c : CP} {e : Expr}
    (hl : g.lookup name = some { name := name, mod := 0, body := bracketsBody fl o c e, kind := kd })
    (hn : L1.isTriviaName name = false) {s s' : S0} {ps : List Pair}
    (h : Big g inp (.expr (.seq [(.str [o]), (.str [c])])) s (.ok s' ps) ∧
          Big g inp (.expr (.seq [(.str [o]), e, (.rep (commaOf e)), (.str [c])])) s .fail ∨
        Big g inp (.expr (.seq [(.str [o]), (.str [c])])) s .fail ∧
          Big g inp (.expr (.seq [(.str [o]), e, (.rep (commaOf e)), (.str [c])])) s (.ok s' ps))
    (hat : s'.atomic = s.atomic) {q : Nat} (hq : s'.pos = q) :
    Big g inp (.expr (.ident name none)) s (.ok s' [mkPair name 0 s.pos q ps]) := by
  subst hq
  exact big_plain_ok hl hn (big_alts fl h) hat

section values
variable {fl : Flavour} (hv : ValueRules g inp fl)
include hv

theorem value_fail_close {s : S0} {c : CP} {r : Str} (hr : RestAt inp s.pos (c :: r)) (hc : c = 93 ∨ c = 125) :
    Big g inp (.expr valueE) s .fail :=
  value_fail_none hv hr (show startKind c = none by rcases hc with rfl | rfl <;> decide)

theorem pair_fail_close {s : S0} {c : CP} {r : Str} (hr : RestAt inp s.pos (c :: r)) (hc : c = 93 ∨ c = 125) :
    Big g inp (.expr pairE) s .fail :=
  big_plain_fail hv.core.pair (Or.inl rfl) pair_not_trivia
    (hv.strRej.seq s _ hr (show c ≠ 34 by rcases hc with rfl | rfl <;> decide))

end values

theorem rule_brackets_empty {fl : Flavour} (hws : WsRules g) {name : String} {kd : RuleKind} {o c : CP} {e : Expr}
    (hl : g.lookup name = some { name := name, mod := 0, body := bracketsBody fl o c e, kind := kd })
    (hn : L1.isTriviaName name = false) (hc : c = 93 ∨ c = 125)
    (he : ∀ (s : S0) (r : Str), RestAt inp s.pos (c :: r) → Big g inp (.expr e) s .fail) (w : Ws)
    {s : S0} {r : Str} (hna : s.atomic = false) (h : RestAt inp s.pos (o :: (wsText w ++ [c]) ++ r)) :
    Big g inp (.expr (.ident name none)) s
      (.ok (adv s (o :: (wsText w ++ [c])).length) [mkPair name 0 s.pos (s.pos + w.length + 2) []]) := by
  have h' : RestAt inp s.pos (o :: (wsText w ++ c :: r)) := by simpa [List.append_assoc] using h
  have hl' : (o :: (wsText w ++ [c])).length = 1 + w.length + 1 := by simp; omega
  rw [hl', ← adv_adv, ← adv_adv]
  exact rule_of_brackets hl hn (Or.inl (brackets_empty hws e o c hc he w hna h')) rfl
    (show s.pos + 1 + w.length + 1 = s.pos + w.length + 2 by omega)

theorem rule_brackets_full {fl : Flavour} (hws : WsRules g) {name : String} {kd : RuleKind} {o c : CP} {e : Expr}
    (hl : g.lookup name = some { name := name, mod := 0, body := bracketsBody fl o c e, kind := kd })
    (hn : L1.isTriviaName name = false) (hc : c = 93 ∨ c = 125)
    (he : ∀ (s : S0) (r : Str), RestAt inp s.pos (c :: r) → Big g inp (.expr e) s .fail)
    {items : List Item} {prs : List (Nat → Pair)} (hall : ItemsOk g inp e items prs) (hne : items ≠ [])
    {s : S0} {r : Str} (hna : s.atomic = false) (h : RestAt inp s.pos (o :: (itemsText items ++ [c]) ++ r)) :
    Big g inp (.expr (.ident name none)) s
      (.ok (adv s (o :: (itemsText items ++ [c])).length)
        [mkPair name 0 s.pos (s.pos + (itemsText items).length + 2) (itemsMirror (s.pos + 1) items prs)]) := by
  have h' : RestAt inp s.pos (o :: (itemsText items ++ c :: r)) := by simpa [List.append_assoc] using h
  have hl' : (o :: (itemsText items ++ [c])).length = (itemsText items).length + 2 := by simp
  rw [hl']
  exact rule_of_brackets hl hn (Or.inr (brackets_full hws e o c hc he hall hne hna h')) rfl
    (Nat.add_assoc _ _ _).symm

/-- the end of a bracketed text as `Val.mirror` writes it: a sum nested to the left (see the remark on `adv_adv` in
    Lemmas/Lx.lean), where the run computes `s.pos` plus the length of the text; `KindOk` hands it on as `q` -/
theorem brackets_end (p : Nat) (o c : CP) (X : Str) : p + (o :: (X ++ [c])).length = p + X.length + 2 := by
  rw [List.length_cons, List.length_append]
  exact (Nat.add_assoc p X.length 2).symm

/-- the rule of its alternative matches a value exactly; `value` wraps (or not) the pair it yields -/
def KindOk (g : Grammar) (inp : Input) (fl : Flavour) (v : Val) : Prop :=
  ∀ (s : S0) (r : Str), s.atomic = false → RestAt inp s.pos (v.text ++ r) → HeadIs ValFollow r →
    ∃ p q, Big g inp (.expr (.ident (v.kind.rule fl) none)) s (.ok (adv s v.text.length) [p]) ∧
      s.pos + v.text.length = q ∧ v.mirror fl s.pos = wrapValue fl s.pos q p

theorem KindOk.value {fl : Flavour} (hv : ValueRules g inp fl) {v : Val} (h : KindOk g inp fl v) (s : S0) (r : Str)
    (hna : s.atomic = false) (hr : RestAt inp s.pos (v.text ++ r)) (hf : HeadIs ValFollow r) :
    Big g inp (.expr valueE) s (.ok (adv s v.text.length) [vPair fl v s.pos]) := by
  obtain ⟨c, t, hc, hk⟩ := val_text_kind v
  obtain ⟨p, q, h1, rfl, h2⟩ := h s r hna hr hf
  rw [vPair, h2]
  exact big_value_kind hv (r := t ++ r) (by rw [hc] at hr; exact hr) hk h1 rfl

theorem big_pair {fl : Flavour} (hv : ValueRules g inp fl) {v : Val} (hk : KindOk g inp fl v) (k : SStr) (w2 w3 : Ws)
    {s : S0} (hna : s.atomic = false) {r : Str} (h : RestAt inp s.pos (memberText k w2 w3 v ++ r))
    (hf : HeadIs ValFollow r) :
    Big g inp (.expr (.ident "pair" none)) s
      (.ok (adv s (memberText k w2 w3 v).length) [memberPair fl s.pos k w2 w3 v]) := by
  have h' : RestAt inp s.pos (strText k ++ (wsText w2 ++ 58 :: (wsText w3 ++ (v.text ++ r)))) := by
    simpa [memberText, List.append_assoc] using h
  have hsk1 := evSkip_ws hv.core.ws (s := adv s (strText k).length) hna w2 h'.advance
    (show ¬ IsWs 58 from not_ws_struct (Or.inr (Or.inr (Or.inr rfl))))
  have hr2 := h'.advance.advanceWs
  have hsk2 := evSkip_ws hv.core.ws (s := adv (adv (adv s (strText k).length) w2.length) 1) hna w3 (r := v.text ++ r)
    hr2.tail ((val_text_nonWs v).head r)
  have hb : Big g inp (.expr exPairBody) s _ := .seqE rfl (seqMoreN ((hv.core.str s k _ h').big nofun) hsk1
    (seqMoreN (big_str1_ok (s := adv (adv s (strText k).length) w2.length) hr2) hsk2
      (.seqLast (hk.value hv (adv (adv (adv (adv s (strText k).length) w2.length) 1) w3.length) r hna
        hr2.tail.advanceWs hf))))
  rw [← adv_member]
  exact big_plain_ok (s := s) hv.core.pair pair_not_trivia hb rfl

theorem itemOk_value {fl : Flavour} (hv : ValueRules g inp fl) {v : Val} (hk : KindOk g inp fl v) (w1 w2 : Ws) :
    ItemOk g inp valueE (w1, v.text, w2) (fun p => v.mirror fl p) :=
  ⟨hk.value hv, val_text_nonWs v⟩

theorem itemOk_pair {fl : Flavour} (hv : ValueRules g inp fl) {v : Val} (hk : KindOk g inp fl v) (w1 : Ws) (k : SStr)
    (w2 w3 w4 : Ws) : ItemOk g inp pairE (w1, memberText k w2 w3 v, w4) (fun p => memberPair fl p k w2 w3 v) :=
  ⟨fun _ _ hna hr hf => big_pair hv hk k w2 w3 hna hr hf, memberText_nonWs k w2 w3 v⟩

mutual
theorem kind_ok {fl : Flavour} (hv : ValueRules g inp fl) : ∀ v : Val, KindOk g inp fl v
  | .null => fun s r _ h _ =>
    ⟨_, _, big_plain_ok hv.null (rule_not_trivia fl .null) (big_lit_ok (c := 110) (x := [117, 108, 108]) h) rfl,
      rfl, rfl⟩
  | .tt => fun s r _ h _ =>
    ⟨_, _, big_plain_ok hv.bool (rule_not_trivia fl .boolean)
      (.choiceE (.choiceStop (big_lit_ok (c := 116) (x := [114, 117, 101]) h) nofun)) rfl, rfl, by cases fl <;> rfl⟩
  | .ff => fun s r _ h _ =>
    ⟨_, _, big_plain_ok hv.bool (rule_not_trivia fl .boolean)
      (.choiceE (.choiceNext (rej_str 116 _ s _ h (show (102 : CP) ≠ 116 by decide))
        (.choiceStop (big_lit_ok (c := 102) (x := [97, 108, 115, 101]) h) nofun))) rfl, rfl, by cases fl <;> rfl⟩
  | .num n => fun s r _ h hf => ⟨_, _, (hv.num s n r h (hf.mono fun c h => h.num)).big nofun, rfl, rfl⟩
  | .str cs => fun s r _ h _ => ⟨_, _, (hv.core.str s cs r h).big nofun, rfl, rfl⟩
  | .arr0 w => fun s r hna h _ =>
    ⟨_, _, rule_brackets_empty hv.core.ws hv.array (rule_not_trivia fl .array) (Or.inl rfl)
        (fun _ _ h => value_fail_close hv h (Or.inl rfl)) w hna h,
      (brackets_end s.pos 91 93 (wsText w)).trans (by rw [wsText_length]), rfl⟩
  | .arr es => fun s r hna h _ => by
    have := rule_brackets_full hv.core.ws hv.array (rule_not_trivia fl .array) (Or.inl rfl)
      (fun _ _ h => value_fail_close hv h (Or.inl rfl))
      (elems_items_ok hv es) es.items_ne_nil hna (r := r) (by rw [← Elems.text_items]; exact h)
    rw [← Elems.text_items, ← Elems.mirror_items] at this
    exact ⟨_, _, this, brackets_end s.pos 91 93 es.text, rfl⟩
  | .obj0 w => fun s r hna h _ =>
    ⟨_, _, rule_brackets_empty hv.core.ws hv.object (rule_not_trivia fl .object) (Or.inr rfl)
        (fun _ _ h => pair_fail_close hv h (Or.inr rfl)) w hna h,
      (brackets_end s.pos 123 125 (wsText w)).trans (by rw [wsText_length]), rfl⟩
  | .obj ms => fun s r hna h _ => by
    have := rule_brackets_full hv.core.ws hv.object (rule_not_trivia fl .object) (Or.inr rfl)
      (fun _ _ h => pair_fail_close hv h (Or.inr rfl))
      (members_items_ok hv ms) ms.items_ne_nil hna (r := r) (by rw [← Members.text_items]; exact h)
    rw [← Members.text_items, ← Members.mirror_items] at this
    exact ⟨_, _, this, brackets_end s.pos 123 125 ms.text, rfl⟩
theorem elems_items_ok {fl : Flavour} (hv : ValueRules g inp fl) : ∀ es : Elems, ItemsOk g inp valueE es.items (es.prs fl)
  | .one w1 v w2 => .cons (itemOk_value hv (kind_ok hv v) w1 w2) .nil
  | .cons w1 v w2 rest => .cons (itemOk_value hv (kind_ok hv v) w1 w2) (elems_items_ok hv rest)
theorem members_items_ok {fl : Flavour} (hv : ValueRules g inp fl) :
    ∀ ms : Members, ItemsOk g inp pairE ms.items (ms.prs fl)
  | .one w1 k w2 w3 v w4 => .cons (itemOk_pair hv (kind_ok hv v) w1 k w2 w3 w4) .nil
  | .cons w1 k w2 w3 v w4 rest =>
    .cons (itemOk_pair hv (kind_ok hv v) w1 k w2 w3 w4) (members_items_ok hv rest)
end

/-- every RFC 8259 value, as written, is accepted by `value` and yields its mirror, whichever of the two rule tables -/
theorem value_ok {fl : Flavour} (hv : ValueRules g inp fl) (v : Val) : ValOk g inp fl v :=
  fun s r hna hr hf => ((kind_ok hv v).value hv s r hna hr hf).ev

/-! ### The rule table of examples/json/json.pest -/

def commaValue : Expr := .group (.seq [(.str [44]), (.ident "value" none)]) none
def commaPair : Expr := .group (.seq [(.str [44]), (.ident "pair" none)]) none
def exArrayBody : Expr :=
  .choice [(.seq [(.str [91]), (.str [93])]),
    (.seq [(.str [91]), (.ident "value" none), (.rep commaValue), (.str [93])])]
def exObjectBody : Expr :=
  .choice [(.seq [(.str [123]), (.str [125])]),
    (.seq [(.str [123]), (.ident "pair" none), (.rep commaPair), (.str [125])])]
def exValueBody : Expr :=
  .choice [(.ident "object" none), (.ident "array" none), (.ident "string" none), (.ident "number" none),
    (.ident "boolean" none), (.ident "null" none)]
def exJsonBody : Expr :=
  .seq [(.rule "SOI" 2 true .soiB), (.group (.choice [(.ident "object" none), (.ident "array" none)]) none),
    (.ident "EOI" none)]

structure ExDocRules (g : Grammar) : Prop where
  ws : WsRules g
  strs : ExStringRules g
  number : g.lookup "number" = some { name := "number", mod := 4, body := exNumberBody, kind := .grammar }
  object : g.lookup "object" = some { name := "object", mod := 0, body := exObjectBody, kind := .grammar }
  array : g.lookup "array" = some { name := "array", mod := 0, body := exArrayBody, kind := .grammar }
  pair : g.lookup "pair" = some { name := "pair", mod := 0, body := exPairBody, kind := .grammar }
  value : g.lookup "value" = some { name := "value", mod := 2, body := exValueBody, kind := .grammar }
  boolean : g.lookup "boolean" = some { name := "boolean", mod := 0, body := exBooleanBody, kind := .grammar }
  null : g.lookup "null" = some { name := "null", mod := 0, body := exNullBody, kind := .grammar }
  json : g.lookup "json" = some { name := "json", mod := 2, body := exJsonBody, kind := .grammar }
  eoi : g.lookup "EOI" = some { name := "EOI", mod := 0, body := .eoiB, kind := .builtin }

/-! The bodies as the file writes them are the generic ones at `.examples`, by computation (`commaValue` is
    `commaOf valueE`, `commaPair` is `commaOf pairE`).  A third spelling, the alternatives by name, is `arrEmptyAlt` …
    `objFullAlt` in Lemmas/JsonPrefixDoc.lean, see `bracketsBody_arr` there. -/

theorem exArrayBody_eq : exArrayBody = bracketsBody .examples 91 93 valueE := rfl
theorem exObjectBody_eq : exObjectBody = bracketsBody .examples 123 125 pairE := rfl
theorem exValueBody_eq : exValueBody = valueBody .examples := rfl

theorem exRules (hg : ExDocRules g) : ValueRules g inp .examples := by
  have hrej : Rej g inp (.ident "string" none) (HeadIs fun c => c ≠ 34) := (rej_str 34 []).seq.ident hg.strs.string
  exact {
    core := ⟨hg.ws, hg.pair, fun s cs _ h => ev_exString hg.strs s cs h, fun s _ _ h hc => (hrej s _ h hc).ev⟩
    strRej := hrej
    num := fun s n _ h hf => ev_exNumber hg.number s n h hf
    numRej := rej_exNumber hg.number
    null := hg.null, bool := hg.boolean, value := exValueBody_eq ▸ hg.value, array := exArrayBody_eq ▸ hg.array,
    object := exObjectBody_eq ▸ hg.object }

/-- examples/json/json.pest: every value, as the pair of its alternative (`value` is silent) -/
theorem val_ok (hg : ExDocRules g) : ∀ v : Val, ValOk g inp .examples v :=
  value_ok (exRules hg)

/-! ### The rule table of tests/grammars/json.pest -/

def tArrayBody : Expr :=
  .choice [(.seq [(.str [91]), (.ident "value" none), (.rep commaValue), (.str [93])]),
    (.seq [(.str [91]), (.str [93])])]
def tObjectBody : Expr :=
  .choice [(.seq [(.str [123]), (.ident "pair" none), (.rep commaPair), (.str [125])]),
    (.seq [(.str [123]), (.str [125])])]
def tValueBody : Expr :=
  .choice [(.ident "string" none), (.ident "number" none), (.ident "object" none), (.ident "array" none),
    (.ident "bool" none), (.ident "null" none)]
def tJsonBody : Expr := .seq [(.rule "SOI" 2 true .soiB), (.ident "value" none), (.ident "EOI" none)]

structure TDocRules (g : Grammar) : Prop where
  ws : WsRules g
  strs : TStringRules g
  nums : TNumberRules g
  object : g.lookup "object" = some { name := "object", mod := 0, body := tObjectBody, kind := .grammar }
  array : g.lookup "array" = some { name := "array", mod := 0, body := tArrayBody, kind := .grammar }
  pair : g.lookup "pair" = some { name := "pair", mod := 0, body := exPairBody, kind := .grammar }
  value : g.lookup "value" = some { name := "value", mod := 0, body := tValueBody, kind := .grammar }
  bool : g.lookup "bool" = some { name := "bool", mod := 0, body := exBooleanBody, kind := .grammar }
  null : g.lookup "null" = some { name := "null", mod := 0, body := exNullBody, kind := .grammar }
  json : g.lookup "json" = some { name := "json", mod := 0, body := tJsonBody, kind := .grammar }
  eoi : g.lookup "EOI" = some { name := "EOI", mod := 0, body := .eoiB, kind := .builtin }

theorem tArrayBody_eq : tArrayBody = bracketsBody .tests 91 93 valueE := rfl
theorem tObjectBody_eq : tObjectBody = bracketsBody .tests 123 125 pairE := rfl
theorem tValueBody_eq : tValueBody = valueBody .tests := rfl

theorem tRules (hg : TDocRules g) : ValueRules g inp .tests := by
  have hrej : Rej g inp (.ident "string" none) (HeadIs fun c => c ≠ 34) := (rej_str 34 []).seq.ident hg.strs.string
  exact {
    core := ⟨hg.ws, hg.pair, fun s cs _ h => ev_tString hg.strs s cs h, fun s _ _ h hc => (hrej s _ h hc).ev⟩
    strRej := hrej
    num := fun s n _ h hf => ev_tNumber hg.nums s n h hf
    numRej := rej_tNumber hg.nums
    null := hg.null, bool := hg.bool, value := tValueBody_eq ▸ hg.value, array := tArrayBody_eq ▸ hg.array,
    object := tObjectBody_eq ▸ hg.object }

/-- tests/grammars/json.pest: every value, wrapped in a `value` pair -/
theorem tval_ok (hg : TDocRules g) : ∀ v : Val, ValOk g inp .tests v :=
  value_ok (tRules hg)

/-! ### Whole documents -/

theorem restAt_zero (t : Str) : RestAt t.toArray 0 t := by simp [RestAt]

theorem soi_ok : Big g inp (.expr (.rule "SOI" 2 true .soiB)) ⟨0, [], false⟩ (.ok ⟨0, [], false⟩ []) := by
  have := Big.ruleE (g := g) (inp := inp) (sm := true) (.rule (n := "SOI") (m := 2) (s := ⟨0, [], false⟩)
    (big_soi (s := { (⟨0, [], false⟩ : S0) with atomic := ruleAtomic "SOI" 2 false }) rfl))
  rw [wrapK, ruleWrap_silent rfl] at this
  exact this

theorem big_docBody (hws : WsRules g)
    (heoi : g.lookup "EOI" = some { name := "EOI", mod := 0, body := .eoiB, kind := .builtin }) (d : Doc) {e : Expr}
    {p : Pair} (hinp : inp = (render d).toArray)
    (he : ∀ (s : S0) (r : Str), s.atomic = false → s.pos = d.w1.length → RestAt inp s.pos (d.v.text ++ r) →
      HeadIs ValFollow r → Big g inp (.expr e) s (.ok (adv s d.v.text.length) [p])) :
    Big g inp (.expr (.seq [(.rule "SOI" 2 true .soiB), e, (.ident "EOI" none)])) ⟨0, [], false⟩
      (.ok ⟨(render d).length, [], false⟩ [p, mkPair "EOI" 0 (render d).length (render d).length []]) := by
  subst hinp
  let s0 : S0 := ⟨0, [], false⟩
  have hr0 : RestAt (render d).toArray s0.pos (wsText d.w1 ++ (d.v.text ++ (wsText d.w2 ++ []))) := by
    have := restAt_zero (render d)
    simpa [render, s0, List.append_assoc] using this
  have hsk1 := evSkip_ws hws (s := s0) rfl d.w1 hr0 ((val_text_nonWs d.v).head _)
  have hval := he (adv s0 d.w1.length) _ rfl (Nat.zero_add _) hr0.advanceWs
    (headIs_append (fun _ => (wsText_head d.w2).mono fun _ h => Or.inl h) (fun _ => trivial))
  have hsk2 := evSkip_ws hws (s := adv (adv s0 d.w1.length) d.v.text.length) rfl d.w2 hr0.advanceWs.advance trivial
  have hrl : (render d).length = d.w1.length + d.v.text.length + d.w2.length := by simp [render]; omega
  have e3 : (⟨(render d).length, [], false⟩ : S0) = adv (adv (adv s0 d.w1.length) d.v.text.length) d.w2.length := by
    simp [s0, adv, hrl]
  have heoi' := big_plain_ok (s := adv (adv (adv s0 d.w1.length) d.v.text.length) d.w2.length) heoi (by decide)
    (big_eoi (g := g) (inp := (render d).toArray) (by simp [s0, hrl])) rfl
  rw [← e3] at heoi'
  exact .seqE rfl (seqMoreN soi_ok hsk1 (seqMoreN hval (e3 ▸ hsk2) (.seqLast heoi')))

theorem parse_of_big {name : String} {r : R0} (h : Big g inp (.expr (.ident name none)) ⟨0, [], false⟩ r) :
    ∃ N, ∀ n, N ≤ n → L0.parse g inp n name 0 = r := by
  obtain ⟨N, h⟩ := h.ev
  refine ⟨N, fun n hn => ?_⟩
  rw [← h (n + 1) (Nat.le_succ_of_le hn)]
  unfold L0.parse
  dsimp only [L0.run, L0.step, callRule]

/-- the body of `json = _{ SOI ~ (object | array) ~ EOI }` on a whole document -/
theorem big_jsonBody (hg : ExDocRules g) (d : Doc) (hc : d.topLevelIsContainer) (hinp : inp = (render d).toArray) :
    Big g inp (.expr exJsonBody) ⟨0, [], false⟩ (.ok ⟨(render d).length, [], false⟩ (mirror .examples d)) := by
  refine big_docBody hg.ws hg.eoi d hinp fun s r hna hp hr hf => ?_
  obtain ⟨p, q, h1, rfl, h2⟩ := kind_ok (exRules hg) d.v s r hna hr hf
  obtain ⟨c, t, hcv, hk⟩ := val_text_kind d.v
  rw [hcv] at hr
  have h2' : d.v.mirror .examples d.w1.length = p := by rw [← hp]; exact h2
  rw [h2']
  have hcases : d.v.kind = .object ∨ d.v.kind = .array := by
    revert hc; unfold Doc.topLevelIsContainer; cases d.v <;> simp [Val.isContainer, Val.kind]
  rcases hcases with e | e <;> rw [e] at h1 hk
  · exact .group (.choiceE (.choiceStop h1 nofun))
  · exact .group (.choiceE (.choiceNext
      (rejKind (exRules hg) .object s _ hr (show startKind c ≠ some .object by rw [hk]; decide)) (.choiceStop h1 nofun)))

/-- **the specification run of `json` of examples/json/json.pest on a whole document** -/
theorem parse_json_doc (hg : ExDocRules g) (d : Doc) (hc : d.topLevelIsContainer) :
    ∃ N, ∀ n, N ≤ n →
      L0.parse g (render d).toArray n "json" 0 = .ok ⟨(render d).length, [], false⟩ (mirror .examples d) :=
  parse_of_big (big_silent_ok hg.json json_not_trivia (big_jsonBody hg d hc rfl) rfl)

/-- the body of `json = { SOI ~ value ~ EOI }` on a whole document (any top-level value: this
    grammar does not restrict the top level to containers) -/
theorem big_tJsonBody (hg : TDocRules g) (d : Doc) (hinp : inp = (render d).toArray) :
    Big g inp (.expr tJsonBody) ⟨0, [], false⟩
      (.ok ⟨(render d).length, [], false⟩
        [d.v.mirror .tests d.w1.length, mkPair "EOI" 0 (render d).length (render d).length []]) :=
  big_docBody hg.ws hg.eoi d hinp fun s r hna hp hr hf => hp ▸ (kind_ok (tRules hg) d.v).value (tRules hg) s r hna hr hf

/-- **the specification run of `json` of tests/grammars/json.pest on a whole document** -/
theorem parse_tjson_doc (hg : TDocRules g) (d : Doc) :
    ∃ N, ∀ n, N ≤ n →
      L0.parse g (render d).toArray n "json" 0 = .ok ⟨(render d).length, [], false⟩ (mirror .tests d) :=
  parse_of_big (big_plain_ok hg.json json_not_trivia (big_tJsonBody hg d rfl) rfl)

/-! ### Stated and not used

    `telems_ok`, `tmembers_ok` state in `Ev` form, for the structured lists of the model, what `full_alt_ok` and
    `rep_items_ok` say over lists of items; `kind_ok` goes through `brackets_full` over the items instead. -/

/-- the text of the elements without the whitespace after the last one -/
def Elems.coreText : Elems → Str
  | .one w1 v _ => wsText w1 ++ v.text
  | .cons w1 v w2 rest => wsText w1 ++ v.text ++ wsText w2 ++ 44 :: rest.coreText

def RepOkE (g : Grammar) (inp : Input) (fl : Flavour) (es : Elems) : Prop :=
  ∀ (first : Bool) (s : S0) (wprev : Ws) (acc : List Pair) (r : Str),
    s.atomic = false → (first = true → wprev = []) →
    RestAt inp s.pos (wsText wprev ++ 44 :: (es.text ++ 93 :: r)) →
    EvRep g inp commaValue first s acc
      (.ok (adv s (wprev.length + 1 + es.coreText.length))
        (acc ++ es.mirror fl (s.pos + wprev.length + 1)))

def ElemsOk (g : Grammar) (inp : Input) (fl : Flavour) (es : Elems) : Prop :=
  ∀ (s : S0) (r : Str), s.atomic = false → RestAt inp s.pos (91 :: (es.text ++ 93 :: r)) →
    Ev g inp (.seq [(.str [91]), (.ident "value" none), (.rep commaValue), (.str [93])]) s
      (.ok (adv s (es.text.length + 2)) (es.mirror fl (s.pos + 1)))

def Members.coreText : Members → Str
  | .one w1 k w2 w3 v _ => wsText w1 ++ memberText k w2 w3 v
  | .cons w1 k w2 w3 v w4 rest => wsText w1 ++ memberText k w2 w3 v ++ wsText w4 ++ 44 :: rest.coreText

def RepOkM (g : Grammar) (inp : Input) (fl : Flavour) (ms : Members) : Prop :=
  ∀ (first : Bool) (s : S0) (wprev : Ws) (acc : List Pair) (r : Str),
    s.atomic = false → (first = true → wprev = []) →
    RestAt inp s.pos (wsText wprev ++ 44 :: (ms.text ++ 125 :: r)) →
    EvRep g inp commaPair first s acc
      (.ok (adv s (wprev.length + 1 + ms.coreText.length))
        (acc ++ ms.mirror fl (s.pos + wprev.length + 1)))

def MembersOk (g : Grammar) (inp : Input) (fl : Flavour) (ms : Members) : Prop :=
  ∀ (s : S0) (r : Str), s.atomic = false → RestAt inp s.pos (123 :: (ms.text ++ 125 :: r)) →
    Ev g inp (.seq [(.str [123]), (.ident "pair" none), (.rep commaPair), (.str [125])]) s
      (.ok (adv s (ms.text.length + 2)) (ms.mirror fl (s.pos + 1)))

theorem Elems.loopLen_items (wprev : Ws) : ∀ es : Elems, loopLen wprev es.items = wprev.length + 1 + es.coreText.length
  | .one w1 v w2 => by
    simp only [Elems.items, loopLen, Elems.coreText, List.length_append, wsText_length]; omega
  | .cons w1 v w2 rest => by
    simp only [Elems.items, loopLen, Elems.coreText, Elems.loopLen_items w2 rest, List.length_append,
      List.length_cons, wsText_length]
    omega

theorem Members.loopLen_items (wprev : Ws) :
    ∀ ms : Members, loopLen wprev ms.items = wprev.length + 1 + ms.coreText.length
  | .one w1 k w2 w3 v w4 => by
    simp only [Members.items, loopLen, Members.coreText, List.length_append, wsText_length]; omega
  | .cons w1 k w2 w3 v w4 rest => by
    simp only [Members.items, loopLen, Members.coreText, Members.loopLen_items w4 rest, List.length_append,
      List.length_cons, wsText_length]
    omega

theorem elemsOk_of {fl : Flavour} (hg : WsRules g) (es : Elems) (hall : ItemsOk g inp valueE es.items (es.prs fl)) :
    ElemsOk g inp fl es ∧ RepOkE g inp fl es := by
  refine ⟨fun s r hna h => ?_, fun first s wprev acc r hna hfirst h => ?_⟩
  · rw [Elems.text_items, Elems.mirror_items]
    exact (full_alt_ok hg valueE 91 93 (Or.inl rfl) hall es.items_ne_nil hna (by rw [← Elems.text_items]; exact h)).ev
  · rw [← Elems.loopLen_items, Elems.mirror_items, ← loopEnd_eq]
    exact (rep_items_ok hg valueE 93 (Or.inl rfl) _ _ hall first s wprev acc r hna hfirst
      (by rw [tailText_of_ne_nil _ es.items_ne_nil, ← Elems.text_items]; simpa [List.append_assoc] using h)).1.sound

theorem membersOk_of {fl : Flavour} (hg : WsRules g) (ms : Members)
    (hall : ItemsOk g inp pairE ms.items (ms.prs fl)) : MembersOk g inp fl ms ∧ RepOkM g inp fl ms := by
  refine ⟨fun s r hna h => ?_, fun first s wprev acc r hna hfirst h => ?_⟩
  · rw [Members.text_items, Members.mirror_items]
    exact (full_alt_ok hg pairE 123 125 (Or.inr rfl) hall ms.items_ne_nil hna (by rw [← Members.text_items]; exact h)).ev
  · rw [← Members.loopLen_items, Members.mirror_items, ← loopEnd_eq]
    exact (rep_items_ok hg pairE 125 (Or.inr rfl) _ _ hall first s wprev acc r hna hfirst
      (by rw [tailText_of_ne_nil _ ms.items_ne_nil, ← Members.text_items]; simpa [List.append_assoc] using h)).1.sound

theorem telems_ok (hg : TDocRules g) : ∀ es : Elems, ElemsOk g inp .tests es ∧ RepOkE g inp .tests es :=
  fun es => elemsOk_of hg.ws es (elems_items_ok (tRules hg) es)

theorem tmembers_ok (hg : TDocRules g) : ∀ ms : Members, MembersOk g inp .tests ms ∧ RepOkM g inp .tests ms :=
  fun ms => membersOk_of hg.ws ms (members_items_ok (tRules hg) ms)

theorem same_state (s : S0) : ({ s with atomic := s.atomic } : S0) = s := by cases s; rfl

theorem not_digit_of_eq {c d : CP} (h : c = d) (hd : ¬ IsDigit d) : ¬ IsDigit c := h ▸ hd

end Json
end Pest
