/-
  Lemmas/LineCol.lean — the line/column utilities of `LineCol.lean` meet their specification.

  For a text whose only line boundary is `\n`:
    * `splitRaw` coincides with the plain `\n` splitter `lfRaw` (`splitRaw_onlyLF`), whose
      lines are well formed (`RawOK`/`LinesOK`: every line but the last ends with its only
      `\n`, an unterminated last line is non-empty) and concatenate to the text;
    * the positions are located on the line list `error_context` works on (`ecLines`: `""`
      appended when the text is empty or ends on a break; well-formedness `Lines`), where every
      `p ≤ len(text)` lies on a line, the end of the text included: `findLine_spec`
      characterises the shared Python loop over such a list by induction on it, `findLine_top`
      specialises this to the whole text.
  `errorContext_onlyLF` is read off `findLine_top`.  On every text, whatever its line breaks,
  `Position.line_col` is `error_context` without the line (`pyLineCol_eq_errorContext`: the same
  loop, and the appended `""` is where `line_col` goes when its loop finds nothing); this gives
  `pyLineCol_onlyLF`.  `Props/C14.lean` and `Props/C13Text.lean` read their statements off these
  three; `Lemmas/FrontTotal.lean` (C11) uses the loop's exit (`findLine_exit`) for the error
  messages of the front end.
-/
import PestModel.LineCol

namespace Pest
namespace LineCol

/-! ### the column as a suffix length; well-formed lines -/

/-- length of the longest `\n`-free suffix -/
def sufLen (x : Text) : Nat := (x.reverse.takeWhile (· != 10)).length

theorem colOff_eq (t : Text) (p : Nat) : colOff t p = sufLen (t.take p) := rfl
theorem lineIdx_eq (t : Text) (p : Nat) : lineIdx t p = (t.take p).count 10 := rfl

@[simp] theorem sufLen_nil : sufLen [] = 0 := rfl

theorem sufLen_le (x : Text) : sufLen x ≤ x.length := by
  rw [sufLen, ← List.length_reverse (as := x)]
  exact (List.takeWhile_sublist _).length_le

theorem takeWhile_append_cons_of_neg {α} {p : α → Bool} {a : α} (h : p a = false) :
    ∀ (A B : List α), (A ++ a :: B).takeWhile p = A.takeWhile p
  | [], B => List.takeWhile_cons_of_neg (by rw [h]; exact Bool.false_ne_true)
  | x :: A, B => by
    rw [List.cons_append, List.takeWhile_cons, List.takeWhile_cons,
      takeWhile_append_cons_of_neg h A B]

theorem sufLen_append_cons_lf (x y : Text) : sufLen (x ++ 10 :: y) = sufLen y := by
  rw [sufLen, List.reverse_append, List.reverse_cons, List.append_assoc]
  exact congrArg List.length (takeWhile_append_cons_of_neg rfl _ _)

theorem sufLen_append_lf (x : Text) : sufLen (x ++ [10]) = 0 := sufLen_append_cons_lf x []

theorem sufLen_append_of_not_mem {x y : Text} (h : 10 ∉ y) : sufLen (x ++ y) = sufLen x + y.length := by
  have hy : ∀ a ∈ y.reverse, (a != 10) = true := fun a ha =>
    bne_iff_ne.2 fun e => h (e ▸ List.mem_reverse.1 ha)
  rw [sufLen, List.reverse_append, List.takeWhile_append_of_pos hy, List.length_append,
    List.length_reverse, Nat.add_comm]
  rfl

theorem sufLen_of_not_mem {y : Text} (h : 10 ∉ y) : sufLen y = y.length :=
  (sufLen_append_of_not_mem (x := []) h).trans (Nat.zero_add _)

theorem not_mem_take {α} {a : α} {x : List α} (h : a ∉ x) (k : Nat) : a ∉ x.take k :=
  fun hm => h (List.mem_of_mem_take hm)

theorem takeLine_append_of_not_mem : ∀ {b : Text} (y : Text), 10 ∉ b → takeLine (b ++ y) = b ++ takeLine y
  | [], _, _ => rfl
  | c :: b, y, h => by
    have hc : c ≠ 10 := fun e => h (e ▸ List.mem_cons_self)
    rw [List.cons_append, takeLine, if_neg hc,
      takeLine_append_of_not_mem y fun hm => h (List.mem_cons_of_mem _ hm)]
    rfl

theorem takeLine_of_not_mem {x : Text} (h : 10 ∉ x) : takeLine x = x := by
  simpa only [List.append_nil, takeLine] using takeLine_append_of_not_mem [] h

def Term (l : Text) : Prop := ∃ b, l = b ++ [10] ∧ 10 ∉ b
def Unterm (l : Text) : Prop := l ≠ [] ∧ 10 ∉ l

inductive LinesOK : List Text → Prop
  | nil : LinesOK []
  | last {l : Text} : Unterm l → LinesOK [l]
  | cons {l : Text} {ls : List Text} : Term l → LinesOK ls → LinesOK (l :: ls)

theorem Term.length_pos {l : Text} (h : Term l) : 0 < l.length := by
  obtain ⟨b, rfl, _⟩ := h; simp

theorem Term.count {l : Text} (h : Term l) : l.count 10 = 1 := by
  obtain ⟨b, rfl, hb⟩ := h
  rw [List.count_append, List.count_eq_zero_of_not_mem hb]
  rfl

theorem Term.take_not_mem {l : Text} (h : Term l) {k : Nat} (hk : k < l.length) : 10 ∉ l.take k := by
  obtain ⟨b, rfl, hb⟩ := h
  rw [List.length_append] at hk
  rw [List.take_append_of_le_length (Nat.le_of_lt_succ hk)]
  exact not_mem_take hb k

theorem Term.sufLen_append {l : Text} (h : Term l) (y : Text) : sufLen (l ++ y) = sufLen y := by
  obtain ⟨b, rfl, _⟩ := h
  rw [List.append_assoc]
  exact sufLen_append_cons_lf b y

theorem Term.takeLine_append {l : Text} (h : Term l) (y : Text) : takeLine (l ++ y) = l := by
  obtain ⟨b, rfl, hb⟩ := h
  rw [List.append_assoc, takeLine_append_of_not_mem _ hb]
  rfl

theorem Term.mem {l : Text} (h : Term l) : 10 ∈ l := by
  obtain ⟨b, rfl, _⟩ := h
  exact List.mem_append_right _ (List.mem_singleton_self _)

/-! ### the shared loop `findLine`, on any list of lines -/

theorem findLine_hit {pos : Int} {l : Text} {ls : List Text} {i cum : Nat}
    (h : pos < ((cum + l.length : Nat) : Int)) :
    findLine pos (l :: ls) i cum = (some i, cum + l.length) := by
  rw [findLine, if_pos h]

theorem findLine_miss {pos : Int} {l : Text} {ls : List Text} {i cum : Nat}
    (h : ¬ pos < ((cum + l.length : Nat) : Int)) :
    findLine pos (l :: ls) i cum = findLine pos ls (i + 1) (cum + l.length) := by
  rw [findLine, if_neg h]

/-- the two exits of the shared loop: `break`, or the end of the list -/
theorem findLine_exit (pos : Int) : ∀ (ls : List Text) (i cum : Nat), (cum : Int) ≤ pos →
    (∃ j l, ∃ c₀ : Nat, ls[j]? = some l ∧ findLine pos ls i cum = (some (i + j), c₀ + l.length) ∧
      (c₀ : Int) ≤ pos ∧ pos < ((c₀ + l.length : Nat) : Int)) ∨
    (findLine pos ls i cum = (none, cum + ls.flatten.length) ∧
      ((cum + ls.flatten.length : Nat) : Int) ≤ pos)
  | [], i, cum, hc => .inr ⟨rfl, hc⟩
  | l :: ls, i, cum, hc => by
    by_cases hlt : pos < ((cum + l.length : Nat) : Int)
    · exact .inl ⟨0, l, cum, rfl, findLine_hit hlt, hc, hlt⟩
    · rw [findLine_miss hlt, List.flatten_cons, List.length_append, ← Nat.add_assoc]
      rcases findLine_exit pos ls (i + 1) (cum + l.length) (by omega) with
        ⟨j, l', c₀, hl, hf, h⟩ | h
      · exact .inl ⟨j + 1, l', c₀, hl, by rw [hf, Nat.add_right_comm, Nat.add_assoc], h⟩
      · exact .inr h

theorem findLine_lt {pos : Int} {ls : List Text} {i cum j c : Nat}
    (h : findLine pos ls i cum = (some j, c)) : i ≤ j ∧ j < i + ls.length := by
  induction ls generalizing i cum with
  | nil => cases h
  | cons l ls ih =>
    by_cases hh : pos < ((cum + l.length : Nat) : Int)
    · rw [findLine_hit hh] at h
      cases h
      exact ⟨Nat.le_refl _, Nat.lt_add_of_pos_right (Nat.succ_pos _)⟩
    · rw [findLine_miss hh] at h
      have := ih h
      rw [Nat.add_assoc, Nat.add_comm 1] at this
      exact ⟨Nat.le_of_succ_le this.1, this.2⟩

/-- `target_line_index` after the loop, with its default `len(lines) - 1`, is a valid index -/
theorem findLine_target_lt {pos : Int} {ls : List Text} {found : Option Nat} {cum : Nat}
    (hpos : 0 < ls.length) (hf : findLine pos ls 0 0 = (found, cum)) :
    found.getD (ls.length - 1) < ls.length := by
  cases found with
  | some i => exact Nat.zero_add ls.length ▸ (findLine_lt hf).2
  | none => exact Nat.sub_lt hpos Nat.one_pos

theorem findLine_append (pos : Int) : ∀ (ls ms : List Text) (i cum : Nat),
    findLine pos (ls ++ ms) i cum =
      match findLine pos ls i cum with
      | (some j, c) => (some j, c)
      | (none, c) => findLine pos ms (i + ls.length) c
  | [], ms, i, cum => rfl
  | l :: ls, ms, i, cum => by
    by_cases hh : pos < ((cum + l.length : Nat) : Int)
    · rw [List.cons_append, findLine_hit hh, findLine_hit hh]
    · rw [List.cons_append, findLine_miss hh, findLine_miss hh,
        findLine_append pos ls ms (i + 1) (cum + l.length), List.length_cons, Nat.add_assoc,
        Nat.add_comm 1]

/-! ### the loop on a well-formed line list that holds the end of the text -/

/-- the lines `error_context` works on: every line but the last ends with its only `\n`, the last
    has none and may be empty.  Every position `≤ len(text)` lies on one of them, so the loop's
    default `target_line_index = len(lines) - 1` is right when it runs off the end. -/
inductive Lines : List Text → Prop
  | last {l : Text} : 10 ∉ l → Lines [l]
  | cons {l : Text} {ls : List Text} : Term l → Lines ls → Lines (l :: ls)

theorem Lines.length_pos {ls : List Text} (h : Lines ls) : 0 < ls.length := by
  cases h <;> exact Nat.succ_pos _

theorem first_line {l : Text} (rest : Text) {k : Nat} (hk : k ≤ l.length) (hn : 10 ∉ l.take k)
    (htl : takeLine (l ++ rest) = l) :
    ((l ++ rest).take k).count 10 = 0 ∧ sufLen ((l ++ rest).take k) = k ∧
      l = takeLine ((l ++ rest).drop (k - sufLen ((l ++ rest).take k))) := by
  have hsuf : sufLen (l.take k) = k := by
    rw [sufLen_of_not_mem hn, List.length_take, Nat.min_eq_left hk]
  rw [List.take_append_of_le_length hk, hsuf, Nat.sub_self, List.drop_zero, htl]
  exact ⟨List.count_eq_zero_of_not_mem hn, rfl, rfl⟩

/-- **The loop on a text cut into lines**, for a position `k` characters into it: with
    `target_line_index` defaulting to the last line, the loop ends on the line of the position
    whichever way it exits — its index is the number of `\n` before the position, the position's
    distance from the start of that line is the length of the `\n`-free suffix before it, and
    the line is the one cut out by `takeLine`. -/
theorem findLine_spec {ls : List Text} (h : Lines ls) : ∀ (i cum k : Nat), k ≤ ls.flatten.length →
    ∃ found c l, findLine ((cum + k : Nat) : Int) ls i cum = (found, c) ∧
      found.getD (i + (ls.length - 1)) = i + (ls.flatten.take k).count 10 ∧
      ls[(ls.flatten.take k).count 10]? = some l ∧
      cum + k + l.length = c + sufLen (ls.flatten.take k) ∧
      l = takeLine (ls.flatten.drop (k - sufLen (ls.flatten.take k))) := by
  have hit : ∀ {l : Text} {ls : List Text} {i cum k : Nat}, k < l.length →
      findLine ((cum + k : Nat) : Int) (l :: ls) i cum = (some i, cum + l.length) :=
    fun hlt => findLine_hit (Int.ofNat_lt.2 (Nat.add_lt_add_left hlt _))
  induction h with
  | @last l hl =>
    intro i cum k hk
    rw [List.flatten_cons, List.flatten_nil] at hk ⊢
    obtain ⟨e1, e2, e3⟩ := first_line [] (by simpa using hk) (not_mem_take hl k)
      (by rw [List.append_nil, takeLine_of_not_mem hl])
    rw [List.append_nil] at hk
    rcases Nat.lt_or_eq_of_le hk with hlt | rfl
    · exact ⟨_, _, l, hit hlt, by rw [e1]; rfl, by rw [e1]; rfl, by rw [e2, Nat.add_right_comm], e3⟩
    · exact ⟨none, cum + l.length, l, by rw [findLine_miss (Int.lt_irrefl _), findLine],
        by rw [e1]; rfl, by rw [e1]; rfl, by rw [e2], e3⟩
  | @cons l ls hl hls ih =>
    intro i cum k hk
    rw [List.flatten_cons]
    rcases Nat.lt_or_ge k l.length with hlt | hge
    · obtain ⟨e1, e2, e3⟩ := first_line ls.flatten (Nat.le_of_lt hlt) (hl.take_not_mem hlt)
        (hl.takeLine_append _)
      exact ⟨_, _, l, hit hlt, by rw [e1]; rfl, by rw [e1]; rfl, by rw [e2, Nat.add_right_comm], e3⟩
    · obtain ⟨k', rfl⟩ := Nat.exists_eq_add_of_le hge
      rw [List.flatten_cons, List.length_append] at hk
      have hmiss : ¬ ((cum + (l.length + k') : Nat) : Int) < ((cum + l.length : Nat) : Int) :=
        fun hh => Nat.not_lt.2 (Nat.add_le_add_left (Nat.le_add_right _ k') cum) (Int.ofNat_lt.1 hh)
      obtain ⟨found, c, l', hf, hg, hget, hc, hl'⟩ :=
        ih (i + 1) (cum + l.length) k' (Nat.le_of_add_le_add_left hk)
      have hs : sufLen (ls.flatten.take k') ≤ k' :=
        Nat.le_trans (sufLen_le _) (List.length_take_le _ _)
      -- every component of the goal is moved past the first line `l`, which ends in its only `\n`: the text before
      -- the position is `l` and what lies before it in the rest, with one `\n` more and the same `\n`-free suffix;
      rw [List.take_length_add_append, List.count_append, hl.count, hl.sufLen_append,
        -- the loop passes `l`, and goes on as in the induction hypothesis;
        findLine_miss hmiss, ← Nat.add_assoc, hf,
        -- the line of the position starts behind `l`, and its index in `l :: ls` is one more than in `ls`
        Nat.add_sub_assoc hs, List.drop_length_add_append, Nat.add_comm 1, List.getElem?_cons_succ]
      refine ⟨found, c, l', rfl, ?_, hget, hc, hl'⟩
      -- the default, the last line, is the same line in both lists (`ls` is not empty)
      have hlast : i + ((l :: ls).length - 1) = i + 1 + (ls.length - 1) := by
        rw [List.length_cons, Nat.add_sub_cancel, Nat.add_assoc, Nat.add_comm 1,
          Nat.sub_add_cancel hls.length_pos]
      rw [hlast, ← Nat.add_assoc, Nat.add_right_comm i _ 1]
      exact hg

/-! ### the `\n` splitter: on an `OnlyLF` text `splitRaw` is `lfRaw`, `splitlines` is `specLines` -/

/-- the plain `\n` splitter, as `(body, terminator)` pairs -/
def lfRaw : Text → List (Text × Text)
  | [] => []
  | c :: rest =>
    if c = 10 then ([], [10]) :: lfRaw rest
    else match lfRaw rest with
      | [] => [([c], [])]
      | (b, e) :: more => (c :: b, e) :: more

theorem OnlyLF.tail {c : Nat} {rest : Text} (h : OnlyLF (c :: rest)) : OnlyLF rest :=
  fun a ha => h a (List.mem_cons_of_mem _ ha)

theorem splitRaw_onlyLF : ∀ {t : Text}, OnlyLF t → splitRaw t false = lfRaw t
  | [], _ => rfl
  | c :: rest, h => by
    have ih := splitRaw_onlyLF h.tail
    by_cases hb : isBreak c = true
    · have hc : c = 10 := h c (by simp) hb
      subst hc
      simp [splitRaw, lfRaw, isBreak, ih]
    · have hc : c ≠ 10 := by
        intro e; subst e; exact hb (by decide)
      simp only [splitRaw, lfRaw, hb, hc, ih, if_false, Bool.false_eq_true]
      cases lfRaw rest with
      | nil => rfl
      | cons x more => rfl

inductive RawOK : List (Text × Text) → Prop
  | nil : RawOK []
  | last {b : Text} : b ≠ [] → 10 ∉ b → RawOK [(b, [])]
  | cons {b : Text} {raw : List (Text × Text)} : 10 ∉ b → RawOK raw → RawOK ((b, [10]) :: raw)

theorem lfRaw_ok : ∀ (t : Text), RawOK (lfRaw t)
  | [] => .nil
  | c :: rest => by
    have ih := lfRaw_ok rest
    by_cases hc : c = 10
    · simp only [lfRaw, hc, if_true]
      exact .cons List.not_mem_nil ih
    · have h10 : 10 ∉ [c] := fun hm => hc (List.mem_singleton.1 hm).symm
      simp only [lfRaw, hc, if_false]
      generalize lfRaw rest = raw at ih
      cases ih with
      | nil => exact .last (List.cons_ne_nil _ _) h10
      | last hb hn => exact .last (List.cons_ne_nil _ _) (List.not_mem_append h10 hn)
      | cons hn hr => exact .cons (List.not_mem_append h10 hn) hr

def keep (be : Text × Text) : Text := be.1 ++ be.2

theorem splitlines_true (t : Text) : splitlines true t = (splitRaw t false).map keep := by
  simp [splitlines, keep]

theorem splitlines_false (t : Text) : splitlines false t = (splitRaw t false).map (·.1) := by
  simp [splitlines]

theorem splitRaw_flatten : ∀ (t : Text) (b : Bool),
    ((splitRaw t b).map keep).flatten = if b = true then t.tail else t
  | [], b => by cases b <;> rfl
  | c :: rest, true => splitRaw_flatten rest false
  | c :: rest, false => by
    have ih := splitRaw_flatten rest false
    have iht := splitRaw_flatten rest true
    simp only [Bool.false_eq_true, if_false, if_true] at ih iht ⊢
    unfold splitRaw
    by_cases hb : isBreak c = true
    · rw [if_pos hb]
      by_cases hcr : c = 13 ∧ rest.head? = some 10
      · rw [if_pos hcr]
        obtain ⟨rfl, h10⟩ := hcr
        cases rest with
        | nil => cases h10
        | cons x xs =>
          simp only [List.head?_cons, Option.some.injEq] at h10
          subst h10
          simp only [List.map_cons, List.flatten_cons, iht, keep, List.tail_cons]
          rfl
      · rw [if_neg hcr]
        simp only [List.map_cons, List.flatten_cons, ih, keep]
        rfl
    · rw [if_neg hb]
      cases hs : splitRaw rest false with
      | nil =>
        rw [hs] at ih
        simp only [List.map_nil, List.flatten_nil] at ih
        subst ih
        rfl
      | cons x more =>
        obtain ⟨b, e⟩ := x
        rw [hs] at ih
        simp only [List.map_cons, List.flatten_cons, keep] at ih ⊢
        rw [← ih]
        simp

theorem splitlines_flatten (t : Text) : (splitlines true t).flatten = t := by
  rw [splitlines_true]
  have := splitRaw_flatten t false
  simpa using this

theorem lfRaw_keep : ∀ (t : Text), (lfRaw t).map keep = specLines t
  | [] => rfl
  | c :: rest => by
    have ih := lfRaw_keep rest
    by_cases hc : c = 10
    · simp [lfRaw, specLines, hc, ih, keep]
    · simp only [lfRaw, specLines, hc, if_false, ← ih]
      cases lfRaw rest with
      | nil => simp [keep]
      | cons x more => obtain ⟨b, e⟩ := x; simp [keep]

theorem splitlines_onlyLF {t : Text} (h : OnlyLF t) : splitlines true t = specLines t := by
  rw [splitlines_true, splitRaw_onlyLF h, lfRaw_keep]

theorem RawOK.linesOK {raw : List (Text × Text)} (h : RawOK raw) : LinesOK (raw.map keep) := by
  induction h with
  | nil => exact .nil
  | last hb hn => exact .last ⟨by simpa [keep] using hb, by simpa [keep] using hn⟩
  | cons hn _ ih => exact .cons ⟨_, rfl, hn⟩ ih

theorem specLines_ok (t : Text) : LinesOK (specLines t) := by
  rw [← lfRaw_keep]; exact (lfRaw_ok t).linesOK

theorem specLines_flatten : ∀ (t : Text), (specLines t).flatten = t
  | [] => rfl
  | c :: rest => by
    have ih := specLines_flatten rest
    by_cases hc : c = 10
    · simp [specLines, hc, ih]
    · simp only [specLines, hc, if_false]
      cases hs : specLines rest with
      | nil => rw [hs] at ih; simp at ih; simp [← ih]
      | cons l more => rw [hs] at ih; simp at ih; simp [← ih]

/-! ### the line list of `error_context`, and the loop on a whole `OnlyLF` text -/

/-- `lines` after `if not lines or lines[-1] != text.splitlines()[-1]: lines.append("")` -/
def ecLines (t : Text) (b : Bool) : List Text :=
  if b = true then splitlines true t ++ [[]] else splitlines true t

theorem ecLines_flatten (t : Text) (b : Bool) : (ecLines t b).flatten = t := by
  unfold ecLines
  cases b <;> simp [splitlines_flatten]

theorem ecLines_eq (t : Text) (b : Bool) :
    ecLines t b = splitlines true t ++ if b = true then [[]] else [] := by
  cases b <;> simp [ecLines]

/-- `lines` of `error_context` from the `(body, terminator)` pairs.  The `if` is the body of
    `endsOnNewLine t lines` (`not lines or lines[-1] != text.splitlines()[-1]`) at
    `lines = raw.map keep`, `text.splitlines() = raw.map (·.1)` (`splitlines_true`,
    `splitlines_false`); it is written out so that the induction can be on `RawOK`. -/
theorem RawOK.lines {raw : List (Text × Text)} (h : RawOK raw) :
    ∃ b, (if (raw.map keep).isEmpty then some true else do
            let a ← (raw.map keep).getLast?
            let b ← (raw.map (·.1)).getLast?
            pure (a != b)) = some b ∧
      Lines (raw.map keep ++ if b = true then [[]] else []) := by
  induction h with
  | nil => exact ⟨true, rfl, .last List.not_mem_nil⟩
  | @last b hb hn => exact ⟨false, by simp [keep], by simpa [keep] using Lines.last hn⟩
  | @cons b raw hn hr ih =>
    obtain ⟨b', hb', hl⟩ := ih
    have ht : Term (keep (b, [10])) := ⟨b, rfl, hn⟩
    cases raw with
    | nil =>
      refine ⟨true, ?_, .cons ht (.last List.not_mem_nil)⟩
      have : b ++ [10] ≠ b := fun e => by simpa using congrArg List.length e
      simp [keep, this]
    | cons x xs => exact ⟨b', by simpa using hb', .cons ht hl⟩

theorem endsOnNewLine_onlyLF {t : Text} (h : OnlyLF t) :
    ∃ b, endsOnNewLine t (splitlines true t) = some b ∧ Lines (ecLines t b) ∧
      ecLines t b = specLines t ++ if b = true then [[]] else [] := by
  obtain ⟨b, hb, hl⟩ := RawOK.lines (lfRaw_ok t)
  refine ⟨b, ?_, ?_, ?_⟩
  · rw [endsOnNewLine, splitlines_true, splitlines_false, splitRaw_onlyLF h]; exact hb
  · rw [ecLines_eq, splitlines_onlyLF h, ← lfRaw_keep]; exact hl
  · rw [ecLines_eq, splitlines_onlyLF h]

/-- **The loop on a whole `OnlyLF` text**: `lines`, the loop's result and
    `lines[target_line_index]` in `error_context`, for every `p ≤ len(text)`. -/
theorem findLine_top {t : Text} (h : OnlyLF t) {p : Nat} (hp : p ≤ t.length) :
    ∃ b found cum, endsOnNewLine t (splitlines true t) = some b ∧
      findLine (p : Int) (ecLines t b) 0 0 = (found, cum) ∧
      found.getD ((ecLines t b).length - 1) = lineIdx t p ∧
      (ecLines t b)[lineIdx t p]? = some (specLineOf t p) ∧
      p + (specLineOf t p).length = cum + colOff t p ∧
      ecLines t b = specLines t ++ if b = true then [[]] else [] := by
  obtain ⟨b, hb, hl, he⟩ := endsOnNewLine_onlyLF h
  have hfl := ecLines_flatten t b
  obtain ⟨found, cum, l, hf, h1, h2, h3, h4⟩ := findLine_spec hl 0 0 p (by rw [hfl]; exact hp)
  simp only [Nat.zero_add, hfl] at hf h1 h2 h3 h4
  subst h4
  exact ⟨b, found, cum, hb, hf, h1, h2, h3, he⟩

/-! ### `lineIdx` is monotone, `colOff` separates positions on one line -/

theorem lineIdx_mono (t : Text) {p q : Nat} (h : p ≤ q) : lineIdx t p ≤ lineIdx t q := by
  obtain ⟨d, rfl⟩ := Nat.exists_eq_add_of_le h
  rw [lineIdx_eq, lineIdx_eq, List.take_add, List.count_append]; omega

theorem lineIdx_succ_le (t : Text) (p : Nat) : lineIdx t (p + 1) ≤ lineIdx t p + 1 := by
  rw [lineIdx_eq, lineIdx_eq, List.take_add, List.count_append]
  exact Nat.add_le_add_left (Nat.le_trans List.count_le_length (List.length_take_le 1 _)) _

theorem exists_between {f : Nat → Nat} (hs : ∀ p, f (p + 1) ≤ f p + 1) {a b i : Nat} (hab : a ≤ b)
    (h1 : f a ≤ i) (h2 : i ≤ f b) : ∃ p, a ≤ p ∧ p ≤ b ∧ f p = i := by
  obtain ⟨d, rfl⟩ := Nat.exists_eq_add_of_le hab
  clear hab
  induction d with
  | zero => exact ⟨a, Nat.le_refl _, Nat.le_refl _, Nat.le_antisymm h1 h2⟩
  | succ d ih =>
    rcases Nat.lt_or_ge (f (a + d)) i with hlt | hge
    · exact ⟨a + (d + 1), Nat.le_add_right _ _, Nat.le_refl _,
        Nat.le_antisymm (Nat.le_trans (hs (a + d)) hlt) h2⟩
    · obtain ⟨p, hp1, hp2, hp3⟩ := ih hge
      exact ⟨p, hp1, Nat.le_succ_of_le hp2, hp3⟩

/-- on one line columns differ by the distance of the positions -/
theorem colOff_add_of_lineIdx_eq (t : Text) {p q : Nat} (hpq : p ≤ q) (hq : q ≤ t.length)
    (hl : lineIdx t p = lineIdx t q) : colOff t q = colOff t p + (q - p) := by
  obtain ⟨d, rfl⟩ := Nat.exists_eq_add_of_le hpq
  rw [lineIdx_eq, lineIdx_eq, List.take_add, List.count_append] at hl
  have hn : 10 ∉ (t.drop p).take d :=
    List.count_eq_zero.mp (Nat.add_left_cancel (m := 0) hl).symm
  have hd : ((t.drop p).take d).length = d := by
    rw [List.length_take, List.length_drop, Nat.min_eq_left (Nat.le_sub_of_add_le' hq)]
  rw [colOff_eq, colOff_eq, List.take_add, sufLen_append_of_not_mem hn, hd, Nat.add_sub_cancel_left]

/-! ### totality on arbitrary texts (full separator set) -/

theorem endsOnNewLine_total (t : Text) :
    ∃ b, endsOnNewLine t (splitlines true t) = some b ∧ (b = false → splitlines true t ≠ []) := by
  rw [endsOnNewLine, splitlines_true, splitlines_false]
  cases hr : splitRaw t false with
  | nil => exact ⟨true, by simp, by simp⟩
  | cons x xs =>
    have h1 : ((x :: xs).map keep).getLast?.isSome := by simp
    have h2 : ((x :: xs).map (·.1)).getLast?.isSome := by simp
    obtain ⟨a, ha⟩ := Option.isSome_iff_exists.mp h1
    obtain ⟨b, hb⟩ := Option.isSome_iff_exists.mp h2
    refine ⟨a != b, ?_, by simp⟩
    simp only [ha, hb]
    simp

/-- the three exits of `Position.line_col` -/
theorem pyLineCol_found {t : Text} {p i cum : Nat} {l : Text}
    (hf : findLine (p : Int) (splitlines true t) 0 0 = (some i, cum))
    (hl : (splitlines true t)[i]? = some l) :
    pyLineCol t p = some (i + 1, (p : Int) - ((cum : Int) - (l.length : Int)) + 1) := by
  simp only [pyLineCol, hf, hl, Option.bind_eq_bind, Option.bind_some, Option.pure_def]

theorem pyLineCol_end_new {t : Text} {p cum : Nat}
    (hf : findLine (p : Int) (splitlines true t) 0 0 = (none, cum))
    (he : endsOnNewLine t (splitlines true t) = some true) :
    pyLineCol t p = some ((splitlines true t).length + 1, 1) := by
  simp only [pyLineCol, hf, he, Option.bind_eq_bind, Option.bind_some, Option.pure_def, ↓reduceIte]

theorem pyLineCol_end_last {t : Text} {p cum : Nat} {l : Text}
    (hf : findLine (p : Int) (splitlines true t) 0 0 = (none, cum))
    (he : endsOnNewLine t (splitlines true t) = some false)
    (hl : (splitlines true t)[(splitlines true t).length - 1]? = some l) :
    pyLineCol t p = some ((splitlines true t).length - 1 + 1,
      (p : Int) - ((cum : Int) - (l.length : Int)) + 1) := by
  simp only [pyLineCol, hf, he, hl, Option.bind_eq_bind, Option.bind_some, Option.pure_def,
    Bool.false_eq_true, ↓reduceIte]

theorem pyLineCol_exits (t : Text) (p : Nat) : ∃ i c, pyLineCol t p = some (i + 1, c) := by
  obtain ⟨b, hb, hne⟩ := endsOnNewLine_total t
  cases hf : findLine (p : Int) (splitlines true t) 0 0 with
  | mk found cum =>
    cases found with
    | some i =>
      have hi : i < (splitlines true t).length :=
        Nat.zero_add (splitlines true t).length ▸ (findLine_lt hf).2
      exact ⟨_, _, pyLineCol_found hf (List.getElem?_eq_getElem hi)⟩
    | none =>
      cases b with
      | true => exact ⟨_, _, pyLineCol_end_new hf hb⟩
      | false =>
        have hi := Nat.sub_lt (List.length_pos_iff.mpr (hne rfl)) Nat.one_pos
        exact ⟨_, _, pyLineCol_end_last hf hb (List.getElem?_eq_getElem hi)⟩

theorem pyLineCol_total (t : Text) (p : Nat) : (pyLineCol t p).isSome = true := by
  obtain ⟨i, c, h⟩ := pyLineCol_exits t p
  rw [h]; rfl

/-- the column formula of the code, `pos - (cumulative_length - len(line)) + 1`, when the loop
    stopped `col` characters into the line -/
theorem col_arith {p len c col : Nat} (h : p + len = c + col) :
    (p : Int) - ((c : Int) - (len : Int)) + 1 = ((1 + col : Nat) : Int) := by
  omega

theorem errorContext_exit {t : Text} {index : Int} {b : Bool} {lines : List Text}
    {found : Option Nat} {cum target : Nat} {l : Text}
    (he : endsOnNewLine t (splitlines true t) = some b) (hlines : ecLines t b = lines)
    (hf : findLine index lines 0 0 = (found, cum)) (ht : found.getD (lines.length - 1) = target)
    (hl : lines[target]? = some l) :
    errorContext t index = some (rstrip l, target + 1,
      index - ((cum : Int) - (l.length : Int)) + 1) := by
  subst hlines ht
  unfold ecLines at hf hl ⊢
  simp only [errorContext, he, Option.bind_eq_bind, Option.bind_some, Option.pure_def]
  simp only [hf, hl, Option.bind_some]

theorem ecLines_pos (t : Text) {b : Bool} (hne : b = false → splitlines true t ≠ []) :
    0 < (ecLines t b).length := by
  cases b with
  | true => rw [ecLines, if_pos rfl, List.length_append]; exact Nat.succ_pos _
  | false => rw [ecLines, if_neg Bool.false_ne_true]; exact List.length_pos_iff.mpr (hne rfl)

theorem errorContext_total (t : Text) (index : Int) : (errorContext t index).isSome = true := by
  obtain ⟨b, hb, hne⟩ := endsOnNewLine_total t
  cases hf : findLine index (ecLines t b) 0 0 with
  | mk found cum =>
    have hi := findLine_target_lt (ecLines_pos t hne) hf
    rw [errorContext_exit hb rfl hf rfl (List.getElem?_eq_getElem hi)]; rfl

/-! ### the three results -/

theorem errorContext_onlyLF {t : Text} (h : OnlyLF t) {p : Nat} (hp : p ≤ t.length) :
    errorContext t (p : Int) =
      some (rstrip (specLineOf t p), 1 + lineIdx t p, ((1 + colOff t p : Nat) : Int)) := by
  obtain ⟨b, found, cum, hb, hf, ht, hl, hc, -⟩ := findLine_top h hp
  rw [errorContext_exit hb rfl hf ht hl, col_arith hc, Nat.add_comm]

/-- **`Position.line_col` is `error_context` without the line**, on every text (all `splitlines`
    boundaries), for `p ≤ len(text)`: the two run the same loop, `error_context` over one more,
    empty, line when the text is empty or ends on a break, which is where `line_col` goes when
    its loop finds nothing. -/
theorem pyLineCol_eq_errorContext (t : Text) {p : Nat} (hp : p ≤ t.length) :
    pyLineCol t p = (errorContext t p).map (·.2) := by
  obtain ⟨b, hb, hne⟩ := endsOnNewLine_total t
  rcases findLine_exit p (splitlines true t) 0 0 (Int.natCast_nonneg _) with
    ⟨j, l, c₀, hl, hf, -, -⟩ | ⟨hf, h1⟩
  · rw [Nat.zero_add] at hf
    rw [pyLineCol_found hf hl, errorContext_exit hb (ecLines_eq t b) (found := some j)
      (by rw [findLine_append, hf]) rfl
      (target := j) (l := l)
      (by rw [List.getElem?_append_left (List.getElem?_eq_some_iff.1 hl).1, hl])]
    rfl
  · rw [splitlines_flatten, Nat.zero_add] at hf h1
    obtain rfl : p = t.length := Nat.le_antisymm hp (Int.ofNat_le.1 h1)
    cases b with
    | true =>
      rw [pyLineCol_end_new hf hb, errorContext_exit hb (ecLines_eq t true) (found := none)
        (cum := t.length + ([] : Text).length) (l := [])
        (by rw [findLine_append, hf]; exact findLine_miss (Int.lt_irrefl _)) rfl
        (by simp)]
      simp
    | false =>
      have hi := Nat.sub_lt (List.length_pos_iff.mpr (hne rfl)) Nat.one_pos
      have hl := List.getElem?_eq_getElem hi
      rw [pyLineCol_end_last hf hb hl, errorContext_exit hb
        (by rw [ecLines_eq]; exact List.append_nil _) hf rfl hl]
      rfl

/-- `pyLineCol` on an `OnlyLF` text, together with the line `lines[line_number - 1]` -/
theorem pyLineCol_onlyLF {t : Text} (h : OnlyLF t) {p : Nat} (hp : p ≤ t.length) :
    pyLineCol t p = some (1 + lineIdx t p, ((1 + colOff t p : Nat) : Int)) ∧
    ((specLines t)[lineIdx t p]? = some (specLineOf t p) ∨
      ((specLines t).length ≤ lineIdx t p ∧ specLineOf t p = [])) := by
  refine ⟨by rw [pyLineCol_eq_errorContext t hp, errorContext_onlyLF h hp]; rfl, ?_⟩
  obtain ⟨b, -, -, -, -, -, hl, -, he⟩ := findLine_top h hp
  rw [he] at hl
  rcases Nat.lt_or_ge (lineIdx t p) (specLines t).length with hlt | hge
  · exact .inl (by rwa [List.getElem?_append_left hlt] at hl)
  · refine .inr ⟨hge, ?_⟩
    rw [List.getElem?_append_right hge] at hl
    cases b
    · cases hl
    · exact (List.mem_singleton.1 (List.mem_of_getElem? hl)).symm ▸ rfl

end LineCol
end Pest
