/-
  Lemmas/OptSoundFusion.lean — `_optimize_skip_rule`: adding the fused `SKIP` rule does not change
  the meaning of any expression that does not mention `SKIP`.

  The generic statement (`ext_equiv`) is for a table `g0` that agrees with `g` on every name but
  `SKIP`, given that implicit trivia is simulated in both directions.  The two simulations are
  proved here for the COMMENT case, `SKIP = Repeat(COMMENT.expression)`: there the trivia loop of
  `g` is itself one evaluation of `rep c.body` from the atomic twin state, over the same `rec`
  (`skip_comment_eq`), so both directions are the simulation of that one expression.

  The fusion is no `TR` rewrite: this file stands on OptSoundBase (`cong_sim`) and AllN alone,
  beside the chain OptSoundTR … OptSoundRun, and meets it in OptSoundMain.
-/
import PestModel.Lemmas.OptSoundBase
import PestModel.Lemmas.AllN

namespace Pest
namespace OptS

open L0

variable (inp : Input)

def NSK : Expr → Prop
  | .ident n _ => n ≠ "SKIP"
  | _ => True

/-- expressions that do not mention `SKIP` (every expression of the un-optimized grammar) -/
abbrev NSR (e : Expr) : Prop := AllN NSK e

section ext

variable {g g0 : Grammar}

theorem NSR.sub {x c : Expr} (h : NSR x) (hs : Sub x c) : NSR c := by
  cases hs with
  | seq hc | choice hc => exact AllNL_iff.1 h.2 _ hc
  | rep1' | repMin' | repMax | repMinMax' => exact ⟨trivial, h.2⟩
  | _ => exact h.2

theorem cong_refl {R : Bool → Expr → Expr → Prop}
    (hR : ∀ x a, NSR x → R a x x)
    (hlook : ∀ n, n ≠ "SKIP" → g0.lookup n = g.lookup n)
    (hbodies : ∀ n r, n ≠ "SKIP" → g.lookup n = some r → NSR r.body)
    (e : Expr) (he : NSR e) (a : Bool) : CongA g g0 R a e e := by
  refine .of_refl e a (fun b c hs => hR c b (he.sub hs)) fun n t hx => ?_
  subst hx
  have hn : n ≠ "SKIP" := he
  rw [hlook n hn]
  cases hl : g.lookup n with
  | none => trivial
  | some r => exact ⟨rfl, rfl, hR _ _ (hbodies n r hn hl)⟩

theorem ext_fwd (hu : g0.usets = g.usets)
    (hlook : ∀ n, n ≠ "SKIP" → g0.lookup n = g.lookup n)
    (hbodies : ∀ n r, n ≠ "SKIP" → g.lookup n = some r → NSR r.body)
    (hsk : ∀ n, (∀ e a, NSR e → SimAt inp g0 (run g inp n) a e e) → SkipSim g inp g0 (run g inp n) n) :
    ∀ n e a, NSR e → SimAt inp g0 (run g inp n) a e e := by
  intro n
  induction n with
  | zero => intro e a _ s _ _ hne; exact absurd rfl hne
  | succ n ih =>
    intro e a he s ha hp hne
    exact cong_sim g inp g0 n (hsk n ih) hu
      (cong_refl (fun x a hx => ih x a hx) hlook hbodies e he a) s ha hp hne

theorem ext_equiv (hu : g0.usets = g.usets)
    (hlook : ∀ n, n ≠ "SKIP" → g0.lookup n = g.lookup n)
    (hbodies : ∀ n r, g.lookup n = some r → NSR r.body)
    (hf : ∀ inp n, (∀ e a, NSR e → SimAt inp g0 (run g inp n) a e e) → SkipSim g inp g0 (run g inp n) n)
    (hb : ∀ inp n, (∀ e a, NSR e → SimAt inp g (run g0 inp n) a e e) → SkipSim g0 inp g (run g0 inp n) n)
    (inp : Input) (e : Expr) (he : NSR e) (s : S0) (r : R0) (hp : s.pos ≤ inp.size) :
    Conv g inp e s r ↔ Conv g0 inp e s r := by
  constructor
  · rintro ⟨n, hn, hr⟩
    have := ext_fwd inp hu hlook (fun n r _ => hbodies n r) (hf inp) n e s.atomic he s rfl hp (by rw [hn]; exact hr)
    rw [hn] at this
    exact Tgt.conv inp g0 this hr
  -- the hypotheses on the two tables are symmetric outside `SKIP`
  · rintro ⟨n, hn, hr⟩
    have := ext_fwd inp hu.symm (fun n hn => (hlook n hn).symm)
      (fun n r hn hl => hbodies n r (by rw [← hlook n hn]; exact hl)) (hb inp) n e s.atomic he s rfl hp
      (by rw [hn]; exact hr)
    rw [hn] at this
    exact Tgt.conv inp g this hr

end ext

/-! ### the COMMENT case: `SKIP = Repeat(COMMENT.expression)` -/

/-- implicit trivia does nothing in an atomic state: only the non-atomic states matter -/
theorem skipSim_of_unatomic {g g' : Grammar} {rec : Sem0} {k : Nat}
    (h : ∀ st : S0, st.atomic = true → st.pos ≤ inp.size →
      skip g rec k { st with atomic := false } ≠ .oof →
      Evt (fun n => skip g' (run g' inp n) n { st with atomic := false }
        = skip g rec k { st with atomic := false })) :
    SkipSim g inp g' rec k := by
  intro s hp hne
  by_cases ha : s.atomic = true
  · rw [skip_of_atomic ha]
    exact ⟨0, fun m _ => skip_of_atomic ha⟩
  · have hs : s = { ({ s with atomic := true } : S0) with atomic := false } := by cases s; simp_all
    rw [hs] at hne ⊢
    exact h _ rfl hp hne

theorem ruleApply_unatomic {w : Rule} (hra : ruleAtomic w.name w.mod false = true)
    (hws : hasBit w.mod SILENT = true) (rec : Sem0) {st : S0} (hst : st.atomic = true) :
    ruleApply rec w.name w.mod w.body { st with atomic := false } = reflag false (rec w.body st) := by
  rw [ruleApply_silent rec hws]
  simp only [hra, S0.eta_of hst]

theorem trySkip_trivia {w : Rule} (hwn : L1.isTriviaName w.name = true) (hws : hasBit w.mod SILENT = true)
    (rec : Sem0) {st : S0} (hst : st.atomic = true) :
    trySkip rec (some w) { st with atomic := false } =
      (match rec w.body st with
       | .ok s' ps => .matched { s' with atomic := false } ps
       | .fail => .no
       | r => .stop r) := by
  unfold trySkip
  simp only [ruleApply_unatomic (by simp [ruleAtomic, hwn]) hws rec hst]
  cases rec w.body st <;> rfl

/-- the fused rule has the modifier `SILENT+ATOMIC` (`Grammar.fusedSkip` tests it), whatever its
    name and body: in a non-atomic state implicit trivia is its body, run in the atomic twin state -/
theorem skip_fused_any {g0 : Grammar} {w : Rule} (hg0 : g0.fusedSkip = some w)
    (rec : Sem0) (k : Nat) {st : S0} (hst : st.atomic = true) :
    skip g0 rec k { st with atomic := false } = reflag false (rec w.body st) := by
  rw [skip_of_fused rfl hg0]
  have hm : w.mod = SILENT + ATOMIC := by
    have hg := hg0
    rw [fusedSkip_eq (Prim.fusedSkip_lookup hg0), Option.bind_some] at hg
    split at hg
    · next h => exact beq_iff_eq.1 h
    · cases hg
  have hra : ruleAtomic w.name w.mod false = true := by rw [hm]; rfl
  have hsil : hasBit w.mod SILENT = true := by rw [hm]; rfl
  exact ruleApply_unatomic hra hsil rec hst

section comment

variable {g g0 : Grammar} {c : Rule}

theorem skip_comment_loop (hgf : g.fusedSkip = none) (hgw : g.lookup "WHITESPACE" = none)
    (hgc : g.lookup "COMMENT" = some c) (rec : Sem0) (k : Nat) (s : S0) (hs : s.atomic = false) :
    skip g rec k s = skipLoop rec none (some c) k s [] := by
  rw [skip_of_loop hs hgf (by rw [hgw, hgc]; rfl), hgw, hgc]

/-- the loop of `parse_trivia` over one silent trivia rule is `repLoop` over its body in the atomic
    twin state, for the same `rec` and the same number of turns (`G`: in an atomic state `repLoop`
    never consults the table) -/
theorem skipLoop_eq_rep (G : Grammar) (hcn : L1.isTriviaName c.name = true) (hcs : hasBit c.mod SILENT = true)
    {rec : Sem0} (hap : AP rec) (kk : Nat) :
    ∀ (k : Nat) (first : Bool) (st : S0) (acc : List Pair), st.atomic = true →
      skipLoop rec none (some c) k { st with atomic := false } acc
        = reflag false (repLoop G rec c.body k kk first st acc) := by
  intro k
  induction k with
  | zero => intro _ _ _ _; rfl
  | succ k ih =>
    intro first st acc hst
    have e0 : trySkip rec none { st with atomic := false } = .no := rfl
    have hsk : (if first = true then R0.ok st [] else skip G rec kk st) = R0.ok st [] := by
      cases first <;> simp [skip_of_atomic hst]
    simp only [skipLoop, e0, trySkip_trivia hcn hcs rec hst, repLoop, hsk]
    cases hr : rec c.body st with
    | ok s2 ps => simp only [List.append_nil]; exact ih false s2 _ (by rw [hap _ _ _ _ hr, hst])
    | fail => rfl
    | oof => rfl
    | stuck => rfl

theorem skip_comment_eq (G : Grammar) (hcn : c.name = "COMMENT") (hcs : hasBit c.mod SILENT = true)
    (hgf : g.fusedSkip = none) (hgw : g.lookup "WHITESPACE" = none) (hgc : g.lookup "COMMENT" = some c)
    {rec : Sem0} (hap : AP rec) (k : Nat) {st : S0} (hst : st.atomic = true) :
    skip g rec k { st with atomic := false } = reflag false (step G inp k rec (.rep c.body) st) := by
  rw [skip_comment_loop hgf hgw hgc rec k _ rfl]
  exact skipLoop_eq_rep G (by rw [hcn]; rfl) hcs hap k k true st [] hst

/-- forward: `g`'s trivia at level `n` is `g0`'s `step` of `rep c.body` over `g`'s answers, which the
    congruence theorem carries into `g0` -/
theorem skipC_fwd (hcn : c.name = "COMMENT") (hcs : hasBit c.mod SILENT = true)
    (hgf : g.fusedSkip = none) (hgw : g.lookup "WHITESPACE" = none) (hgc : g.lookup "COMMENT" = some c)
    (hg0 : g0.fusedSkip = some ⟨"SKIP", SILENT + ATOMIC, .rep c.body, .grammar⟩)
    (hw0 : g0.lookup "WHITESPACE" = none) (hc0 : g0.lookup "COMMENT" = some c)
    {rec : Sem0} (hap : AP rec) (k : Nat)
    (hb : SimAt inp g0 rec true c.body c.body) (hr : SimAt inp g0 rec true (.rep c.body) (.rep c.body)) :
    SkipSim g inp g0 rec k := by
  refine skipSim_of_unatomic inp fun st hst hp hne => ?_
  rw [skip_comment_eq inp g0 hcn hcs hgf hgw hgc hap k hst] at hne ⊢
  have hra : ruleAtomic "SKIP" (SILENT + ATOMIC) false = true := by decide
  have hrc : ruleAtomic c.name c.mod false = true := by rw [hcn]; simp [ruleAtomic, L1.isTriviaName]
  have hsk0 : SkipSim g0 inp g0 rec k :=
    skip_simO g0 inp g0 k ⟨by rw [hg0]; exact ⟨rfl, rfl, hra ▸ hr⟩, by rw [hw0]; trivial,
      by rw [hc0]; exact ⟨rfl, rfl, hrc ▸ hb⟩⟩
  refine (cong_sim g0 inp g0 k hsk0 rfl (.rep hb) st hst hp (reflag_ne_oof hne)).mono fun m hm => ?_
  rw [skip_fused_any hg0 _ _ hst, hm]

/-- backward: the fused rule at level `m` is `run g0 m (rep c.body)`; what `g` answers for that
    expression, its trivia loop answers one level up -/
theorem skipC_bwd (hcn : c.name = "COMMENT") (hcs : hasBit c.mod SILENT = true)
    (hgf : g.fusedSkip = none) (hgw : g.lookup "WHITESPACE" = none) (hgc : g.lookup "COMMENT" = some c)
    (hg0 : g0.fusedSkip = some ⟨"SKIP", SILENT + ATOMIC, .rep c.body, .grammar⟩)
    (m : Nat) (hr : SimAt inp g (run g0 inp m) true (.rep c.body) (.rep c.body)) :
    SkipSim g0 inp g (run g0 inp m) m := by
  refine skipSim_of_unatomic inp fun st hst hp hne => ?_
  rw [skip_fused_any hg0 _ _ hst] at hne ⊢
  refine Evt.shift ((hr st hst hp (reflag_ne_oof hne)).mono fun n hn => ?_)
  -- `hn` answers at `run g inp n`; `g`'s loop at level `n + 1` is `step g inp (n + 1) (run g inp (n + 1))`
  -- of `rep c.body`, which is `run g inp (n + 2)`: two levels up, bridged by `run_mono`
  rw [skip_comment_eq inp g hcn hcs hgf hgw hgc (run_AP g inp (n + 1)) (n + 1) hst]
  exact congrArg (reflag false) ((run_mono g inp (Nat.le_add_right n 2) _ _ (hn ▸ reflag_ne_oof hne)).trans hn)

end comment

end OptS
end Pest
