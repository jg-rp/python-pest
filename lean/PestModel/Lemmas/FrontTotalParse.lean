/-
  Lemmas/FrontTotalParse.lean — the grammar-parser model (Front/Parse.lean) never runs out of
  fuel, on token lists the scanner can produce it never leaves through `exc`, and the token of
  every error it reports comes from the list or is `eof` (helper lemmas for Props/C11.lean).

  Method (as in Lemmas/FrontTotalScan.lean).  `AllOK S X ts`: every token satisfies `S` — a free
  predicate, instantiated with "is a token of the original list or `eof`" (and "starts inside the
  text") to trace where error tokens come from — and its value has the shape its kind promises
  (`ValOK`), unless the flag `X` is set.  `PR.Sat S X Q r` reads a result: `ok` satisfies `Q`, the
  token of an error satisfies `S`, `exc` only under `X`, no `oof`.  Lexeme validity is used in four
  places (`parseInt_bind`, `parseNumber_bind`, `unescapeP_bind`, `parseRange_sat`), to exclude `exc`:
  with `X := True` nothing is assumed of the tokens (`parseTokens_free`), with `X := False` they are
  scanner output (`parseTokens_top`).  The four primitives
  `current`/`next`/`advance`/`eat` are handled by continuation lemmas (`current_bind`, …) that
  hand the token (`= ts.headD eof`, `TokS`) and the new state to the rest of the block.  Lengths
  are kept relative to the list `ts₀` the method started on (`Rest S X k ts₀ ts`: at least `k`
  tokens were consumed; `Adv`: what `self.pos += 1` gives).  Loops by induction on their bound
  under `|ts| < bound`; `parse_expression` by induction on its fuel under `|ts| < fuel` with the
  open-recursion hypothesis `RecOKP` — every recursive call happens after a token was consumed
  (`advance` after a kind test that excludes `eof`, or `next` under the loop test `kind != EOI`).
-/
import PestModel.Front.Parse
import PestModel.Lemmas.FrontTotalScan
import PestModel.Lemmas.FrontParseLex

namespace Pest
namespace Front
open Unescape (unescape)

variable {S : Token → Prop} {X : Prop}

structure TokS (S : Token → Prop) (X : Prop) (t : Token) : Prop where
  val : X ∨ ValOK t.kind t.value
  inS : S t

theorem TokS.err {t : Token} (h : TokS S X t) : S t := h.inS

def AllOK (S : Token → Prop) (X : Prop) (ts : List Token) : Prop := ∀ t ∈ ts, TokS S X t

/-- `self.eof` -/
structure EofOK (S : Token → Prop) (X : Prop) (eof : Token) : Prop where
  kind : eof.kind = .eoi
  inS : S eof

theorem EofOK.tok {eof : Token} (h : EofOK S X eof) : TokS S X eof :=
  ⟨.inr (by rw [h.kind]; trivial), h.inS⟩

def PR.Sat {α} (S : Token → Prop) (X : Prop) (Q : α → List Token → Prop) : PR α → Prop
  | .ok a ts => Q a ts
  | .err _ t => S t
  | .exc _ => X
  | .oof => False

theorem PR.Sat.mono {α} {Q Q' : α → List Token → Prop} {r : PR α} (h : r.Sat S X Q)
    (hq : ∀ a ts, Q a ts → Q' a ts) : r.Sat S X Q' := by
  cases r with
  | ok a ts => exact hq a ts h
  | err k t => exact h
  | exc n => exact h
  | oof => exact h

theorem PR.Sat.err {α} {Q : α → List Token → Prop} {r : PR α} (h : r.Sat S X Q) {k : EK} {t : Token}
    (e : r = .err k t) : S t := by
  subst e; exact h

theorem PR.Sat.exc {α} {Q : α → List Token → Prop} {r : PR α} (h : r.Sat S X Q) {n : String}
    (e : r = .exc n) : X := by
  subst e; exact h

theorem PR.Sat.ne_oof {α} {Q : α → List Token → Prop} {r : PR α} (h : r.Sat S X Q) : r ≠ .oof := by
  intro e; subst e; exact h

theorem PR.Sat.bind {α β} {m : P α} {f : α → P β} {eof : Token} {ts : List Token}
    {Q : β → List Token → Prop}
    (h : (m eof ts).Sat S X (fun a ts' => (f a eof ts').Sat S X Q)) : ((m >>= f) eof ts).Sat S X Q := by
  show (P.bind m f eof ts).Sat S X Q
  unfold P.bind
  cases hm : m eof ts with
  | ok a ts' => rw [hm] at h; exact h
  | err k t => rw [hm] at h; exact h
  | exc n => rw [hm] at h; exact h
  | oof => rw [hm] at h; exact h

theorem PR.Sat.bind' {α β} {m : P α} {f : α → P β} {eof : Token} {ts : List Token}
    {P' : α → List Token → Prop} {Q : β → List Token → Prop} (hm : (m eof ts).Sat S X P')
    (h : ∀ a ts', P' a ts' → (f a eof ts').Sat S X Q) : ((m >>= f) eof ts).Sat S X Q :=
  PR.Sat.bind (hm.mono h)

structure Rest (S : Token → Prop) (X : Prop) (k : Nat) (ts₀ ts : List Token) : Prop where
  ok : AllOK S X ts
  le : ts.length + k ≤ ts₀.length

section rest
variable {k : Nat} {ts₀ ts : List Token}

theorem Rest.refl (h : AllOK S X ts) : Rest S X 0 ts ts := ⟨h, Nat.le_refl _⟩

theorem Rest.trans {j : Nat} {ts' : List Token} (h : Rest S X k ts₀ ts) (h' : Rest S X j ts ts') :
    Rest S X (k + j) ts₀ ts' :=
  ⟨h'.ok, by have := h.le; have := h'.le; omega⟩

theorem Rest.zero (h : Rest S X k ts₀ ts) : Rest S X 0 ts₀ ts :=
  ⟨h.ok, Nat.le_trans (Nat.le_add_right _ k) h.le⟩

theorem Rest.lt {L : Nat} (h : Rest S X (k + 1) ts₀ ts) (hL : ts₀.length ≤ L) : ts.length < L :=
  Nat.lt_of_lt_of_le (Nat.lt_of_lt_of_le (Nat.lt_add_of_pos_right (Nat.succ_pos k)) h.le) hL

structure Adv (S : Token → Prop) (X : Prop) (k : Nat) (ts₀ ts ts' : List Token) : Prop where
  le : Rest S X k ts₀ ts'
  lt : ts ≠ [] → Rest S X (k + 1) ts₀ ts'

theorem Rest.tail (h : Rest S X k ts₀ ts) : Adv S X k ts₀ ts ts.tail := by
  cases ts with
  | nil => exact ⟨h, fun hne => absurd rfl hne⟩
  | cons t r =>
    have ok : AllOK S X r := fun x hx => h.ok x (List.mem_cons_of_mem t hx)
    have hl : r.length + 1 + k ≤ ts₀.length := h.le
    exact ⟨⟨ok, (by omega : r.length + k ≤ _)⟩, fun _ => ⟨ok, (by omega : r.length + (k + 1) ≤ _)⟩⟩

end rest

theorem headD_ok {eof : Token} {ts : List Token} (he : EofOK S X eof) (h : AllOK S X ts) :
    TokS S X (ts.headD eof) := by
  cases ts with
  | nil => exact he.tok
  | cons t r => exact h t (by simp)

theorem ne_nil_of_kind {eof t : Token} {ts : List Token} (he : EofOK S X eof)
    (ht : t = ts.headD eof) (hk : t.kind ≠ .eoi) : ts ≠ [] := by
  intro h
  subst h
  exact hk (by rw [ht]; exact he.kind)

section prims
variable {eof : Token} {k : Nat} {ts₀ ts : List Token} {β : Type}
  {Q : β → List Token → Prop}

theorem current_bind (he : EofOK S X eof) (hts : Rest S X k ts₀ ts) {f : Token → P β}
    (h : ∀ t, TokS S X t → t = ts.headD eof → (f t eof ts).Sat S X Q) :
    ((current >>= f) eof ts).Sat S X Q :=
  h _ (headD_ok he hts.ok) rfl

theorem next_eq (eof : Token) (ts : List Token) : next eof ts = .ok (ts.headD eof) ts.tail := by
  cases ts <;> rfl

theorem next_bind (he : EofOK S X eof) (hts : Rest S X k ts₀ ts) {f : Token → P β}
    (h : ∀ t ts', TokS S X t → t = ts.headD eof → Adv S X k ts₀ ts ts' → (f t eof ts').Sat S X Q) :
    ((next >>= f) eof ts).Sat S X Q := by
  refine PR.Sat.bind ?_
  rw [next_eq]
  exact h _ _ (headD_ok he hts.ok) rfl hts.tail

theorem advance_bind (hts : Rest S X k ts₀ ts) {f : Unit → P β}
    (h : ∀ ts', Adv S X k ts₀ ts ts' → (f () eof ts').Sat S X Q) :
    ((advance >>= f) eof ts).Sat S X Q :=
  h _ hts.tail

theorem eat_bind (he : EofOK S X eof) (hts : Rest S X k ts₀ ts) (kind : TK) {f : Token → P β}
    (h : ∀ t ts', TokS S X t → t.kind = kind → t = ts.headD eof → Adv S X k ts₀ ts ts' →
      (f t eof ts').Sat S X Q) :
    ((eat kind >>= f) eof ts).Sat S X Q := by
  unfold eat
  refine PR.Sat.bind ?_
  refine next_bind he hts (fun t ts' ht hh hadv => ?_)
  by_cases hk : t.kind = kind
  · rw [if_pos hk]; exact h t ts' ht hk hh hadv
  · rw [if_neg hk]; exact ht.err

theorem Rest.bind {α} {j : Nat} (hts : Rest S X k ts₀ ts) {m : P α} {f : α → P β}
    (hm : (m eof ts).Sat S X (fun _ ts' => Rest S X j ts ts'))
    (h : ∀ a ts', Rest S X (k + j) ts₀ ts' → (f a eof ts').Sat S X Q) :
    ((m >>= f) eof ts).Sat S X Q :=
  PR.Sat.bind' hm fun a ts' h' => h a ts' (hts.trans h')

theorem ite_sat {α} {c : Prop} [Decidable c] {a b : P α} {Q' : α → List Token → Prop}
    (ha : c → (a eof ts).Sat S X Q') (hb : ¬c → (b eof ts).Sat S X Q') :
    ((if c then a else b) eof ts).Sat S X Q' := by
  by_cases h : c
  · rw [if_pos h]; exact ha h
  · rw [if_neg h]; exact hb h

theorem fail_sat {α} {t : Token} (ht : TokS S X t) (k : EK) (Q : α → List Token → Prop) :
    ((fail k t : P α) eof ts).Sat S X Q := ht.err

end prims

theorem intLit_tok {t : Token} (hv : ValOK t.kind t.value)
    (hk : t.kind = .number ∨ t.kind = .integer) : IsIntLit t.value := by
  rcases hk with hk | hk
  · rw [hk] at hv; exact .inl hv
  · rw [hk] at hv; exact hv

/-! `parse_int`, `parse_number` and `unescape_string` leave the tokens alone: what follows them
    runs on the same list -/

section funs
variable {eof : Token} {ts : List Token} {β : Type}
  {Q : β → List Token → Prop}

theorem parseInt_bind {t : Token} (ht : TokS S X t) (hk : t.kind = .number ∨ t.kind = .integer)
    {f : Int → P β} (h : ∀ v, (f v eof ts).Sat S X Q) : ((parseInt t >>= f) eof ts).Sat S X Q := by
  refine PR.Sat.bind ?_
  unfold parseInt
  cases hp : pyInt (intLiteral t.value) with
  | none =>
    rcases ht.val with hx | hv
    · exact hx
    · exact absurd hp (pyInt_intLiteral (intLit_tok hv hk))
  | some o =>
    cases o with
    | none => exact ht.err
    | some v => exact h v

/-- at most ten digits never hit `int()`'s digit limit -/
theorem parseNumber_bind {t : Token} (ht : TokS S X t) (hk : t.kind = .number)
    {f : Int → P β} (h : ∀ v, (f v eof ts).Sat S X Q) :
    ((parseNumber t >>= f) eof ts).Sat S X Q := by
  refine PR.Sat.bind ?_
  unfold parseNumber
  split
  · exact ht.err
  · rename_i hl
    rcases ht.val with hx | hv
    · cases pyInt (stripZeros t.value) with
      | none => exact hx
      | some o =>
        cases o with
        | none => exact hx
        | some v =>
          dsimp only
          split
          · exact ht.err
          · exact h _
    · rw [hk] at hv
      have hp := pyInt_sig hv.2 false
      simp only [Bool.false_eq_true, if_false] at hp
      rw [← stripZeros_eq hv.2] at hp
      rw [hp, if_neg (by omega)]
      dsimp only
      split
      · exact ht.err
      · exact h _

theorem unescapeP_bind {v : Text} (hv : X ∨ IsCharLit v) {t : Token} (ht : TokS S X t)
    {f : Text → P β} (h : ∀ w, (X ∨ ∃ c, w = [c]) → (f w eof ts).Sat S X Q) :
    ((unescapeP (stripQuotes v) t >>= f) eof ts).Sat S X Q := by
  refine PR.Sat.bind ?_
  unfold unescapeP
  rcases hv with hx | hv
  · cases unescape (stripQuotes v) with
    | ok w => exact h w (.inl hx)
    | error e => exact ht.err
    | exc n => exact hx
  · rcases unescape_charLit hv with ⟨c, hc⟩ | hr
    · rw [hc]; exact h _ (.inr ⟨c, rfl⟩)
    · rw [hr]; exact ht.err

end funs

section funs2
variable {eof : Token}

abbrev Le (S : Token → Prop) (X : Prop) (ts : List Token) {α} : α → List Token → Prop :=
  fun _ ts' => Rest S X 0 ts ts'

theorem parseRepeat_sat (he : EofOK S X eof) (e : Expr) {ts : List Token} (hts : AllOK S X ts) :
    (parseRepeat e eof ts).Sat S X (Le S X ts) := by
  unfold parseRepeat
  refine next_bind he (.refl hts) (fun token ts1 htok _ a1 => ?_)
  refine ite_sat (fun hk => ?_) (fun _ => ite_sat (fun _ => ?_) (fun _ => fail_sat htok _ _))
  · refine current_bind he a1.le (fun c hc _ => ?_)
    refine ite_sat (fun _ => ?_) (fun _ => ?_)
    · exact advance_bind a1.le fun ts2 a2 => parseNumber_bind htok hk fun _ => a2.le
    · refine eat_bind he a1.le .comma (fun _ ts2 _ _ _ a2 => ?_)
      refine current_bind he a2.le (fun c2 hc2 _ => ?_)
      refine ite_sat (fun _ => ?_) (fun _ => ?_)
      · exact advance_bind a2.le fun ts3 a3 => parseNumber_bind htok hk fun _ => a3.le
      · refine eat_bind he a2.le .number (fun stop ts3 hstop hsk _ a3 => ?_)
        refine eat_bind he a3.le .rbrace (fun _ ts4 _ _ _ a4 => ?_)
        exact parseNumber_bind htok hk fun _ => parseNumber_bind hstop hsk fun _ => a4.le
  · refine eat_bind he a1.le .number (fun num ts2 hnum hnk _ a2 => ?_)
    refine eat_bind he a2.le .rbrace (fun _ ts3 _ _ _ a3 => ?_)
    exact parseNumber_bind hnum hnk fun _ => a3.le

theorem parsePostfix_sat (he : EofOK S X eof) (e : Expr) {ts : List Token} (hts : AllOK S X ts) :
    (parsePostfix e eof ts).Sat S X (fun r ts' => Rest S X 0 ts ts' ∧
      (r ≠ none → Rest S X 1 ts ts')) := by
  unfold parsePostfix
  have h := Rest.refl hts
  refine current_bind he h (fun c hc hh => ?_)
  have one : ∀ (x : Expr), c.kind ≠ .eoi →
      ((do advance; pure (some x) : P (Option Expr)) eof ts).Sat S X
        (fun r ts' => Rest S X 0 ts ts' ∧ (r ≠ none → Rest S X 1 ts ts')) :=
    fun x hk => advance_bind h fun ts1 a1 => ⟨a1.le, fun _ => a1.lt (ne_nil_of_kind he hh hk)⟩
  refine ite_sat (fun h1 => one _ (by rw [h1]; decide)) fun _ =>
    ite_sat (fun h2 => one _ (by rw [h2]; decide)) fun _ =>
    ite_sat (fun h3 => one _ (by rw [h3]; decide)) fun _ =>
    ite_sat (fun h4 => ?_) fun _ => ⟨h, fun h => absurd rfl h⟩
  refine advance_bind h (fun ts1 a1 => ?_)
  have a1 := a1.lt (ne_nil_of_kind he hh (by rw [h4]; decide))
  exact a1.bind (parseRepeat_sat he e a1.ok) fun r ts2 h2 => ⟨h2.zero, fun _ => h2⟩

theorem postfixes_sat (he : EofOK S X eof) : ∀ (n : Nat) (left : Expr) (ts : List Token),
    AllOK S X ts → ts.length < n → (postfixes n left eof ts).Sat S X (Le S X ts)
  | 0, _, _, _, h => by omega
  | n + 1, left, ts, hts, h => by
    unfold postfixes
    refine PR.Sat.bind' (parsePostfix_sat he left hts) (fun r ts1 ⟨h1, h2⟩ => ?_)
    cases r with
    | none => exact h1
    | some e =>
      have h2 := h2 (by simp)
      exact (postfixes_sat he n e ts1 h2.ok (h2.lt (Nat.le_of_lt_succ h))).mono
        fun _ _ h' => (h2.trans h').zero

/-- the optional `INTEGER` of `parse_peek_expression` -/
theorem optInt_sat (he : EofOK S X eof) {ts : List Token} (hts : AllOK S X ts) :
    ((do
      if (← current).kind = .integer then do
        let t ← next
        let v ← parseInt t
        pure (some v)
      else pure none : P (Option Int)) eof ts).Sat S X (Le S X ts) := by
  have h := Rest.refl hts
  refine current_bind he h (fun c hc hh => ?_)
  refine ite_sat (fun hk => ?_) (fun _ => h)
  refine next_bind he h (fun t ts1 ht hh' a1 => ?_)
  have hk' : t.kind = .integer := by rw [hh', ← hh]; exact hk
  exact parseInt_bind ht (.inr hk') fun _ => a1.le

theorem parsePeek_sat (he : EofOK S X eof) {ts : List Token} (hts : AllOK S X ts) :
    (parsePeek eof ts).Sat S X (Le S X ts) := by
  unfold parsePeek
  have h := Rest.refl hts
  refine current_bind he h (fun c hc hh => ?_)
  refine ite_sat (fun _ => h) (fun _ => ?_)
  refine eat_bind he h .lbracket (fun _ ts1 _ _ _ a1 => ?_)
  refine a1.le.bind (optInt_sat he a1.le.ok) (fun start ts2 h2 => ?_)
  refine eat_bind he h2 .rangeOp (fun _ ts3 _ _ _ a3 => ?_)
  refine a3.le.bind (optInt_sat he a3.le.ok) (fun stop ts4 h4 => ?_)
  exact eat_bind he h4 .rbracket fun _ ts5 _ _ _ a5 => a5.le

theorem parseRange_sat (he : EofOK S X eof) {token : Token} (htok : TokS S X token)
    {ts : List Token} (hts : AllOK S X ts) :
    (parseRange token eof ts).Sat S X (Le S X ts) := by
  unfold parseRange
  refine eat_bind he (.refl hts) .char (fun first ts1 hfirst hfk _ a1 => ?_)
  refine unescapeP_bind (by have := hfirst.val; rw [hfk] at this; exact this) htok (fun a ha => ?_)
  refine eat_bind he a1.le .rangeOp (fun _ ts3 _ _ _ a3 => ?_)
  refine eat_bind he a3.le .char (fun stopToken ts4 hstop hsk _ a4 => ?_)
  refine unescapeP_bind (by have := hstop.val; rw [hsk] at this; exact this) hstop (fun b hb => ?_)
  split
  · split
    · exact fail_sat htok _ _
    · exact a4.le
  · rename_i hne
    rcases ha with hx | ⟨x, rfl⟩
    · exact hx
    · rcases hb with hx | ⟨y, rfl⟩
      · exact hx
      · exact absurd rfl (hne x y rfl)

end funs2

section exprs
variable {eof : Token}

def RecOKP (S : Token → Prop) (X : Prop) (eof : Token) (L : Nat) (rec : Nat → P Expr) : Prop :=
  ∀ p ts, AllOK S X ts → ts.length < L → (rec p eof ts).Sat S X (Le S X ts)

theorem parsePrimary_sat (he : EofOK S X eof) (builtins : List String) {L : Nat}
    {rec : Nat → P Expr} (hrec : RecOKP S X eof L rec) (tag : Option String) {ts : List Token}
    (hts : AllOK S X ts) (hL : ts.length ≤ L) :
    (parsePrimary builtins rec tag eof ts).Sat S X (Le S X ts) := by
  unfold parsePrimary
  have h := Rest.refl hts
  refine current_bind he h (fun token htok hh => ?_)
  have recur : ∀ (p : Nat) (f : Expr → P Expr), token.kind ≠ .eoi →
      (∀ e ts', Rest S X 1 ts ts' → (f e eof ts').Sat S X (Le S X ts)) →
      ((do advance; let e ← rec p; f e : P Expr) eof ts).Sat S X (Le S X ts) := by
    intro p f hk hf
    refine advance_bind h (fun ts1 a1 => ?_)
    have a1 := a1.lt (ne_nil_of_kind he hh hk)
    exact a1.bind (hrec p ts1 a1.ok (a1.lt hL)) hf
  have adv1 : ∀ (x : Expr), ((do advance; pure x : P Expr) eof ts).Sat S X (Le S X ts) :=
    fun x => advance_bind h fun ts1 a1 => a1.le
  cases hk : token.kind
  case string => exact next_bind he h fun t ts1 _ _ a1 => a1.le
  case stringCI => exact next_bind he h fun t ts1 _ _ a1 => a1.le
  case lparen =>
    refine recur _ _ (by rw [hk]; decide) (fun e ts2 h2 => ?_)
    exact eat_bind he h2 .rparen fun _ ts3 _ _ _ a3 => a3.le.zero
  case identifier =>
    refine next_bind he h (fun t ts1 _ _ a1 => ?_)
    exact ite_sat (fun _ => a1.le) (fun _ => a1.le)
  case pushLiteral =>
    refine advance_bind h (fun ts1 a1 => ?_)
    refine eat_bind he a1.le .lparen (fun _ ts2 _ _ _ a2 => ?_)
    refine eat_bind he a2.le .string (fun _ ts3 _ _ _ a3 => ?_)
    exact eat_bind he a3.le .rparen fun _ ts4 _ _ _ a4 => a4.le
  case push =>
    refine advance_bind h (fun ts1 a1 => ?_)
    have a1 := a1.lt (ne_nil_of_kind he hh (by rw [hk]; decide))
    refine eat_bind he a1 .lparen (fun _ ts2 _ _ _ a2 => ?_)
    refine a2.le.bind (hrec _ ts2 a2.le.ok (a2.le.lt hL)) (fun e ts3 h3 => ?_)
    exact eat_bind he h3 .rparen fun _ ts4 _ _ _ a4 => a4.le.zero
  case peek =>
    refine advance_bind h (fun ts1 a1 => ?_)
    exact (parsePeek_sat he a1.le.ok).mono fun _ _ h' => a1.le.trans h'
  case peekAll => exact adv1 _
  case pop => exact adv1 _
  case drop => exact adv1 _
  case popAll => exact adv1 _
  case char => exact parseRange_sat he htok hts
  case posPred => exact recur _ _ (by rw [hk]; decide) fun e ts2 h2 => h2.zero
  case negPred => exact recur _ _ (by rw [hk]; decide) fun e ts2 h2 => h2.zero
  all_goals exact fail_sat htok _ _

/-- `parse_infix_expression` is only called with an operator token at hand -/
theorem parseInfix_sat (he : EofOK S X eof) {L : Nat} {rec : Nat → P Expr}
    (hrec : RecOKP S X eof L rec) (left : Expr) {ts : List Token} (hts : AllOK S X ts)
    (hne : ts ≠ []) (hL : ts.length ≤ L) :
    (parseInfix rec left eof ts).Sat S X (fun _ ts' => Rest S X 1 ts ts') := by
  unfold parseInfix
  refine next_bind he (.refl hts) (fun token ts1 htok _ a1 => ?_)
  have a1 := a1.lt hne
  refine a1.bind (hrec _ ts1 a1.ok (a1.lt hL)) (fun right ts2 h2 => ?_)
  cases hk : token.kind
  case choiceOp =>
    dsimp only
    split
    · exact h2
    · exact h2
  case sequenceOp =>
    dsimp only
    split
    · exact h2
    · exact h2
  all_goals exact fail_sat htok _ _

theorem infixes_sat (he : EofOK S X eof) {L : Nat} {rec : Nat → P Expr}
    (hrec : RecOKP S X eof L rec) (precedence : Nat) :
    ∀ (n : Nat) (left : Expr) (ts : List Token), AllOK S X ts → ts.length ≤ L → ts.length < n →
      (infixes rec precedence n left eof ts).Sat S X (Le S X ts)
  | 0, _, _, _, _, h => by omega
  | n + 1, left, ts, hts, hL, h => by
    unfold infixes
    refine current_bind he (.refl hts) (fun c hc hh => ?_)
    refine ite_sat (fun _ => .refl hts) (fun hcond => ?_)
    have hk : c.kind ≠ .eoi := by
      intro hk
      apply hcond
      rw [hk]
      rfl
    refine PR.Sat.bind' (parseInfix_sat he hrec left hts (ne_nil_of_kind he hh hk) hL)
      (fun e ts1 h1 => ?_)
    exact (infixes_sat he hrec precedence n e ts1 h1.ok (Nat.le_of_lt (h1.lt hL))
      (h1.lt (Nat.le_of_lt_succ h))).mono fun _ _ h' => (h1.trans h').zero

theorem parseHead_sat (he : EofOK S X eof) {ts : List Token} (hts : AllOK S X ts) :
    (parseHead eof ts).Sat S X (Le S X ts) := by
  unfold parseHead
  have h := Rest.refl hts
  refine h.bind (j := 0) ?_ (fun _ ts1 h1 => ?_)
  · refine current_bind he h (fun c hc hh => ?_)
    exact ite_sat (fun _ => h.tail.le) (fun _ => h)
  · refine current_bind he h1 (fun c hc hh => ?_)
    refine ite_sat (fun _ => ?_) (fun _ => h1)
    refine next_bind he h1 (fun t ts2 _ _ a2 => ?_)
    exact eat_bind he a2.le .assignOp fun _ ts3 _ _ _ a3 => a3.le

theorem exprBody_sat (he : EofOK S X eof) (builtins : List String) {L : Nat}
    {rec : Nat → P Expr} (hrec : RecOKP S X eof L rec) (precedence : Nat) {ts : List Token}
    (hts : AllOK S X ts) (hL : ts.length ≤ L) :
    (exprBody builtins rec precedence eof ts).Sat S X (Le S X ts) := by
  unfold exprBody
  refine (Rest.refl hts).bind (parseHead_sat he hts) (fun tag ts1 h1 => ?_)
  refine h1.bind (parsePrimary_sat he builtins hrec tag h1.ok (Nat.le_trans h1.le hL))
    (fun left ts2 h2 => ?_)
  refine h2.bind (postfixes_sat he _ left ts2 h2.ok (Nat.lt_succ_self _)) (fun left' ts3 h3 => ?_)
  exact (infixes_sat he hrec precedence _ left' ts3 h3.ok (Nat.le_trans h3.le hL)
    (Nat.lt_succ_self _)).mono fun _ _ h' => h3.trans h'

/-- the depth fuel of `parse_expression` suffices: every nested call happens after at least
    one more token was consumed -/
theorem parseExpression_ok (he : EofOK S X eof) (builtins : List String) :
    ∀ fuel, RecOKP S X eof fuel (parseExpression builtins fuel)
  | 0 => fun _ _ _ h => by omega
  | fuel + 1 => fun p _ hts h =>
    exprBody_sat he builtins (parseExpression_ok he builtins fuel) p hts (by omega)

theorem docLines_sat (he : EofOK S X eof) (kind : TK) (hkind : kind ≠ .eoi) :
    ∀ (n : Nat) (acc : List Text) (ts : List Token), AllOK S X ts → ts.length < n →
      (docLines kind n acc eof ts).Sat S X (Le S X ts)
  | 0, _, _, _, h => by omega
  | n + 1, acc, ts, hts, h => by
    unfold docLines
    have h0 := Rest.refl hts
    refine current_bind he h0 (fun c hc hh => ?_)
    refine ite_sat (fun hk => ?_) (fun _ => h0)
    refine advance_bind h0 (fun ts1 a1 => ?_)
    have a1 := a1.lt (ne_nil_of_kind he hh (by rw [hk]; exact hkind))
    refine eat_bind he a1 .commentText (fun t ts2 _ _ _ a2 => ?_)
    exact (docLines_sat he kind hkind n _ ts2 a2.le.ok (a2.le.lt (Nat.le_of_lt_succ h))).mono
      fun _ _ h' => (a2.le.trans h').zero

theorem parseModifier_sat (he : EofOK S X eof) {ts : List Token} (hts : AllOK S X ts) :
    (parseModifier eof ts).Sat S X (Le S X ts) := by
  unfold parseModifier
  have h := Rest.refl hts
  refine current_bind he h (fun c hc hh => ?_)
  exact ite_sat (fun _ => next_bind he h fun t ts1 _ _ a1 => a1.le) (fun _ => h)

theorem parseRules_sat (he : EofOK S X eof) (builtins : List String) :
    ∀ (n : Nat) (rules : List FRule) (ts : List Token), AllOK S X ts → ts.length < n →
      (parseRules builtins n rules eof ts).Sat S X (fun _ _ => True)
  | 0, _, _, _, h => by omega
  | n + 1, rules, ts, hts, h => by
    unfold parseRules
    have h0 := Rest.refl hts
    refine current_bind he h0 (fun c hc hh => ?_)
    refine ite_sat (fun _ => trivial) (fun _ => ?_)
    refine h0.bind (docLines_sat he .ruleDoc (by decide) _ [] ts hts (Nat.lt_succ_self _))
      (fun doc ts1 h1 => ?_)
    refine current_bind he h1 (fun c1 hc1 hh1 => ?_)
    refine ite_sat (fun _ => trivial) (fun hk1 => ?_)
    refine eat_bind he h1 .identifier (fun ident ts2 _ _ _ a2 => ?_)
    have a2 := a2.lt (ne_nil_of_kind he hh1 hk1)
    refine eat_bind he a2 .assignOp (fun _ ts3 _ _ _ a3 => ?_)
    refine a3.le.bind (parseModifier_sat he a3.le.ok) (fun modifier ts4 h4 => ?_)
    refine eat_bind he h4 .lbrace (fun _ ts5 _ _ _ a5 => ?_)
    refine a5.le.bind (parseExpression_ok he builtins _ PRECEDENCE_LOWEST ts5 a5.le.ok
      (Nat.lt_succ_self _)) (fun e ts6 h6 => ?_)
    refine eat_bind he h6 .rbrace (fun _ ts7 _ _ _ a7 => ?_)
    exact parseRules_sat he builtins n _ ts7 a7.le.ok (a7.le.lt (Nat.le_of_lt_succ h))

/-- **the grammar parser is total**, for every `S` and `X`: no `oof`, the token of an error satisfies `S`,
    `exc` only under `X` (`X := True`: nothing is assumed of the tokens' values; `X := False`: each has the
    shape its kind promises, as the scanner guarantees) -/
theorem parseTokens_sat (he : EofOK S X eof) (builtins : List String) {ts : List Token}
    (hts : AllOK S X ts) : (parseTokens builtins eof ts).Sat S X (fun _ _ => True) := by
  unfold parseTokens
  refine PR.Sat.bind' (docLines_sat he .grammarDoc (by decide) _ [] ts hts (Nat.lt_succ_self _))
    (fun gdoc ts1 h1 => ?_)
  refine PR.Sat.bind' (parseRules_sat he builtins _ [] ts1 h1.ok (Nat.lt_succ_self _))
    (fun rules ts2 _ => ?_)
  trivial

end exprs

/-- **the grammar parser on any token list**: it never runs out of fuel, and the token of an error
    is one of the list or `eof` (read off with `PR.Sat.err`, `.ne_oof`) -/
theorem parseTokens_free (b : List String) (eof : Token) (heof : eof.kind = .eoi) (toks : List Token) :
    (parseTokens b eof toks).Sat (fun t => t ∈ toks ∨ t = eof) True fun _ _ => True :=
  parseTokens_sat ⟨heof, .inr rfl⟩ b fun _ ht => ⟨.inl trivial, .inl ht⟩

/-- on tokens of the shapes the scanner guarantees it does not leave through `exc` either, and the
    token of an error starts inside the text -/
theorem parseTokens_top (builtins : List String) (N : Nat) {toks : List Token}
    (h : ∀ t ∈ toks, TokOK N t) :
    (parseTokens builtins ⟨.eoi, [], N⟩ toks).Sat
      (fun t => t.start ≤ N ∧ (t ∈ toks ∨ t = ⟨.eoi, [], N⟩)) False fun _ _ => True :=
  parseTokens_sat ⟨rfl, Nat.le_refl _, .inr rfl⟩ builtins
    fun t ht => ⟨.inr (h t ht).val, (h t ht).start_le, .inl ht⟩

end Front
end Pest
