/-
  Lemmas/Unescape.lean — the escape decoder against its specification (model and specification
  in Unescape.lean).

  `_decode_escape_sequence(value, i)` only looks at `value[i:]` (`decode_drop`), so it is evaluated
  at index 0 of a list whose head is known; the loop at `index` with `unescaped = acc` yields `acc`
  followed by the function's result on `value[index:]`, whatever fuel is left (`LoopSpec`), so
  `unescape` unfolds along the list.  What can follow a backslash is split once for the decoder,
  `specEscape` and `RE_ESCAPE` (`escape_shapes`); for `\u{…}` the decoder looks for the first `}`,
  the specification for the longest run of hex digits.  Every text starts with a `Lexeme` (exactly
  one escape, with its value: what `specEscape` reads and `RE_ESCAPE` measures) or is `Bad` (with
  the error it calls for), and the decoder is characterised on that partition (`decode_agrees`).
  Whole bodies: the append law `unescape_append` by induction on `Denotes`; "the model returns
  what the specification says" is its case of an empty rest (`unescape_rel`).

  Props/C12Escapes.lean reads its theorems off `Lexeme` and `Bad`.  The `Lexeme` layer is also the
  interface of the front-end proofs (Lemmas/FrontScanBase, FrontScanLex, FrontCstLex,
  FrontParseLex): there "`RE_ESCAPE` matches all of `x`" (`escapeLen_whole`) is how the scanner
  says that `x` is one escape, and the decoder is applied through `unescape_cons_lexeme`.
-/
import PestModel.Unescape
namespace Pest
namespace Unescape

theorem hexVal_cases (c : Nat) :
    ((48 ≤ c ∧ c ≤ 57) ∧ hexVal c = some (c - 48)) ∨
      (¬ (48 ≤ c ∧ c ≤ 57) ∧ (97 ≤ c ∧ c ≤ 102) ∧ hexVal c = some (c - 87)) ∨
      (¬ (48 ≤ c ∧ c ≤ 57) ∧ ¬ (97 ≤ c ∧ c ≤ 102) ∧ (65 ≤ c ∧ c ≤ 70) ∧
        hexVal c = some (c - 55)) ∨
      (¬ (48 ≤ c ∧ c ≤ 57) ∧ ¬ (97 ≤ c ∧ c ≤ 102) ∧ ¬ (65 ≤ c ∧ c ≤ 70) ∧
        hexVal c = none) := by
  unfold hexVal
  by_cases h1 : 48 ≤ c ∧ c ≤ 57
  · exact .inl ⟨h1, if_pos h1⟩
  by_cases h2 : 97 ≤ c ∧ c ≤ 102
  · exact .inr (.inl ⟨h1, h2, by rw [if_neg h1, if_pos h2]⟩)
  by_cases h3 : 65 ≤ c ∧ c ≤ 70
  · exact .inr (.inr (.inl ⟨h1, h2, h3, by rw [if_neg h1, if_neg h2, if_pos h3]⟩))
  · exact .inr (.inr (.inr ⟨h1, h2, h3, by rw [if_neg h1, if_neg h2, if_neg h3]⟩))

theorem hexVal_lt {c h : Nat} (hc : hexVal c = some h) : h < 16 := by
  rcases hexVal_cases c with ⟨_, e⟩ | ⟨_, _, e⟩ | ⟨_, _, _, e⟩ | ⟨_, _, _, e⟩
  · rw [e] at hc; cases hc; omega
  · rw [e] at hc; cases hc; omega
  · rw [e] at hc; cases hc; omega
  · rw [e] at hc; cases hc

theorem isHexDigit_eq (c : Nat) : isHexDigit c = (hexVal c).isSome := by
  unfold isHexDigit
  rcases hexVal_cases c with ⟨h, e⟩ | ⟨_, h, e⟩ | ⟨_, _, h, e⟩ | ⟨h1, h2, h3, e⟩
  · rw [e, decide_eq_true h.1, decide_eq_true h.2]; rfl
  · rw [e, decide_eq_true h.1, decide_eq_true h.2, Bool.or_comm (_ && _)]; rfl
  · rw [e, decide_eq_true h.1, decide_eq_true h.2, Bool.or_comm]; rfl
  · rw [e]
    simp only [Option.isSome_none, Bool.or_eq_false_iff, Bool.and_eq_false_iff,
      decide_eq_false_iff_not]
    omega

theorem shl_or (acc h : Nat) (hh : h < 16) : (acc <<< 4) ||| h = 16 * acc + h := by
  rw [← Nat.shiftLeft_add_eq_or_of_lt (i := 4) (by omega) acc, Nat.shiftLeft_eq]
  omega

theorem parseFrom_cons (acc d : Nat) (ds : List Nat) :
    parseHexDigitsFrom acc (d :: ds) =
      match hexVal d with
      | some h => parseHexDigitsFrom (16 * acc + h) ds
      | none => .error .hex := by
  rw [parseHexDigitsFrom]
  rcases hexVal_cases d with ⟨h, e⟩ | ⟨n1, h, e⟩ | ⟨n1, _, h, e⟩ | ⟨n1, n2, n3, e⟩
  · rw [if_pos h, shl_or _ _ (hexVal_lt e), e]
  · rw [if_neg n1, if_neg (by omega), if_pos h, show d - 97 + 10 = d - 87 by omega,
      shl_or _ _ (hexVal_lt e), e]
  · rw [if_neg n1, if_pos h, show d - 65 + 10 = d - 55 by omega, shl_or _ _ (hexVal_lt e), e]
  · rw [e, if_neg n1, if_neg n3, if_neg n2]

def AllHex (ds : List Nat) : Prop := ∀ d ∈ ds, (hexVal d).isSome = true

instance (ds : List Nat) : Decidable (AllHex ds) := by unfold AllHex; infer_instance

theorem foldl_hex_cons (acc d : Nat) (ds : List Nat) :
    (d :: ds).foldl (fun acc d => 16 * acc + (hexVal d).getD 0) acc =
      ds.foldl (fun acc d => 16 * acc + (hexVal d).getD 0) (16 * acc + (hexVal d).getD 0) := rfl

theorem allHex_cons {d : Nat} {ds : List Nat} :
    AllHex (d :: ds) ↔ (hexVal d).isSome = true ∧ AllHex ds := List.forall_mem_cons

/-- `_parse_hex_digits`: the positional value of the digits, or the `hex` error -/
theorem parseFrom_eq (ds : List Nat) : ∀ acc, parseHexDigitsFrom acc ds =
    if AllHex ds then .ok (ds.foldl (fun acc d => 16 * acc + (hexVal d).getD 0) acc)
    else .error .hex := by
  induction ds with
  | nil => intro acc; exact (if_pos fun _ hd => nomatch hd).symm
  | cons d ds ih =>
    intro acc
    rw [parseFrom_cons]
    cases hv : hexVal d with
    | none => exact (if_neg fun h => by have := (allHex_cons.1 h).1; rw [hv] at this; cases this).symm
    | some v =>
      dsimp only
      rw [ih, foldl_hex_cons, hv]
      by_cases h : AllHex ds
      · rw [if_pos h, if_pos (allHex_cons.2 ⟨by rw [hv]; rfl, h⟩)]
        rfl
      · rw [if_neg h, if_neg fun h' => h (allHex_cons.1 h').2]

theorem parse_eq (ds : List Nat) :
    parseHexDigits ds = if AllHex ds then .ok (hexValue ds) else .error .hex :=
  parseFrom_eq ds 0

/-! ### relocation: the decoders only look at `value[index:]` -/

def Py.shift (i : Nat) : Py (Nat × Nat) → Py (Nat × Nat)
  | .ok (c, j) => .ok (c, i + j)
  | r => r

theorem scanFor_shift (c : Nat) (l : List Nat) (i : Nat) : ∀ k,
    scanFor c l (i + k) = (scanFor c l k).map (i + ·) := by
  induction l with
  | nil => intro k; rfl
  | cons x xs ih =>
    intro k
    simp only [scanFor]
    by_cases h : x = c
    · simp [h]
    · simp only [h, if_false]
      exact ih (k + 1)

theorem pyFind_drop (value : List Nat) (c i k : Nat) :
    pyFind value c (i + k) = (pyFind (value.drop i) c k).map (i + ·) := by
  unfold pyFind
  rw [List.drop_drop, scanFor_shift]

theorem slice_drop (value : List Nat) (i a b : Nat) :
    slice value (i + a) (i + b) = slice (value.drop i) a b := by
  rw [slice, slice, List.drop_drop, Nat.add_sub_add_left]

theorem decodeHexChar_drop (value : List Nat) (i : Nat) :
    decodeHexChar value i = (decodeHexChar (value.drop i) 0).shift i := by
  unfold decodeHexChar
  simp only [Nat.zero_add]
  rw [Nat.add_assoc i 1 1, slice_drop value i 1 (1 + 1), pyFind_drop value 125 i (1 + 1)]
  by_cases hb : slice (value.drop i) 1 (1 + 1) ≠ [123]
  · rw [if_pos hb, if_pos hb]; rfl
  · rw [if_neg hb, if_neg hb]
    cases pyFind (value.drop i) 125 (1 + 1) with
    | none => rfl
    | some cl =>
      simp only [Option.map_some, Nat.add_sub_add_left]
      by_cases hd : ¬ (2 ≤ cl - (1 + 1) ∧ cl - (1 + 1) ≤ 6)
      · rw [if_pos hd, if_pos hd]; rfl
      · rw [if_neg hd, if_neg hd, Nat.add_assoc i (1 + 1), slice_drop]
        cases parseHexDigits (slice (value.drop i) (1 + 1) (1 + 1 + (cl - (1 + 1)))) <;> rfl

theorem decode_drop (value : List Nat) (i : Nat) :
    decodeEscapeSequence value i = (decodeEscapeSequence (value.drop i) 0).shift i := by
  unfold decodeEscapeSequence
  rw [show (value.drop i)[0]? = value[i]? by rw [List.getElem?_drop]; rfl]
  cases value[i]? with
  | none => rfl
  | some ch =>
    dsimp only
    rw [slice_drop value i 1 3, decodeHexChar_drop value i]
    by_cases hx : ch = 120
    · subst hx
      simp only [Nat.reduceEqDiff, or_self, if_false, if_true]
      split
      · rfl
      · cases parseHexDigits (slice (value.drop i) 1 3) with
        | ok v => simp only; cases pyChr v <;> rfl
        | error e => rfl
        | exc n => rfl
    · by_cases hu : ch = 117
      · subst hu
        simp only [Nat.reduceEqDiff, or_self, if_false, if_true]
        cases decodeHexChar (value.drop i) 0 with
        | ok p =>
          obtain ⟨cp, j⟩ := p
          simp only [Py.shift]
          split
          · rfl
          · cases pyChr cp <;> rfl
        | error e => rfl
        | exc n => rfl
      · -- every other branch returns `index` itself
        rw [if_neg hx, if_neg hx, if_neg hu, if_neg hu]
        simp only [apply_ite (Py.shift i)]
        rfl

/-! ### the loop: `unescape` unfolds along the list -/

theorem prepend_prepend (a b : List Nat) (r : Res) :
    (r.prepend b).prepend a = r.prepend (a ++ b) := by
  cases r <;> simp [Res.prepend]

theorem prepend_nil (r : Res) : r.prepend [] = r := by
  cases r <;> simp [Res.prepend]

theorem loop_done {value : List Nat} {index : Nat} (fuel : Nat) (acc : List Nat)
    (h : ¬ index < value.length) : loop value (fuel + 1) index acc = .ok acc := by
  rw [loop, if_neg h]

theorem loop_char {value : List Nat} {index ch : Nat} (fuel : Nat) (acc : List Nat)
    (hget : value[index]? = some ch) (hc : ch ≠ 92) :
    loop value (fuel + 1) index acc = loop value fuel (index + 1) (acc ++ [ch]) := by
  have hlt : index < value.length := (List.getElem?_eq_some_iff.mp hget).1
  rw [loop, if_pos hlt, hget]
  simp only [if_neg hc]

theorem loop_esc {value : List Nat} {index : Nat} (fuel : Nat) (acc : List Nat)
    (hget : value[index]? = some 92) :
    loop value (fuel + 1) index acc =
      match decodeEscapeSequence value (index + 1) with
      | .ok (c, index') => loop value fuel (index' + 1) (acc ++ [c])
      | .error e => .error e
      | .exc n => .exc n := by
  have hlt : index < value.length := (List.getElem?_eq_some_iff.mp hget).1
  rw [loop, if_pos hlt, hget]
  simp only [if_true]
  rfl

theorem unescape_nil : unescape [] = .ok [] := rfl

theorem unescape_cons_def (c : Nat) (r : List Nat) :
    unescape (c :: r) = loop (c :: r) (r.length + 1 + 1) 0 [] := rfl

/-- `unescape suf` on the right is itself a run of `loop`: the step for `c :: r` therefore needs
    `LoopSpec` of the tail twice, for the run inside `unescape (c :: r)` (`cons_char_of`,
    `cons_esc_of`) and for the run at hand (`loopSpec_of_length`). -/
def LoopSpec (suf : List Nat) : Prop :=
  ∀ (value : List Nat) (fuel index : Nat) (acc : List Nat), value.drop index = suf →
    suf.length < fuel → loop value fuel index acc = (unescape suf).prepend acc

theorem cons_char_of {c : Nat} {r : List Nat} (h : LoopSpec r) (hc : c ≠ 92) :
    unescape (c :: r) = (unescape r).prepend [c] := by
  rw [unescape_cons_def, loop_char (value := c :: r) (index := 0) (r.length + 1) [] rfl hc]
  exact h (c :: r) (r.length + 1) (0 + 1) ([] ++ [c]) rfl (Nat.lt_succ_self _)

theorem cons_esc_of {r : List Nat} (h : ∀ j, LoopSpec (r.drop (j + 1))) :
    unescape (92 :: r) =
      match decodeEscapeSequence r 0 with
      | .ok (c, j) => (unescape (r.drop (j + 1))).prepend [c]
      | .error e => .error e
      | .exc n => .exc n := by
  rw [unescape_cons_def, loop_esc (value := 92 :: r) (index := 0) (r.length + 1) [] rfl,
    decode_drop (92 :: r) (0 + 1)]
  show (match (decodeEscapeSequence r 0).shift 1 with
    | .ok (c, i) => loop (92 :: r) (r.length + 1) (i + 1) [c]
    | .error e => .error e
    | .exc n => .exc n) = _
  cases decodeEscapeSequence r 0 with
  | ok p =>
    obtain ⟨c, j⟩ := p
    exact h j (92 :: r) (r.length + 1) (1 + j + 1) [c] (by rw [Nat.add_comm 1 j]; rfl)
      (Nat.lt_succ_of_le (List.drop_sublist _ _).length_le)
  | error e => rfl
  | exc nm => rfl

theorem loopSpec_of_length : ∀ (n : Nat) (suf : List Nat), suf.length < n → LoopSpec suf := by
  intro n
  induction n with
  | zero => intro suf hn; exact absurd hn (Nat.not_lt_zero _)
  | succ m ih =>
    intro suf hn value fuel index acc hs hf
    obtain ⟨f, rfl⟩ := Nat.exists_eq_succ_of_ne_zero (Nat.ne_zero_of_lt hf)
    cases suf with
    | nil =>
      rw [loop_done f acc (Nat.not_lt.mpr (List.drop_eq_nil_iff.mp hs))]
      exact congrArg Res.ok (List.append_nil acc).symm
    | cons ch r =>
      have hget : value[index]? = some ch := by
        rw [← Nat.add_zero index, ← List.getElem?_drop, hs]; rfl
      have hs' : value.drop (index + 1) = r := by
        rw [← List.drop_drop, hs]; rfl
      have hr : ∀ j, LoopSpec (r.drop j) := fun j =>
        ih _ (Nat.lt_of_le_of_lt (List.drop_sublist _ _).length_le
          (Nat.lt_of_succ_lt_succ hn))
      have hlt : ∀ j, (r.drop j).length < f := fun j =>
        Nat.lt_of_le_of_lt (List.drop_sublist _ _).length_le
          (Nat.lt_of_succ_lt_succ hf)
      by_cases hc : ch = 92
      · subst hc
        rw [loop_esc f acc hget, decode_drop value (index + 1), hs',
          cons_esc_of (fun j => hr (j + 1))]
        cases decodeEscapeSequence r 0 with
        | ok p =>
          obtain ⟨c, j⟩ := p
          rw [prepend_prepend]
          exact hr (j + 1) value f (index + 1 + j + 1) (acc ++ [c])
            (by rw [← hs', List.drop_drop, Nat.add_assoc]) (hlt _)
        | error e => rfl
        | exc nm => rfl
      · rw [loop_char f acc hget hc, cons_char_of (r := r) (hr 0) hc, prepend_prepend]
        exact hr 0 value f (index + 1) (acc ++ [ch]) hs' (hlt 0)

theorem loop_eq (suf : List Nat) : LoopSpec suf :=
  loopSpec_of_length (suf.length + 1) suf (Nat.lt_succ_self _)

theorem unescape_cons_char {c : Nat} (r : List Nat) (hc : c ≠ 92) :
    unescape (c :: r) = (unescape r).prepend [c] :=
  cons_char_of (loop_eq r) hc

theorem unescape_cons_esc (r : List Nat) :
    unescape (92 :: r) =
      match decodeEscapeSequence r 0 with
      | .ok (c, j) => (unescape (r.drop (j + 1))).prepend [c]
      | .error e => .error e
      | .exc n => .exc n :=
  cons_esc_of fun _ => loop_eq _

/-! ### the two scans of `\u{…}`: the decoder's first `}`, the specification's run of hex digits -/

theorem scanFor_none (c : Nat) (l : List Nat) : ∀ i, c ∉ l → scanFor c l i = none := by
  induction l with
  | nil => intro i _; rfl
  | cons x xs ih =>
    intro i h
    have hx : ¬ x = c := fun e => h (by simp [e])
    simp only [scanFor, if_neg hx]
    exact ih (i + 1) (fun hm => h (by simp [hm]))

theorem scanFor_first (c : Nat) (ds rest : List Nat) : ∀ i, c ∉ ds →
    scanFor c (ds ++ c :: rest) i = some (i + ds.length) := by
  induction ds with
  | nil => intro i _; simp [scanFor]
  | cons x xs ih =>
    intro i h
    have hx : ¬ x = c := fun e => h (by simp [e])
    simp only [List.cons_append, scanFor, if_neg hx]
    rw [ih (i + 1) (fun hm => h (by simp [hm]))]
    simp only [List.length_cons]
    congr 1; omega

theorem takeWhile_split (p : Nat → Bool) (l : List Nat) (x : Nat)
    (h : l[(l.takeWhile p).length]? = some x) : ∃ rest, l = l.takeWhile p ++ x :: rest := by
  have hsplit := List.takeWhile_append_dropWhile (p := p) (l := l)
  have h' : (l.takeWhile p ++ l.dropWhile p)[(l.takeWhile p).length]? = some x := by
    rw [hsplit]; exact h
  rw [List.getElem?_append_right (Nat.le_refl _), Nat.sub_self] at h'
  cases hd : l.dropWhile p with
  | nil => rw [hd] at h'; cases h'
  | cons y ys =>
    rw [hd] at h'
    simp only [List.getElem?_cons_zero, Option.some.injEq] at h'
    subst h'
    exact ⟨ys, by rw [← hd, hsplit]⟩

theorem takeWhile_stop (p : Nat → Bool) (ds : List Nat) (x : Nat) (rest : List Nat)
    (hds : ∀ d ∈ ds, p d = true) (hx : p x = false) : (ds ++ x :: rest).takeWhile p = ds := by
  rw [List.takeWhile_append_of_pos hds, List.takeWhile_cons_of_neg (by rw [hx]; decide),
    List.append_nil]

/-! ### the shapes of what follows a backslash -/

theorem simpleEscape_some {c v : Nat} (h : simpleEscape c = some v) :
    (c = 34 ∧ v = 34) ∨ (c = 92 ∧ v = 92) ∨ (c = 114 ∧ v = 13) ∨ (c = 110 ∧ v = 10) ∨
      (c = 116 ∧ v = 9) ∨ (c = 48 ∧ v = 0) ∨ (c = 39 ∧ v = 39) := by
  by_cases h1 : c = 34
  · subst h1; cases h; decide
  by_cases h2 : c = 92
  · subst h2; cases h; decide
  by_cases h3 : c = 114
  · subst h3; cases h; decide
  by_cases h4 : c = 110
  · subst h4; cases h; decide
  by_cases h5 : c = 116
  · subst h5; cases h; decide
  by_cases h6 : c = 48
  · subst h6; cases h; decide
  by_cases h7 : c = 39
  · subst h7; cases h; decide
  rw [simpleEscape, if_neg h1, if_neg h2, if_neg h3, if_neg h4, if_neg h5, if_neg h6,
    if_neg h7] at h
  cases h

theorem simpleEscape_none {c : Nat} (h : simpleEscape c = none) :
    c ≠ 34 ∧ c ≠ 92 ∧ c ≠ 114 ∧ c ≠ 110 ∧ c ≠ 116 ∧ c ≠ 48 ∧ c ≠ 39 := by
  refine ⟨?_, ?_, ?_, ?_, ?_, ?_, ?_⟩ <;> (rintro rfl; cases h)

/-- case analysis on what follows a backslash, along `_decode_escape_sequence`, `specEscape`
    and `RE_ESCAPE` at once -/
theorem escape_shapes {motive : List Nat → Prop}
    (nil : motive [])
    (simple : ∀ c v t, simpleEscape c = some v → motive (c :: t))
    (x_nil : motive [120])
    (x_one : ∀ d, motive [120, d])
    (x : ∀ d1 d0 t, motive (120 :: d1 :: d0 :: t))
    (u_nil : motive [117])
    (u_nobrace : ∀ b t, b ≠ 123 → motive (117 :: b :: t))
    (u : ∀ t, motive (117 :: 123 :: t))
    (other : ∀ c t, simpleEscape c = none → c ≠ 120 → c ≠ 117 → motive (c :: t))
    (r : List Nat) : motive r := by
  cases r with
  | nil => exact nil
  | cons c t =>
    cases hs : simpleEscape c with
    | some v => exact simple c v t hs
    | none =>
      by_cases hx : c = 120
      · subst hx
        match t with
        | [] => exact x_nil
        | [d] => exact x_one d
        | d1 :: d0 :: t => exact x d1 d0 t
      · by_cases hu : c = 117
        · subst hu
          match t with
          | [] => exact u_nil
          | b :: t =>
            by_cases hb : b = 123
            · subst hb; exact u t
            · exact u_nobrace b t hb
        · exact other c t hs hx hu

/-- `Escape.unicode` spells the lexeme with `++`; the functions see it consed -/
theorem unicode_append (ds rest : List Nat) :
    [117, 123] ++ ds ++ [125] ++ rest = 117 :: 123 :: (ds ++ 125 :: rest) := by
  rw [List.append_assoc, List.append_assoc]; rfl

/-! ### the decoder on a shape -/

theorem decode_x (d1 d0 : Nat) (r : List Nat) :
    decodeEscapeSequence (120 :: d1 :: d0 :: r) 0 =
      match parseHexDigits [d1, d0] with
      | .ok v =>
        match pyChr v with
        | .ok c => .ok (c, 2)
        | .error e => .error e
        | .exc n => .exc n
      | .error e => .error e
      | .exc n => .exc n := rfl

theorem decodeHexChar_nobrace (r : List Nat) (h : r.head? ≠ some 123) :
    decodeHexChar (117 :: r) 0 = .error .brace := by
  have : slice (117 :: r) (0 + 1) (0 + 1 + 1) ≠ [123] :=
    match r, h with
    | [], _ => fun e => nomatch e
    | _ :: _, h => fun e => h (congrArg some (List.cons.inj e).1)
  unfold decodeHexChar
  simp only [if_pos this]

theorem decodeHexChar_unclosed (t : List Nat) (h : 125 ∉ t) :
    decodeHexChar (117 :: 123 :: t) 0 = .error .unclosed := by
  have hs : slice (117 :: 123 :: t) (0 + 1) (0 + 1 + 1) = [123] := rfl
  have hf : pyFind (117 :: 123 :: t) 125 (0 + 1 + 1) = none := scanFor_none 125 t _ h
  unfold decodeHexChar
  simp only [hs, hf, ne_eq, not_true_eq_false, if_false]

theorem decodeHexChar_closed (ds rest : List Nat) (h : 125 ∉ ds) :
    decodeHexChar (117 :: 123 :: (ds ++ 125 :: rest)) 0 =
      if ¬ (2 ≤ ds.length ∧ ds.length ≤ 6) then .error .digits
      else if AllHex ds then .ok (hexValue ds, 2 + ds.length) else .error .hex := by
  have hs : slice (117 :: 123 :: (ds ++ 125 :: rest)) (0 + 1) (0 + 1 + 1) = [123] := rfl
  have hf : pyFind (117 :: 123 :: (ds ++ 125 :: rest)) 125 (0 + 1 + 1) = some (2 + ds.length) :=
    scanFor_first 125 ds rest _ h
  have hlen : 2 + ds.length - (0 + 1 + 1) = ds.length := Nat.add_sub_cancel_left 2 ds.length
  have hsl : slice (117 :: 123 :: (ds ++ 125 :: rest)) (0 + 1 + 1)
      (0 + 1 + 1 + (2 + ds.length - (0 + 1 + 1))) = ds := by
    show List.take (0 + 1 + 1 + (2 + ds.length - (0 + 1 + 1)) - (0 + 1 + 1)) (ds ++ 125 :: rest) = ds
    rw [Nat.add_sub_cancel_left, hlen]
    exact List.take_left
  unfold decodeHexChar
  simp only [hs, hf, ne_eq, not_true_eq_false, if_false, hsl]
  rw [hlen]
  by_cases hd : ¬ (2 ≤ ds.length ∧ ds.length ≤ 6)
  · rw [if_pos hd, if_pos hd]
  · rw [if_neg hd, if_neg hd]
    by_cases hh : AllHex ds
    · rw [parse_eq, if_pos hh, if_pos hh]
    · rw [parse_eq, if_neg hh, if_neg hh]

theorem decode_u (r : List Nat) :
    decodeEscapeSequence (117 :: r) 0 =
      match decodeHexChar (117 :: r) 0 with
      | .ok (cp, j) => if cp > 0x10FFFF then .error .range else .ok (cp, j)
      | .error e => .error e
      | .exc n => .exc n := by
  unfold decodeEscapeSequence
  simp only [List.getElem?_cons_zero]
  cases decodeHexChar (117 :: r) 0 with
  | ok p =>
    obtain ⟨cp, j⟩ := p
    by_cases hr : cp > 0x10FFFF
    · simp [hr]
    · simp [hr, pyChr]
  | error e => simp
  | exc n => simp

/-! ### the specification on a shape -/

/-- the value of a `\u{…}` escape with digits `ds` (none beyond U+10FFFF) -/
def uniVal (ds : List Nat) : Option Nat :=
  if hexValue ds ≤ 0x10FFFF then some (hexValue ds) else none

theorem specEscape_simple {c v : Nat} (r : List Nat) (h : simpleEscape c = some v) :
    specEscape (c :: r) = some (some v, 1) := by
  unfold specEscape
  simp only [h]

theorem specEscape_other {c : Nat} (r : List Nat) (h : simpleEscape c = none) (hx : c ≠ 120)
    (hu : c ≠ 117) : specEscape (c :: r) = none := by
  unfold specEscape
  simp only [h, if_neg hx, if_neg hu]

theorem specEscape_x (d1 d0 : Nat) (r : List Nat) :
    specEscape (120 :: d1 :: d0 :: r) =
      match hexVal d1, hexVal d0 with
      | some h1, some h0 => some (some (16 * h1 + h0), 3)
      | _, _ => none := rfl

theorem specEscape_u_nobrace {b : Nat} (t : List Nat) (h : b ≠ 123) :
    specEscape (117 :: b :: t) = none :=
  if_neg h

theorem specEscape_u (t : List Nat) :
    specEscape (117 :: 123 :: t) =
      if 2 ≤ (t.takeWhile (fun d => (hexVal d).isSome)).length ∧
          (t.takeWhile (fun d => (hexVal d).isSome)).length ≤ 6 ∧
          t[(t.takeWhile (fun d => (hexVal d).isSome)).length]? = some 125 then
        some (uniVal (t.takeWhile (fun d => (hexVal d).isSome)),
          (t.takeWhile (fun d => (hexVal d).isSome)).length + 3)
      else none := rfl

theorem specEscape_u_inv {t : List Nat} {v : Option Nat} {n : Nat}
    (h : specEscape (117 :: 123 :: t) = some (v, n)) :
    ∃ ds rest, t = ds ++ 125 :: rest ∧ AllHex ds ∧ 2 ≤ ds.length ∧ ds.length ≤ 6 ∧
      v = uniVal ds ∧ n = ds.length + 3 := by
  rw [specEscape_u] at h
  split at h
  · rename_i hc
    obtain ⟨h2, h6, hget⟩ := hc
    obtain ⟨rest, hrest⟩ := takeWhile_split _ t 125 hget
    simp only [Option.some.injEq, Prod.mk.injEq] at h
    exact ⟨_, rest, hrest, List.all_eq_true.mp List.all_takeWhile, h2, h6, h.1.symm, h.2.symm⟩
  · cases h

theorem allHex_no_brace {ds : List Nat} (h : AllHex ds) : 125 ∉ ds := by
  intro hm
  have := h 125 hm
  revert this; decide

theorem specEscape_unicode {ds : List Nat} (hall : AllHex ds) (h2 : 2 ≤ ds.length)
    (h6 : ds.length ≤ 6) (rest : List Nat) :
    specEscape ([117, 123] ++ ds ++ [125] ++ rest) =
      some (uniVal ds, ([117, 123] ++ ds ++ [125]).length) := by
  have htw : (ds ++ 125 :: rest).takeWhile (fun d => (hexVal d).isSome) = ds :=
    takeWhile_stop _ ds 125 rest hall (by decide)
  have hget : (ds ++ 125 :: rest)[ds.length]? = some 125 := by
    rw [List.getElem?_append_right (Nat.le_refl _), Nat.sub_self]; rfl
  rw [unicode_append, specEscape_u, htw, hget, if_pos ⟨h2, h6, rfl⟩, List.length_append,
    List.length_append, Nat.add_comm [117, 123].length]
  rfl

/-! ### `Lexeme`: one escape; what `specEscape` reads and `RE_ESCAPE` measures -/

/-- `x` is exactly one of pest's escapes (backslash not included): an `Escape` with its code
    point, or a well-formed `\u{…}` beyond U+10FFFF, which denotes nothing.  This is what
    `specEscape x = some (v, x.length)` and (forgetting `v`) `escapeLen x = some x.length` say. -/
inductive Lexeme : List Nat → Option Nat → Prop
  | ok {x : List Nat} {v : Nat} : Escape x v → Lexeme x (some v)
  | range (ds : List Nat) : 2 ≤ ds.length → ds.length ≤ 6 → AllHex ds → 0x10FFFF < hexValue ds →
      Lexeme ([117, 123] ++ ds ++ [125]) none

theorem Lexeme.unicode {ds : List Nat} (h2 : 2 ≤ ds.length) (h6 : ds.length ≤ 6) (hall : AllHex ds) :
    Lexeme ([117, 123] ++ ds ++ [125]) (uniVal ds) := by
  unfold uniVal
  split
  · exact .ok (.unicode ds h2 h6 hall ‹_›)
  · exact .range ds h2 h6 hall (Nat.lt_of_not_le ‹_›)

/-- the append law, exactness (`Lexeme.whole`) and the passage to and from `Escape` are read off
    this -/
theorem specEscape_iff {t : List Nat} {v : Option Nat} {n : Nat} :
    specEscape t = some (v, n) ↔ ∃ x rest, t = x ++ rest ∧ x.length = n ∧ Lexeme x v := by
  constructor
  · intro h
    induction t using escape_shapes with
    | nil => cases h
    | simple c w t hs =>
      rw [specEscape_simple t hs] at h
      cases h
      exact ⟨[c], t, rfl, rfl, .ok (.simple c w hs)⟩
    | x_nil => cases h
    | x_one d => cases h
    | x d1 d0 t =>
      rw [specEscape_x] at h
      split at h
      · rename_i h1 h0 e1 e0
        cases h
        exact ⟨[120, d1, d0], t, rfl, rfl, .ok (.code d1 d0 h1 h0 e1 e0)⟩
      · cases h
    | u_nil => cases h
    | u_nobrace b t hb => rw [specEscape_u_nobrace t hb] at h; cases h
    | u t =>
      obtain ⟨ds, rest, rfl, hall, h2, h6, rfl, rfl⟩ := specEscape_u_inv h
      exact ⟨_, rest, (unicode_append ds rest).symm, by simp, .unicode h2 h6 hall⟩
    | other c t hs hx hu => rw [specEscape_other t hs hx hu] at h; cases h
  · rintro ⟨x, rest, rfl, rfl, hx⟩
    cases hx with
    | ok he =>
      cases he with
      | simple c v hs => exact specEscape_simple _ hs
      | code d1 d0 h1 h0 e1 e0 =>
        show specEscape (120 :: d1 :: d0 :: rest) = _
        rw [specEscape_x, e1, e0]
        rfl
      | unicode ds h2 h6 hall hr => rw [specEscape_unicode hall h2 h6, uniVal, if_pos hr]
    | range ds h2 h6 hall hr =>
      rw [specEscape_unicode hall h2 h6, uniVal, if_neg (Nat.not_le.2 hr)]

theorem Lexeme.length_pos {x : List Nat} {v : Option Nat} (h : Lexeme x v) : 1 ≤ x.length := by
  cases h with
  | ok he => cases he <;> simp
  | range ds => simp

theorem escape_iff {x : List Nat} {v : Nat} : Escape x v ↔ Lexeme x (some v) :=
  ⟨.ok, fun h => by cases h; assumption⟩

theorem Lexeme.whole {x : List Nat} {v : Option Nat} :
    specEscape x = some (v, x.length) ↔ Lexeme x v := by
  rw [specEscape_iff]
  constructor
  · rintro ⟨y, rest, he, hl, hy⟩
    exact List.IsPrefix.eq_of_length ⟨rest, he.symm⟩ hl ▸ hy
  · exact fun h => ⟨x, [], (List.append_nil x).symm, rfl, h⟩

theorem specEscape_lexeme {x : List Nat} {v : Option Nat} (h : Lexeme x v) (rest : List Nat) :
    specEscape (x ++ rest) = some (v, x.length) :=
  specEscape_iff.2 ⟨x, rest, rfl, rfl, h⟩

/-- `RE_ESCAPE` and `specEscape` are the same chain of tests, shape by shape -/
theorem escapeLen_spec (e : List Nat) : escapeLen e = (specEscape e).map (·.2) := by
  induction e using escape_shapes with
  | nil => rfl
  | simple c v t hs =>
    rw [specEscape_simple t hs]
    rcases simpleEscape_some hs with
      ⟨rfl, _⟩ | ⟨rfl, _⟩ | ⟨rfl, _⟩ | ⟨rfl, _⟩ | ⟨rfl, _⟩ | ⟨rfl, _⟩ | ⟨rfl, _⟩
    all_goals rfl
  | x_nil => rfl
  | x_one d => rfl
  | x d1 d0 t =>
    rw [specEscape_x]
    show (if (isHexDigit d1 && isHexDigit d0) = true then some 3 else none) = _
    rw [isHexDigit_eq, isHexDigit_eq]
    cases hexVal d1 <;> cases hexVal d0 <;> rfl
  | u_nil => rfl
  | u_nobrace b t hb =>
    rw [specEscape_u_nobrace t hb]
    exact if_neg hb
  | u t =>
    rw [specEscape_u, ← funext isHexDigit_eq]
    show (if _ then _ else none) = _
    split <;> rfl
  | other c t hs hx hu =>
    obtain ⟨h1, h2, h3, h4, h5, h6, h7⟩ := simpleEscape_none hs
    rw [specEscape_other t hs hx hu]
    show (if c = 92 ∨ c = 34 ∨ c = 114 ∨ c = 110 ∨ c = 116 ∨ c = 48 ∨ c = 39 then some 1
      else if c = 120 then _ else if c = 117 then _ else none) = none
    rw [if_neg (·.elim h2 (·.elim h1 (·.elim h3 (·.elim h4 (·.elim h5 (·.elim h6 h7)))))), if_neg hx,
      if_neg hu]

/-- `specEscape_iff` without the value -/
theorem escapeLen_iff {t : List Nat} {n : Nat} :
    escapeLen t = some n ↔ ∃ x rest v, t = x ++ rest ∧ x.length = n ∧ Lexeme x v := by
  rw [escapeLen_spec, Option.map_eq_some_iff]
  constructor
  · rintro ⟨⟨v, _⟩, hs, rfl⟩
    obtain ⟨x, rest, h⟩ := specEscape_iff.1 hs
    exact ⟨x, rest, v, h⟩
  · rintro ⟨x, rest, v, h⟩
    exact ⟨(v, n), specEscape_iff.2 ⟨x, rest, h⟩, rfl⟩

/-- "`RE_ESCAPE` matches all of `x`", the scanner's way of saying that `x` is one escape -/
theorem escapeLen_whole {x : List Nat} : escapeLen x = some x.length ↔ ∃ v, Lexeme x v := by
  constructor
  · intro h
    obtain ⟨y, rest, v, he, hl, hy⟩ := escapeLen_iff.1 h
    exact ⟨v, List.IsPrefix.eq_of_length ⟨rest, he.symm⟩ hl ▸ hy⟩
  · rintro ⟨v, h⟩
    exact escapeLen_iff.2 ⟨x, [], v, (List.append_nil x).symm, rfl, h⟩

/-! ### `Bad`: every other text; the decoder on the partition -/

/-- `t` (what follows a backslash) starts with no escape; `e` is the error
    `_decode_escape_sequence` raises on it.  `\u{…}` is judged as the decoder judges it, by the
    characters before the first `}`. -/
inductive Bad : List Nat → Err → Prop
  | nil : Bad [] .incomplete
  | unknown (c : Nat) (t : List Nat) : simpleEscape c = none → c ≠ 120 → c ≠ 117 →
      Bad (c :: t) .unknown
  | x_short (t : List Nat) : t.length < 2 → Bad (120 :: t) .incomplete
  | x_hex (d1 d0 : Nat) (t : List Nat) : ¬ AllHex [d1, d0] → Bad (120 :: d1 :: d0 :: t) .hex
  | brace (t : List Nat) : t.head? ≠ some 123 → Bad (117 :: t) .brace
  | unclosed (t : List Nat) : 125 ∉ t → Bad (117 :: 123 :: t) .unclosed
  | digits (ds rest : List Nat) : 125 ∉ ds → ¬ (2 ≤ ds.length ∧ ds.length ≤ 6) →
      Bad (117 :: 123 :: (ds ++ 125 :: rest)) .digits
  | hex (ds rest : List Nat) : 125 ∉ ds → 2 ≤ ds.length ∧ ds.length ≤ 6 → ¬ AllHex ds →
      Bad (117 :: 123 :: (ds ++ 125 :: rest)) .hex

theorem lexeme_or_bad (t : List Nat) :
    (∃ x rest v, t = x ++ rest ∧ Lexeme x v) ∨ ∃ e, Bad t e := by
  induction t using escape_shapes with
  | nil => exact .inr ⟨_, .nil⟩
  | simple c v t hs => exact .inl ⟨[c], t, _, rfl, .ok (.simple c v hs)⟩
  | x_nil => exact .inr ⟨_, .x_short [] (by decide)⟩
  | x_one d => exact .inr ⟨_, .x_short [d] (Nat.lt_succ_self 1)⟩
  | x d1 d0 t =>
    by_cases hh : AllHex [d1, d0]
    · obtain ⟨v1, h1⟩ := Option.isSome_iff_exists.1 (hh d1 (by simp))
      obtain ⟨v0, h0⟩ := Option.isSome_iff_exists.1 (hh d0 (by simp))
      exact .inl ⟨[120, d1, d0], t, _, rfl, .ok (.code d1 d0 v1 v0 h1 h0)⟩
    · exact .inr ⟨_, .x_hex d1 d0 t hh⟩
  | u_nil => exact .inr ⟨_, .brace [] nofun⟩
  | u_nobrace b t hb => exact .inr ⟨_, .brace (b :: t) fun e => hb (Option.some.inj e)⟩
  | u t =>
    by_cases hno : 125 ∈ t
    · obtain ⟨ds, rest, rfl, hds⟩ := List.eq_append_cons_of_mem hno
      by_cases hd : 2 ≤ ds.length ∧ ds.length ≤ 6
      · by_cases hh : AllHex ds
        · exact .inl ⟨_, rest, _, (unicode_append ds rest).symm, .unicode hd.1 hd.2 hh⟩
        · exact .inr ⟨_, .hex ds rest hds hd hh⟩
      · exact .inr ⟨_, .digits ds rest hds hd⟩
    · exact .inr ⟨_, .unclosed t hno⟩
  | other c t hs hx hu => exact .inr ⟨_, .unknown c t hs hx hu⟩

theorem decode_unicode {ds : List Nat} (h2 : 2 ≤ ds.length) (h6 : ds.length ≤ 6) (hall : AllHex ds)
    (rest : List Nat) :
    decodeEscapeSequence ([117, 123] ++ ds ++ [125] ++ rest) 0 =
      if hexValue ds > 0x10FFFF then .error .range else .ok (hexValue ds, ds.length + 2) := by
  rw [unicode_append, decode_u, decodeHexChar_closed ds rest (allHex_no_brace hall),
    if_neg (not_not_intro ⟨h2, h6⟩), if_pos hall, Nat.add_comm]

/-- `_decode_escape_sequence` returns the index of the last character of the escape, the
    specification its length: hence `x.length - 1` -/
theorem decode_lexeme {x : List Nat} {v : Option Nat} (h : Lexeme x v) (rest : List Nat) :
    decodeEscapeSequence (x ++ rest) 0 =
      match (generalizing := false) v with
      | some c => .ok (c, x.length - 1)
      | none => .error .range := by
  cases h with
  | ok he =>
    cases he with
    | simple c v hs =>
      rcases simpleEscape_some hs with
        ⟨rfl, rfl⟩ | ⟨rfl, rfl⟩ | ⟨rfl, rfl⟩ | ⟨rfl, rfl⟩ | ⟨rfl, rfl⟩ | ⟨rfl, rfl⟩ | ⟨rfl, rfl⟩
      all_goals rfl
    | code d1 d0 h1 h0 e1 e0 =>
      have hall : AllHex [d1, d0] :=
        allHex_cons.2 ⟨e1 ▸ rfl, allHex_cons.2 ⟨e0 ▸ rfl, fun _ h => nomatch h⟩⟩
      have hv : hexValue [d1, d0] = 16 * h1 + h0 := by simp [hexValue, e1, e0]
      have := hexVal_lt e1
      have := hexVal_lt e0
      show decodeEscapeSequence (120 :: d1 :: d0 :: rest) 0 = _
      rw [decode_x, parse_eq, if_pos hall, hv]
      dsimp only
      rw [pyChr, if_neg (by omega)]
      rfl
    | unicode ds h2 h6 hall hr =>
      rw [decode_unicode h2 h6 hall, if_neg (Nat.not_lt.2 hr)]
      simp
  | range ds h2 h6 hall hr => rw [decode_unicode h2 h6 hall, if_pos hr]

theorem decode_bad {t : List Nat} {e : Err} (h : Bad t e) :
    decodeEscapeSequence t 0 = .error e := by
  cases h with
  | nil => rfl
  | unknown c t hs hx hu =>
    obtain ⟨h1, h2, h3, h4, h5, h6, h7⟩ := simpleEscape_none hs
    unfold decodeEscapeSequence
    simp only [List.getElem?_cons_zero]
    rw [if_neg (fun h => h.elim h1 h7), if_neg h2, if_neg h4, if_neg h3, if_neg h5, if_neg h6,
      if_neg hx, if_neg hu]
  | x_short t ht =>
    match t, ht with
    | [], _ => rfl
    | [_], _ => rfl
    | _ :: _ :: _, h => exact absurd h (by simp)
  | x_hex d1 d0 t h => rw [decode_x, parse_eq, if_neg h]
  | brace t hb => rw [decode_u, decodeHexChar_nobrace t hb]
  | unclosed t hno => rw [decode_u, decodeHexChar_unclosed t hno]
  | digits ds rest hno hd => rw [decode_u, decodeHexChar_closed ds rest hno, if_pos hd]
  | hex ds rest hno hd hh =>
    rw [decode_u, decodeHexChar_closed ds rest hno, if_neg (not_not_intro hd), if_neg hh]

theorem Bad.ne_range {t : List Nat} {e : Err} (h : Bad t e) : e ≠ .range := by
  cases h <;> exact nofun

/-- the two classes are disjoint, and the decoder tells them apart: on a lexeme it returns a value
    or the `range` error, which is none of `Bad`'s -/
theorem Bad.specEscape_none {t : List Nat} {e : Err} (h : Bad t e) : specEscape t = none := by
  cases hs : specEscape t with
  | none => rfl
  | some p =>
    obtain ⟨v, n⟩ := p
    obtain ⟨x, rest, rfl, -, hx⟩ := specEscape_iff.1 hs
    have hd := decode_lexeme hx rest
    rw [decode_bad h] at hd
    cases v with
    | some c => cases hd
    | none => cases hd; exact absurd rfl h.ne_range

theorem decode_agrees (t : List Nat) :
    (∃ x rest v, t = x ++ rest ∧ Lexeme x v ∧ specEscape t = some (v, x.length) ∧
      decodeEscapeSequence t 0 =
        match v with
        | some c => .ok (c, x.length - 1)
        | none => .error .range) ∨
    ∃ e, Bad t e ∧ specEscape t = none ∧ decodeEscapeSequence t 0 = .error e := by
  rcases lexeme_or_bad t with ⟨x, rest, v, rfl, hx⟩ | ⟨e, hb⟩
  · exact .inl ⟨x, rest, v, rfl, hx, specEscape_lexeme hx rest, decode_lexeme hx rest⟩
  · exact .inr ⟨e, hb, hb.specEscape_none, decode_bad hb⟩

theorem unescape_cons_lexeme {x : List Nat} {v : Nat} (h : Lexeme x (some v)) (rest : List Nat) :
    unescape (92 :: (x ++ rest)) = (unescape rest).prepend [v] := by
  rw [unescape_cons_esc, decode_lexeme h rest]
  dsimp only
  rw [Nat.sub_add_cancel h.length_pos, List.drop_left]

theorem unescape_cons_lexeme_range {x : List Nat} (h : Lexeme x none) (rest : List Nat) :
    unescape (92 :: (x ++ rest)) = .error .range := by
  rw [unescape_cons_esc, decode_lexeme h rest]

theorem unescape_cons_bad {t : List Nat} {e : Err} (h : Bad t e) : unescape (92 :: t) = .error e := by
  rw [unescape_cons_esc, decode_bad h]

/-! ### whole bodies: `specUnescape` along the list, and as `Denotes` -/

theorem specUnescape_nil : specUnescape [] = some [] := specUnescape.eq_1

theorem specUnescape_cons_char {c : Nat} (r : List Nat) (hc : c ≠ 92) :
    specUnescape (c :: r) = (specUnescape r).map (c :: ·) := by
  rw [specUnescape.eq_2, if_pos hc]

theorem specUnescape_esc_some {r : List Nat} {cp n : Nat} (h : specEscape r = some (some cp, n)) :
    specUnescape (92 :: r) = (specUnescape (r.drop n)).map (cp :: ·) := by
  rw [specUnescape.eq_2, if_neg (by decide), h]

theorem specUnescape_esc_range {r : List Nat} {n : Nat} (h : specEscape r = some (none, n)) :
    specUnescape (92 :: r) = none := by
  rw [specUnescape.eq_2, if_neg (by decide), h]

theorem specUnescape_esc_none {r : List Nat} (h : specEscape r = none) :
    specUnescape (92 :: r) = none := by
  rw [specUnescape.eq_2, if_neg (by decide), h]

theorem specUnescape_cons_lexeme {x : List Nat} {v : Nat} (h : Lexeme x (some v))
    (rest : List Nat) : specUnescape (92 :: (x ++ rest)) = (specUnescape rest).map (v :: ·) := by
  rw [specUnescape_esc_some (specEscape_lexeme h rest), List.drop_left]

theorem spec_of_denotes {s r : List Nat} (h : Denotes s r) : specUnescape s = some r := by
  induction h with
  | nil => exact specUnescape_nil
  | char c s r hc _ ih => rw [specUnescape_cons_char s hc, ih]; rfl
  | esc e s v r he _ ih =>
    rw [specUnescape_cons_lexeme (.ok he), ih]
    rfl

theorem denotes_of_spec {s r : List Nat} (h : specUnescape s = some r) : Denotes s r := by
  fun_induction specUnescape s generalizing r with
  | case1 => cases h; exact .nil
  | case2 c rest hc ih =>
    obtain ⟨b, hb, rfl⟩ := Option.map_eq_some_iff.mp h
    exact .char c rest b hc (ih hb)
  | case3 c rest hc v n hs ih =>
    obtain rfl := Decidable.of_not_not hc
    obtain ⟨b, hb, rfl⟩ := Option.map_eq_some_iff.mp h
    obtain ⟨e, rest', rfl, rfl, hesc⟩ := specEscape_iff.1 hs
    rw [List.drop_left] at hb ih
    exact .esc e rest' v b (escape_iff.2 hesc) (ih hb)
  | case4 => cases h

/-! ### the append law, and the model against the specification -/

theorem unescape_append_denotes {s r : List Nat} (post : List Nat) (h : Denotes s r) :
    unescape (s ++ post) = (unescape post).prepend r := by
  induction h with
  | nil => rw [List.nil_append, prepend_nil]
  | char c s r hc _ ih =>
    rw [List.cons_append, unescape_cons_char _ hc, ih, prepend_prepend]
    rfl
  | esc e s v r he _ ih =>
    rw [List.cons_append, List.append_assoc, unescape_cons_lexeme (.ok he), ih, prepend_prepend]
    rfl

theorem unescape_append {pre a : List Nat} (post : List Nat) (h : specUnescape pre = some a) :
    unescape (pre ++ post) = (unescape post).prepend a :=
  unescape_append_denotes post (denotes_of_spec h)

theorem unescape_of_spec {s a : List Nat} (h : specUnescape s = some a) : unescape s = .ok a := by
  rw [← List.append_nil s, unescape_append [] h, unescape_nil]
  exact congrArg Res.ok (List.append_nil a)

theorem unescape_of_spec_none {s : List Nat} (h : specUnescape s = none) :
    ∃ e, unescape s = .error e := by
  fun_induction specUnescape s with
  | case1 => cases h
  | case2 c rest hc ih =>
    obtain ⟨e, he⟩ := ih (Option.map_eq_none_iff.1 h)
    exact ⟨e, by rw [unescape_cons_char rest hc, he]; rfl⟩
  | case3 c rest hc v n hs ih =>
    obtain rfl := Decidable.of_not_not hc
    obtain ⟨x, r, rfl, rfl, hx⟩ := specEscape_iff.1 hs
    rw [List.drop_left] at ih h
    obtain ⟨e, he⟩ := ih (Option.map_eq_none_iff.1 h)
    exact ⟨e, by rw [unescape_cons_lexeme hx, he]; rfl⟩
  | case4 c rest hc hs =>
    obtain rfl := Decidable.of_not_not hc
    rw [unescape_cons_esc]
    rcases decode_agrees rest with ⟨x, r, v, rfl, hx, hsp, hd⟩ | ⟨e, -, -, hd⟩
    · cases v with
      | some cp => exact (hs cp _ hsp).elim
      | none => exact ⟨.range, by rw [hd]⟩
    · exact ⟨e, by rw [hd]⟩

/-- the model returns what the specification says, and a `PestGrammarSyntaxError` where the
    specification says the text denotes nothing -/
theorem unescape_rel (s : List Nat) :
    (∃ a, specUnescape s = some a ∧ unescape s = .ok a) ∨
    (specUnescape s = none ∧ ∃ e, unescape s = .error e) := by
  cases hs : specUnescape s with
  | none => exact .inr ⟨rfl, unescape_of_spec_none hs⟩
  | some a => exact .inl ⟨a, rfl, unescape_of_spec hs⟩

theorem unescape_ne_exc (s : List Nat) (n : String) : unescape s ≠ .exc n := by
  rcases unescape_rel s with ⟨a, -, hu⟩ | ⟨-, e, hu⟩
  · rw [hu]; exact nofun
  · rw [hu]; exact nofun

theorem spec_of_unescape {s a : List Nat} (h : unescape s = .ok a) : specUnescape s = some a := by
  rcases unescape_rel s with ⟨b, hs, hu⟩ | ⟨-, e, hu⟩
  · rw [hu] at h; cases h; exact hs
  · rw [hu] at h; cases h

/-! ### spelling: texts without a backslash, `hexN` -/

theorem specUnescape_plain : ∀ (s : List Nat), (∀ c ∈ s, c ≠ 92) → specUnescape s = some s := by
  intro s
  induction s with
  | nil => intro _; exact specUnescape_nil
  | cons c r ih =>
    intro h
    rw [specUnescape_cons_char r (h c (by simp)), ih (fun x hx => h x (by simp [hx]))]
    rfl

theorem hexVal_hexChar {n : Nat} (h : n < 16) : hexVal (hexChar n) = some n :=
  (by decide : ∀ n, n < 16 → hexVal (hexChar n) = some n) n h

theorem hexVal_hexCharLower {n : Nat} (h : n < 16) : hexVal (hexCharLower n) = some n :=
  (by decide : ∀ n, n < 16 → hexVal (hexCharLower n) = some n) n h

theorem hexValue_snoc (ds : List Nat) (d : Nat) :
    hexValue (ds ++ [d]) = 16 * hexValue ds + (hexVal d).getD 0 := by
  simp [hexValue, List.foldl_append]

theorem length_hexN : ∀ (k v : Nat), (hexN k v).length = k := by
  intro k
  induction k with
  | zero => intro v; rfl
  | succ k ih => intro v; simp [hexN, ih]

theorem allHex_hexN : ∀ (k v : Nat), AllHex (hexN k v) := by
  intro k
  induction k with
  | zero => intro v d hd; cases hd
  | succ k ih =>
    intro v d hd
    simp only [hexN, List.mem_append, List.mem_singleton] at hd
    rcases hd with hd | rfl
    · exact ih _ d hd
    · rw [hexVal_hexChar (Nat.mod_lt _ (by omega))]; rfl

theorem hexValue_hexN : ∀ (k v : Nat), v < 16 ^ k → hexValue (hexN k v) = v := by
  intro k
  induction k with
  | zero => intro v hv; simp only [Nat.pow_zero] at hv; simp [hexN, hexValue]; omega
  | succ k ih =>
    intro v hv
    have hdiv : v / 16 < 16 ^ k := by
      rw [Nat.pow_succ] at hv
      exact Nat.div_lt_of_lt_mul (by rw [Nat.mul_comm]; exact hv)
    rw [hexN, hexValue_snoc, ih _ hdiv, hexVal_hexChar (Nat.mod_lt _ (by omega))]
    simp only [Option.getD_some]
    omega

end Unescape
end Pest
