/-
  Lemmas/FrontCstGlue.lean — between the concrete syntax tree (Lemmas/FrontInvCst.lean) and the
  source-level AST with its layout relation `GrammarText'` (Front/AstText2.lean).

  Three kinds of object: the items `g.kv` of an S-tree (numbers, integers and characters as the printer
  writes them), the tokens `c.kv` of a C-tree (lexemes verbatim), a text.  `Act K L`: the tokens `L`
  respell the items `K`.  On texts: `Sc' K` (some spelling of each item of `K`), `ScA L` (the tokens `L`
  verbatim).

  Read Lemmas/FrontCstSep.lean, FrontCstLex.lean and FrontScanLex.lean first.  The reject half is an
  induction on the C-tree (`node_g1 … rule_g1` → `ctree_grammar`: what the scanner found and the parser
  accepted is a well-formed grammar text); the accept half an induction on the S-tree with `Act` inverted
  along `++` (`node_g2' … rule_g2` → `ctree_of_text'`: a grammar text is a layout of a C-tree the scanner
  accepts).  `C10.front_exact` rests on these two.  Behind them `ctree_act` (for `Front.scan_accept_text'`,
  which is `C10.scan_accept`, only) and the printer's spelling — `GrammarText` of Front/AstTrivia.lean, `WF`
  of Front/Ast.lean —, which the round trips of Props/C10.lean need.
-/
import PestModel.Lemmas.FrontCstSep
import PestModel.Lemmas.FrontCstLex
import PestModel.Lemmas.FrontScanLex

namespace Pest
namespace Front

/-! ### `Act` under `++`; the kinds whose token is its spelling (`Verb`) -/

namespace IA

theorem _root_.Pest.Front.Act.append {a a' b b' : List KV} (h1 : Act a a') (h2 : Act b b') :
    Act (a ++ b) (a' ++ b') := by
  induction h1 with
  | nil => simpa using h2
  | cons hkv _ ih => exact .cons hkv ih

theorem _root_.Pest.Front.Act.length {a b : List KV} (h : Act a b) : a.length = b.length := by
  induction h with
  | nil => rfl
  | cons _ _ ih => simp [ih]

theorem act_nil_inv {l : List KV} (h : Act [] l) : l = [] := by cases h; rfl

theorem act_cons_inv {kv : KV} {l m : List KV} (h : Act (kv :: l) m) :
    ∃ kv' l', m = kv' :: l' ∧ ActKV kv kv' ∧ Act l l' := by
  cases h with
  | cons hkv hl => exact ⟨_, _, rfl, hkv, hl⟩

theorem act_append_inv : ∀ (a : List KV) {b m : List KV}, Act (a ++ b) m →
    ∃ a' b', m = a' ++ b' ∧ Act a a' ∧ Act b b' := by
  intro a
  induction a with
  | nil => intro b m h; exact ⟨[], m, rfl, .nil, h⟩
  | cons kv a ih =>
    intro b m h
    obtain ⟨kv', l', rfl, hkv, hl⟩ := act_cons_inv h
    obtain ⟨a', b', rfl, ha, hb⟩ := ih hl
    exact ⟨kv' :: a', b', rfl, .cons hkv ha, hb⟩

/-- the kinds whose token is spelled verbatim and carries its spelling -/
def Verb (k : TK) : Prop :=
  k ≠ .string ∧ k ≠ .stringCI ∧ k ≠ .char ∧ k ≠ .number ∧ k ≠ .integer

instance : DecidablePred Verb := fun k => by unfold Verb; infer_instance

theorem spells_verb {k : TK} {v w : Text} (h : Verb k) : Spells (k, v) w ↔ w = v := by
  obtain ⟨h1, h2, h3, h4, h5⟩ := h
  cases k <;> first | exact Iff.rfl | contradiction

theorem spell_verb {k : TK} {v : Text} (h : Verb k) : spell (k, v) = v := by
  obtain ⟨h1, h2, h3, h4, h5⟩ := h
  cases k <;> first | rfl | contradiction

theorem verb_keyword (n : Text) : Verb (keywordKind n) := by
  rcases PRT.keywordKind_cases n with ⟨_, h⟩ | h | h | h | h | h <;> rw [h] <;> decide

theorem verb_opKV (b : Bool) : Verb (opKV b).1 := by cases b <;> decide

end IA

/-! ### `abs`, equation by equation: when it is defined, and what it is then -/

theorem CNode.abs_range {a b : Text} {n : SNode} :
    (CNode.range a b).abs = some n ↔
      ∃ x y, absChar a = some x ∧ absChar b = some y ∧ x ≤ y ∧ n = .range x y := by
  rw [CNode.abs]
  cases absChar a <;> cases absChar b <;> simp [eq_comm]

theorem CNode.abs_push {bar : Bool} {e : CExpr} {n : SNode} :
    (CNode.push bar e).abs = some n ↔ ∃ e', e.abs = some e' ∧ n = .push bar e' := by
  rw [CNode.abs]
  cases e.abs <;> simp [eq_comm]

theorem CNode.abs_slice {a b : Option Text} {n : SNode} :
    (CNode.slice a b).abs = some n ↔ ∃ x y, absOptInt a = some x ∧ absOptInt b = some y ∧ n = .slice x y := by
  rw [CNode.abs]
  cases absOptInt a <;> cases absOptInt b <;> simp [eq_comm]

theorem CNode.abs_paren {bar : Bool} {e : CExpr} {n : SNode} :
    (CNode.paren bar e).abs = some n ↔ ∃ e', e.abs = some e' ∧ n = .paren bar e' := by
  rw [CNode.abs]
  cases e.abs <;> simp [eq_comm]

theorem CTerm.abs_mk {tag : Option Text} {pre : List Bool} {node : CNode} {post : List CPost} {t : STerm} :
    (CTerm.mk tag pre node post).abs = some t ↔
      ∃ n p, node.abs = some n ∧ absPosts post = some p ∧ t = .mk tag pre n p := by
  rw [CTerm.abs]
  cases node.abs <;> cases absPosts post <;> simp [eq_comm]

theorem CExpr.abs_one {ct : CTerm} {e : SExpr} : (CExpr.one ct).abs = some e ↔ ∃ t, ct.abs = some t ∧ e = .one t := by
  rw [CExpr.abs]
  cases ct.abs <;> simp [eq_comm]

theorem CExpr.abs_cons {ct : CTerm} {bar : Bool} {rest : CExpr} {e : SExpr} :
    (CExpr.cons ct bar rest).abs = some e ↔
      ∃ t r, ct.abs = some t ∧ rest.abs = some r ∧ e = .cons t bar r := by
  rw [CExpr.abs]
  cases ct.abs <;> cases rest.abs <;> simp [eq_comm]

theorem absPosts_cons {p : CPost} {ps : List CPost} {qs : List Post} :
    absPosts (p :: ps) = some qs ↔ ∃ q qs', p.abs = some q ∧ absPosts ps = some qs' ∧ qs = q :: qs' := by
  rw [absPosts]
  cases p.abs <;> cases absPosts ps <;> simp [eq_comm]

theorem CRule.abs_eq_some {r : CRule} {r' : SRule} :
    r.abs = some r' ↔ ∃ e, r.body.abs = some e ∧ r' = ⟨r.docs, r.name, r.mod, r.bar, e⟩ := by
  rw [CRule.abs]
  cases r.body.abs <;> simp [eq_comm]

theorem absRules_cons {r : CRule} {rs : List CRule} {l : List SRule} :
    absRules (r :: rs) = some l ↔ ∃ r' rs', r.abs = some r' ∧ absRules rs = some rs' ∧ l = r' :: rs' := by
  rw [absRules]
  cases r.abs <;> cases absRules rs <;> simp [eq_comm]

theorem CGrammar.abs_eq_some {c : CGrammar} {g : SGrammar} :
    c.abs = some g ↔ ∃ rs, absRules c.rules = some rs ∧ g = ⟨c.gdocs, rs, c.trailing⟩ := by
  rw [CGrammar.abs]
  cases absRules c.rules <;> simp [eq_comm]

namespace IG
open IA (act_nil_inv act_cons_inv act_append_inv)

/-! ### `Plain`: the kinds on which `ActKV` is equality; the three on which it is a spelling -/

/-- a token whose value is not a spelling: neither a number nor an integer nor a character -/
def Plain (kv : KV) : Prop := kv.1 ≠ .char ∧ kv.1 ≠ .number ∧ kv.1 ≠ .integer

instance : DecidablePred Plain := fun kv => by unfold Plain; infer_instance

theorem actVal_plain {kv : KV} (hp : Plain kv) (w : Text) : ActVal kv w ↔ w = kv.2 := by
  obtain ⟨h1, h2, h3⟩ := hp
  unfold ActVal
  split
  · exact absurd rfl h1
  · exact absurd rfl h2
  · exact absurd rfl h3
  · exact Iff.rfl

theorem actKV_plain {kv kv' : KV} (hp : Plain kv) : ActKV kv kv' ↔ kv' = kv := by
  unfold ActKV
  rw [actVal_plain hp]
  obtain ⟨k, v⟩ := kv
  obtain ⟨k', v'⟩ := kv'
  simp

theorem act_cons_plain (kv : KV) (hp : Plain kv) {l l' : List KV} (h : Act l l') :
    Act (kv :: l) (kv :: l') := .cons ((actKV_plain hp).2 rfl) h

theorem act_refl_plain : ∀ (K : List KV), (∀ kv ∈ K, Plain kv) → Act K K
  | [], _ => .nil
  | kv :: K, h => act_cons_plain kv (h kv (List.mem_cons_self ..)) (act_refl_plain K fun x hx => h x (List.mem_cons_of_mem _ hx))

theorem act_plain_inv : ∀ {K L : List KV}, (∀ kv ∈ K, Plain kv) → Act K L → L = K
  | [], _, _, h => act_nil_inv h
  | kv :: K, L, hp, h => by
    obtain ⟨kv', l', rfl, hk, hl⟩ := act_cons_inv h
    rw [(actKV_plain (hp kv (List.mem_cons_self ..))).1 hk, act_plain_inv (fun x hx => hp x (List.mem_cons_of_mem _ hx)) hl]

theorem plain_append {A B : List KV} (hA : ∀ kv ∈ A, Plain kv) (hB : ∀ kv ∈ B, Plain kv) :
    ∀ kv ∈ A ++ B, Plain kv := by
  intro kv h
  rcases List.mem_append.mp h with h | h
  · exact hA kv h
  · exact hB kv h

theorem act_between {A B X X' : List KV} (hA : ∀ kv ∈ A, Plain kv) (hB : ∀ kv ∈ B, Plain kv) (h : Act X X') :
    Act (A ++ X ++ B) (A ++ X' ++ B) :=
  Act.append (Act.append (act_refl_plain A hA) h) (act_refl_plain B hB)

theorem act_between_inv {A B X L : List KV} (hA : ∀ kv ∈ A, Plain kv) (hB : ∀ kv ∈ B, Plain kv)
    (h : Act (A ++ X ++ B) L) : ∃ X', L = A ++ X' ++ B ∧ Act X X' := by
  obtain ⟨l12, l3, rfl, h12, h3⟩ := act_append_inv _ h
  obtain ⟨l1, l2, rfl, h1, h2⟩ := act_append_inv _ h12
  rw [act_plain_inv hA h1, act_plain_inv hB h3]
  exact ⟨l2, rfl, h2⟩

theorem plain_of_kind {k : TK} {v : Text} (h1 : k ≠ .char) (h2 : k ≠ .number) (h3 : k ≠ .integer) :
    Plain (k, v) := ⟨h1, h2, h3⟩

theorem plain_nil : ∀ kv ∈ ([] : List KV), Plain kv := fun _ h => nomatch h

theorem plain_cons {k : TK} {v : Text} {K : List KV} (hK : ∀ kv ∈ K, Plain kv) (h1 : k ≠ .char := by decide)
    (h2 : k ≠ .number := by decide) (h3 : k ≠ .integer := by decide) : ∀ kv ∈ (k, v) :: K, Plain kv := by
  intro kv h
  rcases List.mem_cons.mp h with rfl | h
  · exact ⟨h1, h2, h3⟩
  · exact hK kv h

theorem plain_single {kv : KV} (h : Plain kv) : ∀ x ∈ [kv], Plain x := by
  intro x hx
  cases List.mem_singleton.1 hx
  exact h

theorem plain_of_verb {kv : KV} (h : IA.Verb kv.1) : Plain kv := ⟨h.2.2.1, h.2.2.2.1, h.2.2.2.2⟩

theorem plain_barKV : ∀ (bar : Bool), ∀ kv ∈ barKV bar, Plain kv
  | false => plain_nil
  | true => plain_cons plain_nil

theorem plain_preKV (pre : List Bool) : ∀ kv ∈ pre.map preKV, Plain kv := by
  intro kv h
  obtain ⟨b, _, rfl⟩ := List.mem_map.1 h
  cases b <;> decide

theorem plain_tagKV : ∀ (tag : Option Text), ∀ kv ∈ tagKV tag, Plain kv
  | none => plain_nil
  | some _ => plain_cons (plain_cons plain_nil)

theorem plain_modKV : ∀ (m : Option Nat), ∀ kv ∈ modKV m, Plain kv
  | none => plain_nil
  | some _ => plain_cons plain_nil

theorem plain_docsKV {k : TK} {m : Text} (hk : Plain (k, m)) (docs : List Text) :
    ∀ kv ∈ (docs.map (docKV k m)).flatten, Plain kv := by
  intro kv h
  simp only [List.mem_flatten, List.mem_map] at h
  obtain ⟨l, ⟨d, _, rfl⟩, hkv⟩ := h
  simp only [docKV, List.mem_cons, List.not_mem_nil, or_false] at hkv
  rcases hkv with rfl | rfl
  · exact hk
  · simp [Plain]

theorem actKV_number {n : Nat} {w : Text} (h : NumSpell n w) : ActKV (.number, natDigits n) (.number, w) :=
  ⟨rfl, n, rfl, h⟩

theorem actKV_integer {i : Int} {w : Text} (h : IntSpell i w) : ActKV (.integer, intDigits i) (.integer, w) :=
  ⟨rfl, i, rfl, h⟩

theorem actKV_char {a : Nat} {w : Text} (h : CharSpell a w) : ActKV (.char, charLit a) (.char, w) :=
  ⟨rfl, a, rfl, h⟩

theorem actKV_inv {k : TK} {v : Text} {kv' : KV} (h : ActKV (k, v) kv') : ∃ w, kv' = (k, w) ∧ ActVal (k, v) w := by
  obtain ⟨k', w⟩ := kv'
  obtain ⟨hk, hv⟩ := h
  simp only at hk
  subst hk
  exact ⟨w, rfl, hv⟩

theorem actKV_number_inv {n : Nat} {kv' : KV} (h : ActKV (.number, natDigits n) kv') :
    ∃ w, kv' = (.number, w) ∧ NumSpell n w := by
  obtain ⟨w, rfl, m, hm, hs⟩ := actKV_inv h
  exact ⟨w, rfl, natDigits_inj hm ▸ hs⟩

theorem actKV_integer_inv {i : Int} {kv' : KV} (h : ActKV (.integer, intDigits i) kv') :
    ∃ w, kv' = (.integer, w) ∧ IntSpell i w := by
  obtain ⟨w, rfl, m, hm, hs⟩ := actKV_inv h
  exact ⟨w, rfl, intDigits_inj hm ▸ hs⟩

theorem actKV_char_inv {a : Nat} {kv' : KV} (h : ActKV (.char, charLit a) kv') :
    ∃ w, kv' = (.char, w) ∧ CharSpell a w := by
  obtain ⟨w, rfl, m, hm, hs⟩ := actKV_inv h
  exact ⟨w, rfl, charLit_inj hm ▸ hs⟩

theorem act_cons_plain_inv {kv : KV} {l L : List KV} (hp : Plain kv) (h : Act (kv :: l) L) :
    ∃ l', L = kv :: l' ∧ Act l l' := by
  obtain ⟨kv', l', rfl, hk, hl⟩ := act_cons_inv h
  rw [(actKV_plain hp).1 hk]
  exact ⟨l', rfl, hl⟩

theorem act_number_inv {n : Nat} {l L : List KV} (h : Act ((.number, natDigits n) :: l) L) :
    ∃ w l', L = (.number, w) :: l' ∧ NumSpell n w ∧ Act l l' := by
  obtain ⟨kv, l', rfl, hk, hl⟩ := act_cons_inv h
  obtain ⟨w, rfl, hw⟩ := actKV_number_inv hk
  exact ⟨w, l', rfl, hw, hl⟩

/-! ### on texts: `Sc' K` is `ScA L` for some `L` that respells `K` -/

theorem spells_of_spellsA {kv kv' : KV} {w : Text} (ha : ActKV kv kv') (hs : SpellsA kv' w) :
    Spells kv w := by
  obtain ⟨k, v⟩ := kv
  obtain ⟨k', v'⟩ := kv'
  obtain ⟨hk, hv⟩ := ha
  simp only at hk hv
  subst hk
  cases k' <;> first | (cases hv; exact hs) | (cases hs; exact hv)

theorem sc'_of_scA : ∀ {K K' : List KV} {t tl : Text}, Act K K' → ScA K' t tl → Sc' K t tl := by
  intro K K' t tl ha hs
  induction hs generalizing K with
  | nil tl => cases ha; exact .nil tl
  | cons kv' hsp hw _ ih =>
    cases ha with
    | cons hk hl => exact .cons _ (spells_of_spellsA hk hsp) hw (ih hl)

theorem spellsA_of_spells {kv : KV} {w : Text} (h : Spells kv w) : ∃ kv', ActKV kv kv' ∧ SpellsA kv' w := by
  obtain ⟨k, v⟩ := kv
  cases k <;> first | exact ⟨(_, v), ⟨rfl, rfl⟩, h⟩ | exact ⟨(_, w), ⟨rfl, h⟩, rfl⟩

theorem scA_of_sc' {K : List KV} {t tl : Text} (h : Sc' K t tl) : ∃ L, Act K L ∧ ScA L t tl := by
  induction h with
  | nil tl => exact ⟨[], .nil, .nil tl⟩
  | cons kv hsp hw _ ih =>
    obtain ⟨L, ha, hs⟩ := ih
    obtain ⟨kv', hk, hsa⟩ := spellsA_of_spells hsp
    exact ⟨kv' :: L, .cons hk ha, .cons _ hsa hw hs⟩

/-! ### from the C-tree to the AST (reject half) -/

theorem post_g1 {p : CPost} {q : Post} (h : p.abs = some q) (hv : p.Valid) :
    WFPost q ∧ Act (postKV q) p.kv := by
  unfold CPost.abs at h
  split at h
  · cases h; exact ⟨trivial, act_refl_plain _ (by decide)⟩
  · cases h; exact ⟨trivial, act_refl_plain _ (by decide)⟩
  · cases h; exact ⟨trivial, act_refl_plain _ (by decide)⟩
  · rename_i a
    obtain ⟨n, ha, rfl⟩ := Option.map_eq_some_iff.1 h
    obtain ⟨hn, hs⟩ := (numSpell_iff (hv a (by simp))).1 ha
    exact ⟨hn, act_cons_plain _ (by decide) (.cons (actKV_number hs)
      (act_cons_plain _ (by decide) .nil))⟩
  · rename_i a
    obtain ⟨n, ha, rfl⟩ := Option.map_eq_some_iff.1 h
    obtain ⟨hn, hs⟩ := (numSpell_iff (hv a (by simp))).1 ha
    exact ⟨hn, act_cons_plain _ (by decide) (.cons (actKV_number hs)
      (act_cons_plain _ (by decide) (act_cons_plain _ (by decide) .nil)))⟩
  · rename_i a
    obtain ⟨n, ha, rfl⟩ := Option.map_eq_some_iff.1 h
    obtain ⟨hn, hs⟩ := (numSpell_iff (hv a (by simp))).1 ha
    exact ⟨hn, act_cons_plain _ (by decide) (act_cons_plain _ (by decide)
      (.cons (actKV_number hs) (act_cons_plain _ (by decide) .nil)))⟩
  · rename_i a b
    split at h
    · rename_i m n ha hb
      cases h
      obtain ⟨hm, hsa⟩ := (numSpell_iff (hv a (by simp))).1 ha
      obtain ⟨hn, hsb⟩ := (numSpell_iff (hv b (by simp))).1 hb
      exact ⟨⟨hm, hn⟩, act_cons_plain _ (by decide) (.cons (actKV_number hsa)
        (act_cons_plain _ (by decide) (.cons (actKV_number hsb)
          (act_cons_plain _ (by decide) .nil))))⟩
    · cases h
  · cases h

theorem posts_g1 : ∀ {ps : List CPost} {qs : List Post}, absPosts ps = some qs → (∀ p ∈ ps, p.Valid) →
    (∀ q ∈ qs, WFPost q) ∧ Act (qs.map postKV).flatten (ps.map CPost.kv).flatten
  | [], qs, h, _ => by
    cases h
    exact ⟨by simp, .nil⟩
  | p :: ps, qs, h, hv => by
    obtain ⟨q, qs', hp, hps, rfl⟩ := absPosts_cons.1 h
    obtain ⟨w1, a1⟩ := post_g1 hp (hv p (List.mem_cons_self ..))
    obtain ⟨w2, a2⟩ := posts_g1 hps (fun x hx => hv x (List.mem_cons_of_mem _ hx))
    exact ⟨List.forall_mem_cons.2 ⟨w1, w2⟩, by simpa using Act.append a1 a2⟩

theorem optInt_g1 {a : Option Text} {x : Option Int} (h : absOptInt a = some x)
    (hv : ∀ w, a = some w → IsIntTok w) : SliceIdxOK x ∧ Act (optIntKV x) (optKV .integer a) := by
  cases a with
  | none =>
    cases h
    exact ⟨trivial, .nil⟩
  | some w =>
    obtain ⟨i, hw, rfl⟩ := Option.map_eq_some_iff.1 h
    obtain ⟨hs, hi⟩ := intSpell_of_absInt hw (hv w rfl)
    exact ⟨hi, .cons (actKV_integer hs) .nil⟩

mutual
theorem node_g1 : ∀ (nd : CNode) (n : SNode), nd.abs = some n → nd.Valid → n.WF' ∧ Act n.kv nd.kv
  | .str s, n, h, _ => by
    cases h
    exact ⟨trivial, act_refl_plain _ (plain_cons plain_nil)⟩
  | .ci s, n, h, _ => by
    cases h
    exact ⟨trivial, act_refl_plain _ (plain_cons plain_nil)⟩
  | .range a b, n, h, hv => by
    obtain ⟨x, y, ha, hb, hxy, rfl⟩ := CNode.abs_range.1 h
    dsimp only [CNode.Valid] at hv
    exact ⟨hxy, .cons (actKV_char (charSpell_of_absChar ha hv.1))
      (act_cons_plain _ (by decide) (.cons (actKV_char (charSpell_of_absChar hb hv.2)) .nil))⟩
  | .ident name, n, h, hv => by
    cases h
    dsimp only [CNode.Valid] at hv
    exact ⟨hv, act_refl_plain _ (plain_single (plain_of_verb (IA.verb_keyword _)))⟩
  | .pushLit (some s), n, h, _ => by
    cases h
    exact ⟨trivial, act_refl_plain _ (plain_cons (plain_cons (plain_cons (plain_cons plain_nil))))⟩
  | .pushLit none, n, h, _ => by cases h
  | .push bar e, n, h, hv => by
    obtain ⟨e', he, rfl⟩ := CNode.abs_push.1 h
    dsimp only [CNode.Valid] at hv
    obtain ⟨w, a⟩ := expr_g1 e e' he hv
    refine ⟨w, ?_⟩
    dsimp only [SNode.kv, CNode.kv]
    exact act_between (plain_append (by decide) (plain_barKV bar)) (by decide) a
  | .slice a b, n, h, hv => by
    obtain ⟨x, y, ha, hb, rfl⟩ := CNode.abs_slice.1 h
    dsimp only [CNode.Valid] at hv
    refine ⟨⟨(optInt_g1 ha hv.1).1, (optInt_g1 hb hv.2).1⟩, ?_⟩
    dsimp only [SNode.kv, CNode.kv]
    exact Act.append (Act.append (Act.append (Act.append (act_refl_plain _ (by decide))
      (optInt_g1 ha hv.1).2) (act_refl_plain _ (by decide))) (optInt_g1 hb hv.2).2)
      (act_refl_plain _ (by decide))
  | .paren bar e, n, h, hv => by
    obtain ⟨e', he, rfl⟩ := CNode.abs_paren.1 h
    dsimp only [CNode.Valid] at hv
    obtain ⟨w, a⟩ := expr_g1 e e' he hv
    refine ⟨w, ?_⟩
    dsimp only [SNode.kv, CNode.kv]
    exact act_between (plain_append (by decide) (plain_barKV bar)) (by decide) a
theorem term_g1 : ∀ (ct : CTerm) (t : STerm), ct.abs = some t → ct.Valid → t.WF' ∧ Act t.kv ct.kv
  | .mk tag pre node post, t, h, hv => by
    obtain ⟨n, qs, hn, hp, rfl⟩ := CTerm.abs_mk.1 h
    dsimp only [CTerm.Valid] at hv
    obtain ⟨w1, a1⟩ := node_g1 node n hn hv.2.1
    obtain ⟨w2, a2⟩ := posts_g1 hp hv.2.2
    refine ⟨⟨hv.1, w1, w2⟩, ?_⟩
    dsimp only [STerm.kv, CTerm.kv]
    exact Act.append (Act.append (Act.append (act_refl_plain _ (plain_tagKV tag))
      (act_refl_plain _ (plain_preKV pre))) a1) a2
theorem expr_g1 : ∀ (ce : CExpr) (e : SExpr), ce.abs = some e → ce.Valid → e.WF' ∧ Act e.kv ce.kv
  | .one ct, e, h, hv => by
    obtain ⟨t, ht, rfl⟩ := CExpr.abs_one.1 h
    exact term_g1 ct t ht hv
  | .cons ct bar rest, e, h, hv => by
    obtain ⟨t, r', ht, hr, rfl⟩ := CExpr.abs_cons.1 h
    dsimp only [CExpr.Valid] at hv
    obtain ⟨w1, a1⟩ := term_g1 ct t ht hv.1
    obtain ⟨w2, a2⟩ := expr_g1 rest r' hr hv.2
    refine ⟨⟨w1, w2⟩, ?_⟩
    dsimp only [SExpr.kv, CExpr.kv]
    exact Act.append (Act.append a1 (act_refl_plain _ (plain_single (plain_of_verb (IA.verb_opKV bar))))) a2
end

theorem plain_head (name : Text) (m : Option Nat) (bar : Bool) {u v : Text} :
    ∀ kv ∈ [(TK.identifier, name), (TK.assignOp, u)] ++ modKV m ++ [(TK.lbrace, v)] ++ barKV bar,
      Plain kv :=
  plain_append (plain_append (plain_append (plain_cons (plain_cons plain_nil)) (plain_modKV m))
    (plain_cons plain_nil)) (plain_barKV bar)

theorem rule_g1 {r : CRule} {r' : SRule} (h : r.abs = some r') (hv : r.Valid) :
    r'.WF' ∧ r'.docs = r.docs ∧ Act r'.headKV r.headKV := by
  obtain ⟨e, he, rfl⟩ := CRule.abs_eq_some.1 h
  obtain ⟨v1, v2, v3, v4⟩ := hv
  obtain ⟨w, a⟩ := expr_g1 r.body e he v4
  refine ⟨⟨v1, v2, v3, w⟩, rfl, ?_⟩
  simp only [SRule.headKV, CRule.headKV]
  exact act_between (plain_head r.name r.mod r.bar) (by decide) a

theorem rules_g1 : ∀ {rs : List CRule} {rs' : List SRule}, absRules rs = some rs' → (∀ r ∈ rs, r.Valid) →
    (∀ r' ∈ rs', r'.WF') ∧ ∀ t tl, CRulesText rs t tl → RulesText' rs' t tl
  | [], rs', h, _ => by
    cases h
    exact ⟨by simp, fun t tl ht => ht⟩
  | r :: rs, rs', h, hv => by
    obtain ⟨r', rs'', hr, hrs, rfl⟩ := absRules_cons.1 h
    obtain ⟨w1, d1, a1⟩ := rule_g1 hr (hv r (List.mem_cons_self ..))
    obtain ⟨w2, t2⟩ := rules_g1 hrs (fun x hx => hv x (List.mem_cons_of_mem _ hx))
    refine ⟨List.forall_mem_cons.2 ⟨w1, w2⟩, ?_⟩
    intro t tl ⟨t1, u2, hd, hs, hrest⟩
    exact ⟨t1, u2, by rw [d1]; exact hd, sc'_of_scA a1 hs, t2 _ _ hrest⟩

/-- **from the C-tree to the grammar text.**  What the scanner found (a layout of a C-tree with
    valid lexemes) and the parser accepted (`abs` defined) is a layout of a well-formed grammar. -/
theorem ctree_grammar {c : CGrammar} {g : SGrammar} {t : Text} (h : c.abs = some g) (hv : c.Valid)
    (ht : CGrammarText c t) : g.WF' ∧ GrammarText' g t := by
  obtain ⟨rs, hr, rfl⟩ := CGrammar.abs_eq_some.1 h
  obtain ⟨v1, v2, v3⟩ := hv
  obtain ⟨w, tx⟩ := rules_g1 hr v2
  obtain ⟨lead, t0, t1, t2, e, hl, rfl, hg, hrs, htr, he⟩ := ht
  exact ⟨⟨v1, w, v3⟩, lead, t0, t1, t2, e, hl, rfl, hg, tx _ _ hrs, htr, he⟩

/-! ### from the AST and the emitted tokens to a C-tree (accept half)

The tree found has valid lexemes (the spellings `NumSpell/IntSpell/CharSpell` are of the scanner's
lexeme classes) and is separated (`Sep`, Lemmas/FrontCstSep.lean): it is one the scanner accepts. -/

theorem valid_items {items : List (Option Text)} (h : ∀ x ∈ items, ∀ w, x = some w → IsDigits w) :
    (CPost.braces items).Valid := fun w hw => h _ hw w rfl

theorem post_g2 {q : Post} (hq : WFPost q) {L : List KV} (h : Act (postKV q) L) :
    ∃ p : CPost, p.abs = some q ∧ p.kv = L ∧ p.Valid ∧ p.Sep := by
  cases q with
  | opt => exact ⟨.opt, rfl, (act_plain_inv (by decide) h).symm, trivial, trivial⟩
  | rep => exact ⟨.rep, rfl, (act_plain_inv (by decide) h).symm, trivial, trivial⟩
  | rep1 => exact ⟨.rep1, rfl, (act_plain_inv (by decide) h).symm, trivial, trivial⟩
  | exact n =>
    obtain ⟨l1, rfl, h1⟩ := act_cons_plain_inv (by decide) h
    obtain ⟨w, l2, rfl, hw, h2⟩ := act_number_inv h1
    cases act_plain_inv (by decide) h2
    exact ⟨.braces [some w], by rw [CPost.abs, (numSpell_iff (isDigits_of_numSpell hw)).2 ⟨hq, hw⟩]; rfl, rfl,
      valid_items (by simp [isDigits_of_numSpell hw]), rfl⟩
  | min n =>
    obtain ⟨l1, rfl, h1⟩ := act_cons_plain_inv (by decide) h
    obtain ⟨w, l2, rfl, hw, h2⟩ := act_number_inv h1
    cases act_plain_inv (by decide) h2
    exact ⟨.braces [some w, none], by rw [CPost.abs, (numSpell_iff (isDigits_of_numSpell hw)).2 ⟨hq, hw⟩]; rfl, rfl,
      valid_items (by simp [isDigits_of_numSpell hw]), rfl⟩
  | max n =>
    obtain ⟨l0, rfl, h0⟩ := act_cons_plain_inv (by decide) h
    obtain ⟨l1, rfl, h1⟩ := act_cons_plain_inv (by decide) h0
    obtain ⟨w, l2, rfl, hw, h2⟩ := act_number_inv h1
    cases act_plain_inv (by decide) h2
    exact ⟨.braces [none, some w], by rw [CPost.abs, (numSpell_iff (isDigits_of_numSpell hw)).2 ⟨hq, hw⟩]; rfl, rfl,
      valid_items (by simp [isDigits_of_numSpell hw]), rfl⟩
  | minmax m n =>
    obtain ⟨l1, rfl, h1⟩ := act_cons_plain_inv (by decide) h
    obtain ⟨w, l2, rfl, hw, h2⟩ := act_number_inv h1
    obtain ⟨l3, rfl, h3⟩ := act_cons_plain_inv (by decide) h2
    obtain ⟨w', l4, rfl, hw', h4⟩ := act_number_inv h3
    cases act_plain_inv (by decide) h4
    exact ⟨.braces [some w, none, some w'],
      by rw [CPost.abs, (numSpell_iff (isDigits_of_numSpell hw)).2 ⟨hq.1, hw⟩, (numSpell_iff (isDigits_of_numSpell hw')).2 ⟨hq.2, hw'⟩], rfl,
      valid_items (by simp [isDigits_of_numSpell hw, isDigits_of_numSpell hw']), rfl⟩

theorem posts_g2 : ∀ (qs : List Post), (∀ q ∈ qs, WFPost q) → ∀ {L : List KV},
    Act (qs.map postKV).flatten L →
    ∃ ps : List CPost, absPosts ps = some qs ∧ (ps.map CPost.kv).flatten = L ∧ ∀ p ∈ ps, p.Valid ∧ p.Sep
  | [], _, L, h => ⟨[], rfl, by simpa using (act_nil_inv (by simpa using h)).symm, fun _ hp => nomatch hp⟩
  | q :: qs, hq, L, h => by
    simp only [List.map_cons, List.flatten_cons] at h
    obtain ⟨la, lb, rfl, ha, hb⟩ := act_append_inv _ h
    obtain ⟨p, hp, rfl, hv⟩ := post_g2 (hq q (List.mem_cons_self ..)) ha
    obtain ⟨ps, hps, rfl, hvs⟩ := posts_g2 qs (fun x hx => hq x (List.mem_cons_of_mem _ hx)) hb
    exact ⟨p :: ps, absPosts_cons.2 ⟨_, _, hp, hps, rfl⟩, by rw [List.map_cons, List.flatten_cons],
      List.forall_mem_cons.2 ⟨hv, hvs⟩⟩

theorem optInt_g2 {x : Option Int} (hx : SliceIdxOK x) {L : List KV} (h : Act (optIntKV x) L) :
    ∃ a : Option Text, absOptInt a = some x ∧ optKV .integer a = L ∧ ∀ w, a = some w → IsIntTok w := by
  cases x with
  | none => exact ⟨none, rfl, (act_nil_inv h).symm, fun _ hw => nomatch hw⟩
  | some i =>
    simp only [optIntKV] at h
    obtain ⟨k1, l1, rfl, h1, h⟩ := act_cons_inv h
    cases act_nil_inv h
    obtain ⟨w, rfl, hw⟩ := actKV_integer_inv h1
    exact ⟨some w, by dsimp only [absOptInt]; rw [absInt_of_intSpell hw hx]; rfl, rfl,
      fun _ e => Option.some.inj e ▸ isIntTok_of_intSpell hw⟩

mutual
theorem node_g2' : ∀ (n : SNode), n.WF' → ∀ (L : List KV), Act n.kv L →
    ∃ nd : CNode, nd.abs = some n ∧ nd.kv = L ∧ nd.Valid ∧ nd.Sep
  | .str s, _, L, h =>
    ⟨.str s, rfl, (act_plain_inv (plain_cons plain_nil) h).symm, trivial, trivial⟩
  | .ci s, _, L, h =>
    ⟨.ci s, rfl, (act_plain_inv (plain_cons plain_nil) h).symm, trivial, trivial⟩
  | .range a b, hw, L, h => by
    dsimp only [SNode.kv] at h
    dsimp only [SNode.WF'] at hw
    obtain ⟨k1, l1, rfl, h1, h⟩ := act_cons_inv h
    obtain ⟨k2, l2, rfl, h2, h⟩ := act_cons_inv h
    obtain ⟨k3, l3, rfl, h3, h⟩ := act_cons_inv h
    cases act_nil_inv h
    rw [actKV_plain (by decide)] at h2
    subst h2
    obtain ⟨w1, rfl, hw1⟩ := actKV_char_inv h1
    obtain ⟨w3, rfl, hw3⟩ := actKV_char_inv h3
    exact ⟨.range w1 w3, CNode.abs_range.2 ⟨a, b, absChar_of_charSpell hw1, absChar_of_charSpell hw3, hw, rfl⟩,
      rfl, ⟨isCharLit_of_charSpell hw1, isCharLit_of_charSpell hw3⟩, trivial⟩
  | .ident name, hw, L, h =>
    ⟨.ident name, rfl, (act_plain_inv (plain_single (plain_of_verb (IA.verb_keyword _))) h).symm, hw, trivial⟩
  | .pushLit s, _, L, h =>
    ⟨.pushLit (some s), rfl, by
      rw [act_plain_inv (plain_cons (plain_cons (plain_cons (plain_cons plain_nil)))) h]
      rfl, trivial, trivial⟩
  | .push bar e, hw, L, h => by
    dsimp only [SNode.kv] at h
    dsimp only [SNode.WF'] at hw
    obtain ⟨l, rfl, hl⟩ := act_between_inv (plain_append (by decide) (plain_barKV bar)) (by decide) h
    obtain ⟨ce, hce, rfl, hv, hs⟩ := expr_g2 e hw l hl
    exact ⟨.push bar ce, CNode.abs_push.2 ⟨_, hce, rfl⟩, rfl, hv, hs⟩
  | .slice a b, hw, L, h => by
    dsimp only [SNode.kv] at h
    dsimp only [SNode.WF'] at hw
    obtain ⟨l1234, l5, rfl, h1234, h5⟩ := act_append_inv _ h
    obtain ⟨l123, l4, rfl, h123, h4⟩ := act_append_inv _ h1234
    obtain ⟨l12, l3, rfl, h12, h3⟩ := act_append_inv _ h123
    obtain ⟨l1, l2, rfl, h1, h2⟩ := act_append_inv _ h12
    obtain ⟨ca, hca, rfl, hva⟩ := optInt_g2 hw.1 h2
    obtain ⟨cb, hcb, rfl, hvb⟩ := optInt_g2 hw.2 h4
    rw [act_plain_inv (by decide) h1, act_plain_inv (by decide) h3,
      act_plain_inv (by decide) h5]
    exact ⟨.slice ca cb, CNode.abs_slice.2 ⟨_, _, hca, hcb, rfl⟩, rfl, ⟨hva, hvb⟩, trivial⟩
  | .paren bar e, hw, L, h => by
    dsimp only [SNode.kv] at h
    dsimp only [SNode.WF'] at hw
    obtain ⟨l, rfl, hl⟩ := act_between_inv (plain_append (by decide) (plain_barKV bar)) (by decide) h
    obtain ⟨ce, hce, rfl, hv, hs⟩ := expr_g2 e hw l hl
    exact ⟨.paren bar ce, CNode.abs_paren.2 ⟨_, hce, rfl⟩, rfl, hv, hs⟩
theorem term_g2' : ∀ (t : STerm), t.WF' → ∀ (L : List KV), Act t.kv L →
    ∃ ct : CTerm, ct.abs = some t ∧ ct.kv = L ∧ ct.Valid ∧ ct.Sep
  | .mk tag pre n post, hw, L, h => by
    dsimp only [STerm.kv] at h
    dsimp only [STerm.WF'] at hw
    obtain ⟨l123, l4, rfl, h123, h4⟩ := act_append_inv _ h
    obtain ⟨l12, l3, rfl, h12, h3⟩ := act_append_inv _ h123
    obtain ⟨l1, l2, rfl, h1, h2⟩ := act_append_inv _ h12
    obtain ⟨nd, hnd, rfl, hv, hs⟩ := node_g2' n hw.2.1 l3 h3
    obtain ⟨ps, hps, rfl, hvs⟩ := posts_g2 post hw.2.2 h4
    rw [act_plain_inv (plain_tagKV tag) h1, act_plain_inv (plain_preKV pre) h2]
    exact ⟨.mk tag pre nd ps, CTerm.abs_mk.2 ⟨_, _, hnd, hps, rfl⟩, rfl,
      ⟨hw.1, hv, fun p hp => (hvs p hp).1⟩, ⟨hs, fun p hp => (hvs p hp).2⟩⟩
theorem expr_g2 : ∀ (e : SExpr), e.WF' → ∀ (L : List KV), Act e.kv L →
    ∃ ce : CExpr, ce.abs = some e ∧ ce.kv = L ∧ ce.Valid ∧ ce.Sep
  | .one t, hw, L, h => by
    dsimp only [SExpr.kv] at h
    dsimp only [SExpr.WF'] at hw
    obtain ⟨ct, hct, rfl, hv, hs⟩ := term_g2' t hw L h
    exact ⟨.one ct, CExpr.abs_one.2 ⟨_, hct, rfl⟩, rfl, hv, hs⟩
  | .cons t bar rest, hw, L, h => by
    dsimp only [SExpr.kv] at h
    dsimp only [SExpr.WF'] at hw
    obtain ⟨l12, l3, rfl, h12, h3⟩ := act_append_inv _ h
    obtain ⟨l1, l2, rfl, h1, h2⟩ := act_append_inv _ h12
    obtain ⟨ct, hct, rfl, hv, hs⟩ := term_g2' t hw.1 l1 h1
    obtain ⟨cr, hcr, rfl, hvr, hsr⟩ := expr_g2 rest hw.2 l3 h3
    rw [act_plain_inv (plain_single (plain_of_verb (IA.verb_opKV bar))) h2]
    exact ⟨.cons ct bar cr, CExpr.abs_cons.2 ⟨_, _, hct, hcr, rfl⟩, rfl, ⟨hv, hvr⟩, ⟨hs, hsr⟩⟩
end

/-- the tree alone, without what makes it one the scanner accepts -/
theorem node_g2 : ∀ (n : SNode), n.WF' → ∀ (L : List KV), Act n.kv L →
    ∃ nd : CNode, nd.abs = some n ∧ nd.kv = L :=
  fun n hw L h => (node_g2' n hw L h).imp fun _ hnd => ⟨hnd.1, hnd.2.1⟩

theorem term_g2 : ∀ (t : STerm), t.WF' → ∀ (L : List KV), Act t.kv L →
    ∃ ct : CTerm, ct.abs = some t ∧ ct.kv = L :=
  fun t hw L h => (term_g2' t hw L h).imp fun _ hct => ⟨hct.1, hct.2.1⟩

theorem rule_g2 (r : SRule) (L : List KV) (hw : r.WF') (h : Act r.headKV L) :
    ∃ cr : CRule, cr.abs = some r ∧ (cr.Valid ∧ cr.Sep) ∧ cr.docs = r.docs ∧ cr.headKV = L := by
  simp only [SRule.headKV] at h
  obtain ⟨l, rfl, hl⟩ := act_between_inv (plain_head r.name r.mod r.bar) (by decide) h
  obtain ⟨ce, hce, rfl, hv, hs⟩ := expr_g2 r.body hw.2.2.2 l hl
  exact ⟨⟨r.docs, r.name, r.mod, r.bar, ce⟩, CRule.abs_eq_some.2 ⟨_, hce, rfl⟩,
    ⟨⟨hw.1, hw.2.1, hw.2.2.1, hv⟩, hs⟩, rfl, rfl⟩

/-! #### the lift: a layout of a well-formed grammar is a layout of a C-tree the scanner accepts -/

/-- `RulesText'` with, for every rule, the tokens `L` its head is spelled as -/
def RulesLay : List SRule → List (List KV) → Text → Text → Prop
  | [], [], t, tl => t = tl
  | r :: rs, L :: Ls, t, tl => ∃ t1 t2, DocsText' sRDOC r.docs t t1 ∧ Act r.headKV L ∧ ScA L t1 t2 ∧
      RulesLay rs Ls t2 tl
  | _, _, _, _ => False

theorem rulesLay_of_text' : ∀ (rs : List SRule) {t tl : Text}, RulesText' rs t tl →
    ∃ Ls, RulesLay rs Ls t tl
  | [], _, _, h => ⟨[], h⟩
  | r :: rs, _, _, h => by
    obtain ⟨t1, t2, hd, hs, hrest⟩ := h
    obtain ⟨L, ha, hsa⟩ := scA_of_sc' hs
    obtain ⟨Ls, hr⟩ := rulesLay_of_text' rs hrest
    exact ⟨L :: Ls, t1, t2, hd, ha, hsa, hr⟩

theorem crules_of_lay : ∀ (rs : List SRule) (Ls : List (List KV)) {t tl : Text}, (∀ r ∈ rs, r.WF') →
    RulesLay rs Ls t tl →
    ∃ crs : List CRule, absRules crs = some rs ∧ (∀ cr ∈ crs, cr.Valid ∧ cr.Sep) ∧ CRulesText crs t tl ∧
      crs.map CRule.kv = List.zipWith (fun r L => IS.docsKV .ruleDoc sRDOC r.docs ++ L) rs Ls
  | [], [], _, _, _, h => ⟨[], rfl, (fun _ hx => nomatch hx), h, rfl⟩
  | [], _ :: _, _, _, _, h => h.elim
  | _ :: _, [], _, _, _, h => h.elim
  | r :: rs, L :: Ls, _, _, hw, h => by
    obtain ⟨t1, t2, hd, ha, hs, hrest⟩ := h
    obtain ⟨cr, h1, h2, h3, rfl⟩ := rule_g2 r _ (hw r (List.mem_cons_self ..)) ha
    obtain ⟨crs, i1, i2, i3, i4⟩ := crules_of_lay rs Ls (fun x hx => hw x (List.mem_cons_of_mem _ hx)) hrest
    exact ⟨cr :: crs, absRules_cons.2 ⟨_, _, h1, i1, rfl⟩, List.forall_mem_cons.2 ⟨h2, i2⟩,
      ⟨t1, t2, h3 ▸ hd, hs, i3⟩, by rw [List.map_cons, List.zipWith_cons_cons, i4, ← h3]; rfl⟩

/-- **from the grammar text to a C-tree.**  A layout of a well-formed grammar is a layout of a
    C-tree above it, with valid lexemes and separated: one the scanner accepts. -/
theorem ctree_of_text' {g : SGrammar} (hw : g.WF') {t : Text} (ht : GrammarText' g t) :
    ∃ c : CGrammar, c.abs = some g ∧ c.Valid ∧ c.Sep ∧ CGrammarText c t := by
  obtain ⟨lead, t0, t1, t2, e, hl, rfl, hg, hr, htr, he⟩ := ht
  obtain ⟨Ls, hlay⟩ := rulesLay_of_text' g.rules hr
  obtain ⟨crs, h1, h2, h3, -⟩ := crules_of_lay g.rules Ls hw.2.1 hlay
  exact ⟨⟨g.gdocs, crs, g.trailing⟩, CGrammar.abs_eq_some.2 ⟨_, h1, rfl⟩,
    ⟨hw.1, fun cr hcr => (h2 cr hcr).1, hw.2.2⟩, fun cr hcr => (h2 cr hcr).2,
    lead, t0, t1, t2, e, hl, rfl, hg, h3, htr, he⟩

/-! ### the tokens of a valid C-tree respell the items of its abstraction

The second conjunct of the g1 family, collected for `Front.scan_accept_text'` (= `C10.scan_accept`) alone, the
scanner's accept half stated as `Act g.kv (kvOf toks)`; `C10.front_exact` does not pass through here. -/

theorem _root_.Pest.Front.SRule.kv_docs_head (r : SRule) :
    r.kv = IS.docsKV .ruleDoc sRDOC r.docs ++ r.headKV := by
  simp [SRule.kv, SRule.headKV, IS.docsKV]

theorem rules_act : ∀ {rs : List CRule} {rs' : List SRule}, absRules rs = some rs' → (∀ r ∈ rs, r.Valid) →
    Act (rs'.map SRule.kv).flatten (rs.map CRule.kv).flatten
  | [], rs', h, _ => by
    cases h
    exact .nil
  | r :: rs, rs', h, hv => by
    obtain ⟨r', rs'', hr, hrs, rfl⟩ := absRules_cons.1 h
    obtain ⟨-, d1, a1⟩ := rule_g1 hr (hv r (List.mem_cons_self ..))
    simp only [List.map_cons, List.flatten_cons, SRule.kv_docs_head, CRule.kv, d1]
    exact Act.append (Act.append (act_refl_plain _ (plain_docsKV (by decide) r.docs)) a1)
      (rules_act hrs fun x hx => hv x (List.mem_cons_of_mem _ hx))

theorem ctree_act {c : CGrammar} {g : SGrammar} (h : c.abs = some g) (hv : c.Valid) : Act g.kv c.kv := by
  obtain ⟨rs, hr, rfl⟩ := CGrammar.abs_eq_some.1 h
  exact Act.append (Act.append (act_refl_plain _ (plain_docsKV (by decide) c.gdocs))
    (rules_act hr hv.2.1)) (act_refl_plain _ (plain_docsKV (by decide) c.trailing))

/-! ### the printer's spelling

`WF` (Front/Ast.lean) and `GrammarText` (Front/AstTrivia.lean) are included in `WF'` and `GrammarText'`, and the lift of a
text in the printer's spelling has the grammar's own items as tokens (`ctree_of_text`).  `C10.front_exact`
uses nothing from here on.

#### `WF` is `WF'` and `Extra` -/

theorem docLine_facts {l : Text} (h : IsDocLine l) : NoLF l ∧ l.getLast? ≠ some 13 := by
  unfold IsDocLine at h
  obtain ⟨h1, h2⟩ := IS.findNewline_some_inv _ _ h
  have ht : (l ++ [10]).take l.length = l := by simp
  have hd : (l ++ [10]).drop l.length = [10] := by simp
  rw [ht] at h1 h2
  rw [hd] at h2
  refine ⟨h1, ?_⟩
  rcases h2 with ⟨_, _, h2⟩ | ⟨u, hu⟩
  · exact h2
  · cases hu

theorem sliceIdxOK_of_bound {a : Option Int}
    (h : match a with | some i => i.natAbs ≤ 4294967295 | none => True) : SliceIdxOK a := by
  cases a with
  | none => trivial
  | some i =>
    have := PRT.natDigits_length (n := i.natAbs) h
    simp only [SliceIdxOK]; omega

mutual
/-- the bound `WF` puts on the indices of `PEEK[a..b]` -/
def SliceOKN : SNode → Prop
  | .slice a b =>
    (match a with | some i => i.natAbs ≤ 4294967295 | none => True) ∧
    (match b with | some i => i.natAbs ≤ 4294967295 | none => True)
  | .push _ e => SliceOKE e
  | .paren _ e => SliceOKE e
  | _ => True
def SliceOKT : STerm → Prop
  | .mk _ _ n _ => SliceOKN n
def SliceOKE : SExpr → Prop
  | .one t => SliceOKT t
  | .cons t _ rest => SliceOKT t ∧ SliceOKE rest
end

mutual
theorem node_wf_iff : ∀ (n : SNode), n.WF ↔ n.WF' ∧ SliceOKN n
  | .str _ => ⟨fun h => ⟨h, trivial⟩, fun h => h.1⟩
  | .ci _ => ⟨fun h => ⟨h, trivial⟩, fun h => h.1⟩
  | .range _ _ => ⟨fun h => ⟨h, trivial⟩, fun h => h.1⟩
  | .ident _ => ⟨fun h => ⟨h, trivial⟩, fun h => h.1⟩
  | .pushLit _ => ⟨fun h => ⟨h, trivial⟩, fun h => h.1⟩
  | .push _ e => by dsimp only [SNode.WF, SNode.WF', SliceOKN]; exact expr_wf_iff e
  | .slice _ _ =>
    ⟨fun h => ⟨⟨sliceIdxOK_of_bound h.1, sliceIdxOK_of_bound h.2⟩, h⟩, fun h => h.2⟩
  | .paren _ e => by dsimp only [SNode.WF, SNode.WF', SliceOKN]; exact expr_wf_iff e
theorem term_wf_iff : ∀ (t : STerm), t.WF ↔ t.WF' ∧ SliceOKT t
  | .mk tag pre n post => by
    dsimp only [STerm.WF, STerm.WF', SliceOKT]
    rw [node_wf_iff n]
    constructor
    · rintro ⟨a, ⟨b, c⟩, d⟩; exact ⟨⟨a, b, d⟩, c⟩
    · rintro ⟨⟨a, b, d⟩, c⟩; exact ⟨a, ⟨b, c⟩, d⟩
theorem expr_wf_iff : ∀ (e : SExpr), e.WF ↔ e.WF' ∧ SliceOKE e
  | .one t => by dsimp only [SExpr.WF, SExpr.WF', SliceOKE]; exact term_wf_iff t
  | .cons t _ rest => by
    dsimp only [SExpr.WF, SExpr.WF', SliceOKE]
    rw [term_wf_iff t, expr_wf_iff rest]
    constructor
    · rintro ⟨⟨a, b⟩, c, d⟩; exact ⟨⟨a, c⟩, b, d⟩
    · rintro ⟨⟨a, c⟩, b, d⟩; exact ⟨⟨a, b⟩, c, d⟩
end

theorem expr_wf' : ∀ (e : SExpr), e.WF → e.WF'
  | e, h => ((expr_wf_iff e).1 h).1

theorem term_wf' : ∀ (t : STerm), t.WF → t.WF'
  | t, h => ((term_wf_iff t).1 h).1

theorem isDocLine_of : ∀ (l : Text), NoLF l → l.getLast? ≠ some 13 → IsDocLine l
  | [], _, _ => by unfold IsDocLine; rfl
  | c :: r, h1, h2 => by
    have hc : c ≠ 10 := h1 c (List.mem_cons_self ..)
    have hr : NoLF r := fun x hx => h1 x (List.mem_cons_of_mem _ hx)
    have h13 : c = 13 → (r ++ [10]).head? ≠ some 10 := by
      intro e
      subst e
      cases r with
      | nil => simp at h2
      | cons x r' =>
        have := h1 x (List.mem_cons_of_mem _ (List.mem_cons_self ..))
        simpa using this
    have hr2 : r.getLast? ≠ some 13 := by
      cases r with
      | nil => simp
      | cons x r' => rwa [List.getLast?_cons_cons] at h2
    have ih := isDocLine_of r hr hr2
    unfold IsDocLine at ih ⊢
    rw [List.cons_append, RT.findNewline_cons hc h13, ih]
    simp

def NoCR (docs : List Text) : Prop := ∀ l ∈ docs, l.getLast? ≠ some 13

/-- what `WF` asks beyond `WF'`: slice indices within ±(2³²−1), no doc line ending with CR -/
def Extra (g : SGrammar) : Prop :=
  NoCR g.gdocs ∧ (∀ r ∈ g.rules, NoCR r.docs ∧ SliceOKE r.body) ∧ NoCR g.trailing

theorem docs_wf_iff (docs : List Text) : (∀ l ∈ docs, IsDocLine l) ↔ (∀ l ∈ docs, NoLF l) ∧ NoCR docs := by
  constructor
  · intro h
    exact ⟨fun l hl => (docLine_facts (h l hl)).1, fun l hl => (docLine_facts (h l hl)).2⟩
  · rintro ⟨h1, h2⟩ l hl
    exact isDocLine_of l (h1 l hl) (h2 l hl)

theorem wf_iff (g : SGrammar) : g.WF ↔ g.WF' ∧ Extra g := by
  unfold SGrammar.WF SGrammar.WF' Extra
  rw [docs_wf_iff g.gdocs, docs_wf_iff g.trailing]
  constructor
  · rintro ⟨⟨a1, a2⟩, hr, b1, b2⟩
    refine ⟨⟨a1, ?_, b1⟩, a2, ?_, b2⟩
    · intro r hr'
      obtain ⟨d, n, m, e⟩ := hr r hr'
      exact ⟨((docs_wf_iff r.docs).1 d).1, n, m, ((expr_wf_iff r.body).1 e).1⟩
    · intro r hr'
      obtain ⟨d, n, m, e⟩ := hr r hr'
      exact ⟨((docs_wf_iff r.docs).1 d).2, ((expr_wf_iff r.body).1 e).2⟩
  · rintro ⟨⟨a1, hr, b1⟩, a2, hx, b2⟩
    refine ⟨⟨a1, a2⟩, ?_, b1, b2⟩
    intro r hr'
    obtain ⟨d, n, m, e⟩ := hr r hr'
    obtain ⟨x1, x2⟩ := hx r hr'
    exact ⟨(docs_wf_iff r.docs).2 ⟨d, x1⟩, n, m, (expr_wf_iff r.body).2 ⟨e, x2⟩⟩

theorem wf'_of_wf {g : SGrammar} (h : g.WF) : g.WF' := ((wf_iff g).1 h).1

/-! #### every item, spelled as the printer spells it, is spelled (`Canon`) -/

theorem strBody_escapeBody : ∀ s : Text, StrBody (escapeBody s) s
  | [] => .nil
  | c :: r => by
    dsimp only [escapeBody]
    by_cases hc : c = 34 ∨ c = 92
    · rw [if_pos hc]
      have he : Unescape.Escape [c] c := by
        apply Unescape.Escape.simple
        rcases hc with rfl | rfl <;> rfl
      exact .esc (e := [c]) he (strBody_escapeBody r)
    · rw [if_neg hc]
      exact .char c (fun e => hc (.inr e)) (fun e => hc (.inl e)) (strBody_escapeBody r)

def Canon (K : List KV) : Prop := ∀ kv ∈ K, Spells kv (spell kv)

theorem canon_append {a b : List KV} (ha : Canon a) (hb : Canon b) : Canon (a ++ b) := by
  intro kv h
  rcases List.mem_append.1 h with h | h
  · exact ha kv h
  · exact hb kv h

theorem spells_fixed {k : TK} {v : Text} (h : IA.Verb k := by decide) : Spells (k, v) (spell (k, v)) := by
  rw [IA.spell_verb h]
  exact (IA.spells_verb h).2 rfl

/-- `spells_fixed` on a list; the hypothesis is `IA.Verb kv.1` written out -/
theorem canon_verb (K : List KV) (h : ∀ kv ∈ K, kv.1 ≠ .string ∧ kv.1 ≠ .stringCI ∧ kv.1 ≠ .char ∧
    kv.1 ≠ .number ∧ kv.1 ≠ .integer) : Canon K := by
  intro kv hkv
  exact spells_fixed (h kv hkv)

theorem canon_nil : Canon [] := fun _ h => by cases h

theorem canon_cons {kv : KV} {K : List KV} (h : Spells kv (spell kv)) (hK : Canon K) : Canon (kv :: K) := by
  intro x hx
  simp only [List.mem_cons] at hx
  rcases hx with rfl | hx
  · exact h
  · exact hK x hx

theorem spells_string (s : Text) : Spells (.string, s) (spell (.string, s)) :=
  ⟨escapeBody s, rfl, strBody_escapeBody s⟩

theorem spells_ci (s : Text) : Spells (.stringCI, s) (spell (.stringCI, s)) :=
  ⟨[], escapeBody s, .nil, rfl, strBody_escapeBody s⟩

theorem spells_number (n : Nat) :
    Spells (.number, natDigits n) (spell (.number, natDigits n)) :=
  ⟨n, rfl, numSpell_natDigits n⟩

theorem spells_integer (i : Int) :
    Spells (.integer, intDigits i) (spell (.integer, intDigits i)) :=
  ⟨i, rfl, intSpell_intDigits i⟩

theorem spells_char (a : Nat) : Spells (.char, charLit a) (spell (.char, charLit a)) :=
  ⟨a, rfl, charSpell_charLit a⟩

theorem canon_post (p : Post) : Canon (postKV p) := by
  cases p with
  | opt => exact canon_cons spells_fixed canon_nil
  | rep => exact canon_cons spells_fixed canon_nil
  | rep1 => exact canon_cons spells_fixed canon_nil
  | exact n => exact canon_cons spells_fixed (canon_cons (spells_number _) (canon_cons spells_fixed canon_nil))
  | min n =>
    exact canon_cons spells_fixed (canon_cons (spells_number _)
      (canon_cons spells_fixed (canon_cons spells_fixed canon_nil)))
  | max n =>
    exact canon_cons spells_fixed (canon_cons spells_fixed
      (canon_cons (spells_number _) (canon_cons spells_fixed canon_nil)))
  | minmax m n =>
    exact canon_cons spells_fixed (canon_cons (spells_number _) (canon_cons spells_fixed
      (canon_cons (spells_number _) (canon_cons spells_fixed canon_nil))))

theorem canon_posts : ∀ (ps : List Post), Canon (ps.map postKV).flatten
  | [] => canon_nil
  | p :: ps => by
    simp only [List.map_cons, List.flatten_cons]
    exact canon_append (canon_post p) (canon_posts ps)

theorem canon_optInt (a : Option Int) : Canon (optIntKV a) := by
  cases a with
  | none => exact canon_nil
  | some i => exact canon_cons (spells_integer i) canon_nil

theorem canon_barKV (bar : Bool) : Canon (barKV bar) := by
  cases bar
  · exact canon_nil
  · exact canon_cons spells_fixed canon_nil

theorem canon_keyword (name : Text) : Canon [(keywordKind name, name)] :=
  canon_cons (spells_fixed (IA.verb_keyword name)) canon_nil

mutual
theorem node_canon' : ∀ (n : SNode), Canon n.kv
  | .str s => canon_cons (spells_string s) canon_nil
  | .ci s => canon_cons (spells_ci s) canon_nil
  | .range a b => canon_cons (spells_char a) (canon_cons spells_fixed (canon_cons (spells_char b) canon_nil))
  | .ident name => canon_keyword name
  | .pushLit s =>
    canon_cons spells_fixed (canon_cons spells_fixed (canon_cons (spells_string s)
      (canon_cons spells_fixed canon_nil)))
  | .push bar e => by
    dsimp only [SNode.kv]
    exact canon_append (canon_append (canon_append
      (canon_cons spells_fixed (canon_cons spells_fixed canon_nil)) (canon_barKV bar))
      (expr_canon' e)) (canon_cons spells_fixed canon_nil)
  | .slice a b => by
    dsimp only [SNode.kv]
    exact canon_append (canon_append (canon_append (canon_append
      (canon_cons spells_fixed (canon_cons spells_fixed canon_nil)) (canon_optInt _))
      (canon_cons spells_fixed canon_nil)) (canon_optInt _)) (canon_cons spells_fixed canon_nil)
  | .paren bar e => by
    dsimp only [SNode.kv]
    exact canon_append (canon_append (canon_append
      (canon_cons spells_fixed canon_nil) (canon_barKV bar))
      (expr_canon' e)) (canon_cons spells_fixed canon_nil)
theorem term_canon' : ∀ (t : STerm), Canon t.kv
  | .mk tag pre n post => by
    dsimp only [STerm.kv]
    refine canon_append (canon_append (canon_append ?_ ?_) (node_canon' n)) (canon_posts post)
    · cases tag with
      | none => exact canon_nil
      | some t => exact canon_cons spells_fixed (canon_cons spells_fixed canon_nil)
    · intro kv hkv
      simp only [List.mem_map] at hkv
      obtain ⟨b, _, rfl⟩ := hkv
      cases b <;> exact spells_fixed
theorem expr_canon' : ∀ (e : SExpr), Canon e.kv
  | .one t => by
    dsimp only [SExpr.kv]
    exact term_canon' t
  | .cons t bar rest => by
    dsimp only [SExpr.kv]
    refine canon_append (canon_append (term_canon' t) (canon_cons ?_ canon_nil)) (expr_canon' rest)
    cases bar <;> exact spells_fixed
end

/-- `node_canon'`, `term_canon'` under the hypothesis `WF` the other S-tree theorems carry; the proofs do
    not use the hypothesis -/
theorem node_canon : ∀ (n : SNode), n.WF → Canon n.kv :=
  fun n _ => node_canon' n

theorem term_canon : ∀ (t : STerm), t.WF → Canon t.kv :=
  fun t _ => term_canon' t

theorem rule_canon (r : SRule) : Canon r.headKV := by
  simp only [SRule.headKV]
  refine canon_append (canon_append (canon_append (canon_append (canon_append
    (canon_cons spells_fixed (canon_cons spells_fixed canon_nil)) ?_)
    (canon_cons spells_fixed canon_nil)) (canon_barKV _)) (expr_canon' _))
    (canon_cons spells_fixed canon_nil)
  cases r.mod with
  | none => exact canon_nil
  | some c => exact canon_cons spells_fixed canon_nil

theorem act_of_canon : ∀ {K : List KV}, Canon K → Act K K
  | [], _ => .nil
  | (k, v) :: K, h => by
    refine .cons ⟨rfl, ?_⟩ (act_of_canon fun x hx => h x (List.mem_cons_of_mem _ hx))
    have hs := h (k, v) (List.mem_cons_self ..)
    cases k <;> first | exact hs | rfl

/-! #### `GrammarText` is included in `GrammarText'` -/

theorem sc'_of_sc : ∀ {K : List KV} {t tl : Text}, Canon K → Sc K t tl → Sc' K t tl := by
  intro K t tl hc hs
  induction hs with
  | nil tl => exact .nil tl
  | cons kv hw _ ih =>
    exact .cons kv (hc kv (List.mem_cons_self ..)) hw (ih fun x hx => hc x (List.mem_cons_of_mem _ hx))

theorem docsText'_of_docsText (m : Text) : ∀ (docs : List Text) {t tl : Text},
    (∀ l ∈ docs, IsDocLine l) → DocsText m docs t tl → DocsText' m docs t tl
  | [], _, _, _, h => h
  | l :: ls, t, tl, hd, h => by
    obtain ⟨sp, ws, t', hsp, hws, rfl, hrest⟩ := h
    refine ⟨sp, 10 :: ws, t', hsp, .lf hws, by simp, ?_,
      docsText'_of_docsText m ls (fun x hx => hd x (List.mem_cons_of_mem _ hx)) hrest⟩
    exact .inr (.inl ⟨ws ++ t', by simp, (docLine_facts (hd l (List.mem_cons_self ..))).2⟩)

theorem rulesText'_of_rulesText : ∀ (rs : List SRule) {t tl : Text}, (∀ r ∈ rs, r.WF) →
    RulesText rs t tl → RulesText' rs t tl
  | [], _, _, _, h => h
  | r :: rs, t, tl, hw, h => by
    obtain ⟨t1, t2, hd, hs, hrest⟩ := h
    have hr := hw r (by simp)
    exact ⟨t1, t2, docsText'_of_docsText sRDOC r.docs hr.1 hd, sc'_of_sc (rule_canon r) hs,
      rulesText'_of_rulesText rs (fun x hx => hw x (List.mem_cons_of_mem _ hx)) hrest⟩

theorem grammarText'_of_grammarText {g : SGrammar} (h : g.WF) {t : Text} (ht : GrammarText g t) :
    GrammarText' g t := by
  obtain ⟨lead, t0, t1, t2, hl, rfl, hg, hr, htr⟩ := ht
  exact ⟨lead, t0, t1, t2, [], hl, rfl, docsText'_of_docsText sGDOC g.gdocs h.1 hg,
    rulesText'_of_rulesText g.rules h.2.1 hr, docsText'_of_docsText sRDOC g.trailing h.2.2 htr, .inl rfl⟩

/-! #### the C-tree of a text in the printer's spelling -/

theorem spellsA_spell (kv : KV) : SpellsA kv (spell kv) := by
  obtain ⟨k, v⟩ := kv
  cases k <;> first | rfl | exact spells_string v | exact spells_ci v

theorem scA_of_sc {K : List KV} {t tl : Text} (h : Sc K t tl) : ScA K t tl := by
  induction h with
  | nil tl => exact .nil tl
  | cons kv hw _ ih => exact .cons kv (spellsA_spell kv) hw ih

theorem rulesLay_of_text : ∀ (rs : List SRule) {t tl : Text}, (∀ r ∈ rs, r.WF) → RulesText rs t tl →
    RulesLay rs (rs.map SRule.headKV) t tl
  | [], _, _, _, h => h
  | r :: rs, _, _, hw, h => by
    obtain ⟨t1, t2, hd, hs, hrest⟩ := h
    exact ⟨t1, t2, docsText'_of_docsText sRDOC r.docs (hw r (List.mem_cons_self ..)).1 hd,
      act_of_canon (rule_canon r), scA_of_sc hs,
      rulesLay_of_text rs (fun x hx => hw x (List.mem_cons_of_mem _ hx)) hrest⟩

/-- the same for the printer's spelling, where the tree's tokens are the items of the grammar -/
theorem ctree_of_text {g : SGrammar} (hw : g.WF) {t : Text} (ht : GrammarText g t) :
    ∃ c : CGrammar, c.abs = some g ∧ c.Valid ∧ c.Sep ∧ CGrammarText c t ∧ c.kv = g.kv := by
  have hw' := wf'_of_wf hw
  obtain ⟨lead, t0, t1, t2, hl, rfl, hg, hr, htr⟩ := ht
  obtain ⟨crs, h1, h2, h3, h4⟩ := crules_of_lay g.rules _ hw'.2.1 (rulesLay_of_text g.rules hw.2.1 hr)
  exact ⟨⟨g.gdocs, crs, g.trailing⟩, CGrammar.abs_eq_some.2 ⟨_, h1, rfl⟩,
    ⟨hw'.1, fun cr hcr => (h2 cr hcr).1, hw'.2.2⟩, fun cr hcr => (h2 cr hcr).2,
    ⟨lead, t0, t1, t2, [], hl, rfl, docsText'_of_docsText sGDOC g.gdocs hw.1 hg, h3,
      docsText'_of_docsText sRDOC g.trailing hw.2.2 htr, .inl rfl⟩,
    by
      dsimp only [CGrammar.kv, SGrammar.kv]
      rw [h4, List.zipWith_map_right, List.zipWith_self]
      simp only [← SRule.kv_docs_head]⟩

end IG
end Front
end Pest
