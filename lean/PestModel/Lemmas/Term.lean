/-
  Lemmas/Term.lean — termination of the specification L0 on well-formed grammars
  (`WF.wellFormed`, PestModel/WF.lean), on the big-step relation of Lemmas/Big.lean.

  First progress (`Big.prog`), by induction on the derivation: a job that succeeds never moves the
  position backwards or beyond the end of the input, and if it leaves the position where it was,
  the expression is `nullable`.
  Then, given that, every job of a well-formed grammar answers (`Ans`: it has a derivation), by
  lexicographic induction on (input left, rank bound of the left-callable rules, expression size):
  `Ans.node` does one node under the induction hypotheses `Ctx`, `Ans.expr` is the induction.  A
  helper that makes several calls answers because each call does: its derivation is the rule of
  `Big` applied to theirs.  The input that is left bounds the turns of the loops (`repLoop`,
  `skipLoop`), so `Ans` names neither a loop budget nor fuel.
-/
import PestModel.WF
import PestModel.Lemmas.BigSim

namespace Pest
namespace Term
open WF L0

section prog
variable (g : Grammar) (inp : Input) (N : List String)

def NClosed : Prop := ∀ r ∈ g.rules, nullable N r.body = true → N.contains r.name = true

theorem nClosed_of_check (h : nullClosed g N = true) : NClosed g N := by
  intro r hr hn
  simp only [nullClosed, List.all_eq_true, Bool.or_eq_true, Bool.not_eq_true'] at h
  rcases h r hr with h' | h'
  · rw [hn] at h'; cases h'
  · exact h'

/-- the progress of a finished job: it moved forward inside the input, and stood still only if
    `null` -/
def Moves (s s' : S0) (null : Prop) : Prop :=
  s.pos ≤ s'.pos ∧ s'.pos ≤ inp.size ∧ (s'.pos = s.pos → null)

variable {g inp N}

theorem Moves.refl {s : S0} {p : Prop} (hs : s.pos ≤ inp.size) (hp : p) : Moves inp s s p :=
  ⟨Nat.le_refl _, hs, fun _ => hp⟩

theorem Moves.weaken {s s' : S0} {p q : Prop} (h : Moves inp s s' p) (f : p → q) : Moves inp s s' q :=
  ⟨h.1, h.2.1, fun e => f (h.2.2 e)⟩

theorem Moves.trans {s s1 s2 : S0} {p q r : Prop} (h1 : Moves inp s s1 p) (h2 : Moves inp s1 s2 q)
    (f : p → q → r) : Moves inp s s2 r :=
  ⟨Nat.le_trans h1.1 h2.1, h2.2.1, fun e =>
    have e1 : s1.pos = s.pos := Nat.le_antisymm (e ▸ h2.1) h1.1
    f (h1.2.2 e1) (h2.2.2 (e.trans e1.symm))⟩

theorem ruleWrap_pos {name : String} {mod : Nat} {s s1 s' : S0} {ps1 ps : List Pair}
    (h : ruleWrap name mod s s1 ps1 = .ok s' ps) : s'.pos = s1.pos := by
  rw [ruleWrap_state h]

theorem nullableAll_replicate {n : Nat} {e : Expr} {tl : List Expr}
    (h : nullableAll N (List.replicate n e ++ tl) = true) : (n == 0 || nullable N e) = true := by
  cases n with
  | zero => rfl
  | succ n => exact (Bool.and_eq_true_iff.1 h).1


theorem leafAct_stay {e : Expr} {p q : Nat} {st : List Str} {op : StkOp}
    (h : leafAct g inp e p st = .ok q op) (hq : q = p) : nullable N e = true := by
  have one : p + 1 ≠ p := Nat.succ_ne_self p
  cases e with
  | str x | ci x =>
    dsimp only [leafAct] at h
    split at h <;> cases h
    exact List.isEmpty_iff_length_eq_zero.mpr (Nat.add_eq_left.mp hq)
  | range a b | uprop n =>
    dsimp only [leafAct] at h
    split at h
    · split at h <;> cases h
      exact absurd hq one
    · cases h
  | anyB =>
    dsimp only [leafAct] at h
    split at h <;> cases h
    exact absurd hq one
  | pushLit _ | peek | pop | drop | peekAll | popAll | peekSlice _ _ | soiB | eoiB | skipUntil _
  | optChoice _ _ => rfl
  | _ => cases h

theorem leaf_prog {e : Expr} {s s' : S0} {ps : List Pair} (hs : s.pos ≤ inp.size)
    (hr : (leafAct g inp e s.pos s.stk).run0 s = .ok s' ps) : Moves inp s s' (nullable N e = true) := by
  obtain ⟨q, op, hA, rfl, _⟩ := LeafAct.run0_ok hr
  exact ⟨(leafAct_le e s.pos s.stk hA hs).1, (leafAct_le e s.pos s.stk hA hs).2, leafAct_stay hA⟩

theorem nullable_seqView {e : Expr} {es : List Expr} (hv : seqView e = some es)
    (h : nullableAll N es = true) : nullable N e = true := by
  cases e with
  | seq _ => cases hv; exact h
  | rep1 a => cases hv; exact (Bool.and_eq_true_iff.1 h).1
  | repExact a n => cases hv; exact nullableAll_replicate (tl := []) (by rw [List.append_nil]; exact h)
  | repMin a n => cases hv; exact nullableAll_replicate h
  | repMinMax a m n => cases hv; exact nullableAll_replicate h
  | repMax a n => rfl
  | _ => cases hv

def ProgM (inp : Input) (N : List String) : Job → S0 → R0 → Prop
  | .expr e, s, r => ∀ s' ps, r = .ok s' ps → Moves inp s s' (nullable N e = true)
  | .rule _ _ b, s, r => ∀ s' ps, r = .ok s' ps → Moves inp s s' (nullable N b = true)
  | .seq es _, s, r => ∀ s' ps, r = .ok s' ps → Moves inp s s' (nullableAll N es = true)
  | .choice es, s, r => ∀ s' ps, r = .ok s' ps → Moves inp s s' (nullableAny N es = true)
  | .attempt ro, s, r => ∀ s' ps, r = .ok s' ps → ∃ x, ro = some x ∧ Moves inp s s' (nullable N x.body = true)
  | _, s, r => ∀ s' ps, r = .ok s' ps → Moves inp s s' True

theorem _root_.Pest.L0.Big.prog (hN : NClosed g N) {j : Job} {s : S0} {r : R0} (h : Big g inp j s r) :
    s.pos ≤ inp.size → ProgM inp N j s r := by
  induction h with
  | leaf _ => exact fun hs s' ps e => leaf_prog hs e
  | identNone _ => exact fun _ _ _ e => nomatch e
  | ident hl _ ih =>
    intro hs s' ps e
    refine (ih hs s' ps e).weaken fun hb => ?_
    have := hN _ (Prim.lookup_mem hl) hb
    rwa [Prim.lookup_name hl] at this
  | ruleE _ ih | group _ ih | choiceE _ ih => exact ih
  | seqE hv _ ih => exact fun hs s' ps e => (ih hs s' ps e).weaken (nullable_seqView hv)
  | repE _ ih => exact fun hs s' ps e => (ih hs s' ps e).weaken fun _ => rfl
  | opt _ ih =>
    intro hs s' ps e
    rcases optK_ok e with e1 | ⟨rfl, rfl⟩
    · exact (ih hs s' ps e1).weaken fun _ => rfl
    · exact .refl hs rfl
  | andP _ _ => intro hs s' ps e; obtain ⟨rfl, rfl⟩ := andK_ok e; exact .refl hs rfl
  | notP _ _ => intro hs s' ps e; obtain ⟨rfl, rfl⟩ := notK_ok e; exact .refl hs rfl
  | push _ ih => intro hs s' ps e; obtain ⟨s1, e1, rfl⟩ := pushK_ok e; exact ih hs s1 ps e1
  | rule _ ih =>
    intro hs s' ps e
    obtain ⟨s1, ps1, e1, hw⟩ := wrapK_ok e
    have := ih hs s1 ps1 e1
    exact ⟨(ruleWrap_pos hw).symm ▸ this.1, (ruleWrap_pos hw).symm ▸ this.2.1,
      fun h => this.2.2 ((ruleWrap_pos hw).symm.trans h)⟩
  | seqNil => intro hs s' ps e; cases e; exact .refl hs rfl
  | seqStop _ hok _ => intro _ s' ps e; subst e; cases hok
  | seqLast _ ih =>
    intro hs s' ps e; cases e
    exact (ih hs _ _ rfl).weaken fun h => Bool.and_eq_true_iff.2 ⟨h, rfl⟩
  | seqMore _ _ _ ih1 ih2 ih3 =>
    intro hs s' ps e
    have p1 := ih1 hs _ _ rfl
    have p2 := ih2 p1.2.1 _ _ rfl
    exact p1.trans (p2.trans (ih3 p2.2.1 s' ps e) fun _ h => h) fun a b => Bool.and_eq_true_iff.2 ⟨a, b⟩
  | seqSkipFail _ _ _ ih1 _ ih3 =>
    intro hs s' ps e
    have p1 := ih1 hs _ _ rfl
    exact p1.trans (ih3 p1.2.1 s' ps e) fun a b => Bool.and_eq_true_iff.2 ⟨a, b⟩
  | seqSkipStuck _ _ _ _ => exact fun _ _ _ e => nomatch e
  | choiceNil => exact fun _ _ _ e => nomatch e
  | choiceStop _ _ ih => exact fun hs s' ps e => (ih hs s' ps e).weaken fun h => Bool.or_eq_true_iff.2 (.inl h)
  | choiceNext _ _ _ ih => exact fun hs s' ps e => (ih hs s' ps e).weaken fun h => Bool.or_eq_true_iff.2 (.inr h)
  | gapFirst => intro hs s' ps e; cases e; exact .refl hs trivial
  | gapSkip _ ih => exact ih
  | repGapStop _ hok _ => intro hs s' ps e; obtain ⟨rfl, rfl⟩ := repK_ok hok e; exact .refl hs trivial
  | repStop _ _ hok _ _ => intro hs s' ps e; obtain ⟨rfl, rfl⟩ := repK_ok hok e; exact .refl hs trivial
  | repMore _ _ _ ih1 ih2 ih3 =>
    intro hs s' ps e
    have p1 := ih1 hs _ _ rfl
    have p2 := ih2 p1.2.1 _ _ rfl
    exact p1.trans (p2.trans (ih3 p2.2.1 s' ps e) fun _ _ => trivial) fun _ _ => trivial
  | skipAtomic _ | skipNoTrivia _ _ => intro hs s' ps e; cases e; exact .refl hs trivial
  | skipFused _ _ _ ih => exact fun hs s' ps e => (ih hs s' ps e).weaken fun _ => trivial
  | skipLoop _ _ _ _ ih => exact ih
  | attemptNone => exact fun _ _ _ e => nomatch e
  | attemptSome _ ih => exact fun hs s' ps e => ⟨_, rfl, ih hs s' ps e⟩
  | loopWs _ _ ih1 ih2 =>
    intro hs s' ps e
    obtain ⟨_, _, p1⟩ := ih1 hs _ _ rfl
    exact p1.trans (ih2 p1.2.1 s' ps e) fun _ _ => trivial
  | loopCm _ _ _ _ ih2 ih3 =>
    intro hs s' ps e
    obtain ⟨_, _, p1⟩ := ih2 hs _ _ rfl
    exact p1.trans (ih3 p1.2.1 s' ps e) fun _ _ => trivial
  | loopWsStuck _ _ | loopCmStuck _ _ _ _ => exact fun _ _ _ e => nomatch e
  | loopDone _ _ _ _ => intro hs s' ps e; cases e; exact .refl hs trivial

end prog

mutual
/-- a size under which the unrolled forms of the bounded repetitions are smaller than the node -/
def esize : Expr → Nat
  | .rule _ _ _ b => esize b + 1
  | .seq es => esizeL es + 1
  | .choice es => esizeL es + 1
  | .opt e => esize e + 1
  | .rep e => esize e + 1
  | .rep1 e => esize e + 2
  | .repExact e _ => esize e + 1
  | .repMin e _ => esize e + 2
  | .repMax e _ => esize e + 2
  | .repMinMax e _ _ => esize e + 2
  | .andP e => esize e + 1
  | .notP e => esize e + 1
  | .group e _ => esize e + 1
  | .push e => esize e + 1
  | .str _ => 1
  | .ci _ => 1
  | .range _ _ => 1
  | .ident _ _ => 1
  | .pushLit _ => 1
  | .peek => 1
  | .pop => 1
  | .drop => 1
  | .peekAll => 1
  | .popAll => 1
  | .peekSlice _ _ => 1
  | .anyB => 1
  | .soiB => 1
  | .eoiB => 1
  | .uprop _ => 1
  | .skipUntil _ => 1
  | .optChoice _ _ => 1
def esizeL : List Expr → Nat
  | [] => 0
  | e :: es => esize e + esizeL es
end

theorem and_not_iff {a b : Bool} : (a && !b) = true ↔ a = true ∧ b = false := by
  cases a <;> cases b <;> decide

theorem esize_mem {e : Expr} {es : List Expr} (h : e ∈ es) : esize e ≤ esizeL es := by
  induction es with
  | nil => cases h
  | cons x xs ih =>
    show esize e ≤ esize x + esizeL xs
    rcases List.mem_cons.1 h with rfl | h'
    · omega
    · have := ih h'; omega


section answers
variable (g : Grammar) (inp : Input)

def T (e : Expr) (s : S0) : Prop := ∃ n, L0.run g inp n e s ≠ .oof

def Stable (F : Nat → R0) : Prop := ∃ n x, x ≠ R0.oof ∧ ∀ M, n ≤ M → F M = x

/-- job `j` started in `s` answers -/
def Ans (j : Job) (s : S0) : Prop := ∃ r, Big g inp j s r

variable {g inp}

theorem T_iff {e : Expr} {s : S0} : T g inp e s ↔ Ans g inp (.expr e) s :=
  ⟨fun ⟨_, hn⟩ => ⟨_, .of_run rfl hn⟩,
   fun ⟨_, h⟩ => let ⟨n, hn, hr⟩ := big_iff.1 h; ⟨n, fun e0 => hr (hn.symm.trans e0)⟩⟩

theorem T.stable {e : Expr} {s : S0} (h : T g inp e s) : Stable fun M => L0.run g inp M e s := by
  obtain ⟨r, h⟩ := T_iff.1 h
  obtain ⟨n, hn⟩ := h.ev
  exact ⟨n, r, h.ne_oof, hn⟩

theorem Ans.rule {name : String} {mod : Nat} {body : Expr} {s : S0}
    (h : Ans g inp (.expr body) { s with atomic := ruleAtomic name mod s.atomic }) :
    Ans g inp (.rule name mod body) s :=
  let ⟨_, h⟩ := h
  ⟨_, .rule h⟩

theorem Ans.attempt {ro : Option Rule} {s : S0}
    (h : ∀ r, ro = some r → Ans g inp (.expr r.body) { s with atomic := ruleAtomic r.name r.mod s.atomic }) :
    Ans g inp (.attempt ro) s := by
  cases ro with
  | none => exact ⟨_, .attemptNone⟩
  | some r =>
    obtain ⟨_, h⟩ := Ans.rule (h r rfl)
    exact ⟨_, .attemptSome h⟩

/-- the trivia loop: `Big.loop_answers`, where an attempt that matches moves because the trivia
    rules are not nullable -/
theorem Ans.loop {N : List String} (hN : NClosed g N) (ws cm : Option Rule)
    (hws : ∀ r, ws = some r → nullable N r.body = false)
    (hcm : ∀ r, cm = some r → nullable N r.body = false) (s : S0) (acc : List Pair)
    (hs : s.pos ≤ inp.size)
    (hT : ∀ r, (ws = some r ∨ cm = some r) → ∀ s' : S0, s.pos ≤ s'.pos → s'.pos ≤ inp.size →
      Ans g inp (.expr r.body) { s' with atomic := ruleAtomic r.name r.mod s'.atomic }) :
    Ans g inp (.loop ws cm acc) s := by
  have hro : ∀ ro, ro = ws ∨ ro = cm → ∀ r, ro = some r →
      nullable N r.body = false ∧ (ws = some r ∨ cm = some r) := by
    rintro ro (rfl | rfl) r hr
    · exact ⟨hws r hr, .inl hr⟩
    · exact ⟨hcm r hr, .inr hr⟩
  obtain ⟨x, h, _⟩ := Big.loop_answers (I := fun s' => s.pos ≤ s'.pos ∧ s'.pos ≤ inp.size) (S := True)
    (fun ro ho s' hi => by
      obtain ⟨t, ht⟩ := Ans.attempt (g := g) (inp := inp) (ro := ro) (s := s')
        (fun r hr => hT r (hro ro ho r hr).2 s' hi.1 hi.2)
      refine ⟨t, ht, fun _ => trivial, fun s1 ps e => ?_⟩
      subst e
      obtain ⟨r, hr, a, b, c⟩ := ht.prog hN hi.2 s1 ps rfl
      have hlt : s'.pos < s1.pos :=
        Nat.lt_of_le_of_ne a fun e => Bool.false_ne_true ((hro ro ho r hr).1.symm.trans (c e.symm))
      exact ⟨hlt, b, Nat.le_trans hi.1 (Nat.le_of_lt hlt), b⟩)
    (inp.size - s.pos) s acc (Nat.le_refl _) ⟨Nat.le_refl _, hs⟩
  exact ⟨x, h⟩

end answers

section main
variable (g : Grammar) (inp : Input) (N tv : List String) (rk : String → Nat)

def Below (b : Nat) (L : List String) : Prop := ∀ m ∈ L, rk m < b

/-- what `wellFormed` certifies, as propositions -/
structure WFG : Prop where
  ncl : NClosed g N
  wf : ∀ r ∈ g.rules, wfE g N r.body = true
  trivOk : ∀ n r, (n = "WHITESPACE" ∨ n = "COMMENT") → g.lookup n = some r → nullable N r.body = false
  rank : ∀ r ∈ g.rules, ∀ m ∈ lc N tv r.body, rk m < rk r.name
  tvIn : ∀ n r, (n = "SKIP" ∨ n = "WHITESPACE" ∨ n = "COMMENT") → g.lookup n = some r → n ∈ tv

/-- the induction hypotheses of the main theorem, seen from a call that started at position `p0`
    with rank bound `b` and size bound `c` -/
structure Ctx (p0 b c : Nat) : Prop where
  big : ∀ e' (s' : S0), p0 < s'.pos → s'.pos ≤ inp.size → wfE g N e' = true → Ans g inp (.expr e') s'
  same : ∀ e' (s' : S0), s'.pos = p0 → Below rk b (lc N tv e') → esize e' < c → wfE g N e' = true →
    Ans g inp (.expr e') s'
  rule : ∀ r ∈ g.rules, rk r.name < b → ∀ s' : S0, s'.pos = p0 → Ans g inp (.expr r.body) s'

variable {g inp N tv rk}

theorem Ans.skip (W : WFG g N tv rk) {s : S0} (hs : s.pos ≤ inp.size)
    (hT : ∀ r ∈ g.rules, r.name ∈ tv → ∀ s' : S0, s.pos ≤ s'.pos → s'.pos ≤ inp.size →
      Ans g inp (.expr r.body) s') : Ans g inp .skip s := by
  have hT' : ∀ n r, (n = "SKIP" ∨ n = "WHITESPACE" ∨ n = "COMMENT") → g.lookup n = some r →
      ∀ s' : S0, s.pos ≤ s'.pos → s'.pos ≤ inp.size →
        Ans g inp (.expr r.body) { s' with atomic := ruleAtomic r.name r.mod s'.atomic } :=
    fun n r hn hl s' h1 h2 =>
      hT r (Prim.lookup_mem hl) (by rw [Prim.lookup_name hl]; exact W.tvIn n r hn hl) _ h1 h2
  cases ha : s.atomic with
  | true => exact ⟨_, .skipAtomic ha⟩
  | false =>
    cases hf : g.fusedSkip with
    | some r =>
      obtain ⟨x, h⟩ := Ans.rule (hT' "SKIP" r (Or.inl rfl) (Prim.fusedSkip_lookup hf) s (Nat.le_refl _) hs)
      exact ⟨x, .skipFused ha hf h⟩
    | none =>
      cases hn : ((g.lookup "WHITESPACE").isNone && (g.lookup "COMMENT").isNone) with
      | true => exact ⟨_, .skipNoTrivia hf hn⟩
      | false =>
        obtain ⟨x, h⟩ := Ans.loop W.ncl (g.lookup "WHITESPACE") (g.lookup "COMMENT")
          (fun r hr => W.trivOk "WHITESPACE" r (Or.inl rfl) hr)
          (fun r hr => W.trivOk "COMMENT" r (Or.inr rfl) hr)
          s [] hs
          (fun r hr => hr.elim (hT' _ r (Or.inr (Or.inl rfl))) (hT' _ r (Or.inr (Or.inr rfl))))
        exact ⟨x, .skipLoop ha hf hn h⟩

theorem Ans.skipAt (W : WFG g N tv rk) {p0 b c : Nat} (C : Ctx g inp N tv rk p0 b c) {s : S0}
    (h0 : p0 ≤ s.pos) (hs : s.pos ≤ inp.size) (hb : s.pos = p0 → Below rk b tv) : Ans g inp .skip s :=
  Ans.skip W hs (fun r hr hn s' h1 h2 => by
    rcases Nat.lt_or_ge p0 s'.pos with h | h
    · exact C.big r.body s' h h2 (W.wf r hr)
    · exact C.rule r hr (hb (Nat.le_antisymm (Nat.le_trans h1 h) h0) r.name hn) s'
        (Nat.le_antisymm h (Nat.le_trans h0 h1)))

/-- the static condition under which `seqL` may run `es` from the origin position -/
def SeqBelow (N tv : List String) (rk : String → Nat) (b : Nat) : List Expr → Prop
  | [] => True
  | e :: rest => Below rk b (lc N tv e) ∧
      (nullable N e = true → rest ≠ [] → Below rk b tv ∧ SeqBelow N tv rk b rest)

theorem Ans.seq (W : WFG g N tv rk) {p0 b c : Nat} (C : Ctx g inp N tv rk p0 b c) :
    ∀ (es : List Expr) (s : S0) (acc : List Pair), (∀ e ∈ es, wfE g N e = true ∧ esize e < c) →
      p0 ≤ s.pos → s.pos ≤ inp.size → (s.pos = p0 → SeqBelow N tv rk b es) →
      Ans g inp (.seq es acc) s := by
  intro es
  induction es with
  | nil => intro s acc _ _ _ _; exact ⟨_, .seqNil⟩
  | cons e rest ih =>
    intro s acc hes h0 hs hsb
    have hwe := hes e (by simp)
    obtain ⟨x1, h1⟩ : Ans g inp (.expr e) s := by
      rcases Nat.lt_or_ge p0 s.pos with h | h
      · exact C.big e s h hs hwe.1
      · have e1 : s.pos = p0 := Nat.le_antisymm h h0
        exact C.same e s e1 (hsb e1).1 hwe.2 hwe.1
    cases x1 with
    | oof => exact absurd rfl h1.ne_oof
    | fail => exact ⟨_, .seqStop h1 rfl⟩
    | stuck => exact ⟨_, .seqStop h1 rfl⟩
    | ok s1 ps1 =>
      have p1 : Moves inp s s1 (nullable N e = true) := h1.prog W.ncl hs s1 ps1 rfl
      cases rest with
      | nil => exact ⟨_, .seqLast h1⟩
      | cons e2 rest =>
        have h01 : p0 ≤ s1.pos := Nat.le_trans h0 p1.1
        have hrest : s1.pos = p0 → Below rk b tv ∧ SeqBelow N tv rk b (e2 :: rest) := fun e1 =>
          have e0 : s.pos = p0 := Nat.le_antisymm (e1 ▸ p1.1) h0
          (hsb e0).2 (p1.2.2 (e1.trans e0.symm)) (List.cons_ne_nil _ _)
        have next : ∀ (s2 : S0) (acc' : List Pair), s1.pos ≤ s2.pos → s2.pos ≤ inp.size →
            Ans g inp (.seq (e2 :: rest) acc') s2 := fun s2 acc' h1 h2 =>
          ih s2 acc' (fun x hx => hes x (List.mem_cons_of_mem _ hx)) (Nat.le_trans h01 h1) h2
            (fun e2 => (hrest (Nat.le_antisymm (e2 ▸ h1) h01)).2)
        obtain ⟨x2, h2⟩ := Ans.skipAt W C h01 p1.2.1 (fun e1 => (hrest e1).1)
        cases x2 with
        | oof => exact absurd rfl h2.ne_oof
        | stuck => exact ⟨_, .seqSkipStuck h1 h2⟩
        | ok s2 tps =>
          have p2 : Moves inp s1 s2 True := h2.prog W.ncl p1.2.1 s2 tps rfl
          obtain ⟨x3, h3⟩ := next s2 (acc ++ ps1 ++ tps) p2.1 p2.2.1
          exact ⟨x3, .seqMore h1 h2 h3⟩
        | fail =>
          obtain ⟨x3, h3⟩ := next s1 (acc ++ ps1) (Nat.le_refl _) p1.2.1
          exact ⟨x3, .seqSkipFail h1 h2 h3⟩

theorem Ans.choice : ∀ (es : List Expr) (s : S0), (∀ e ∈ es, Ans g inp (.expr e) s) → Ans g inp (.choice es) s
  | [], _, _ => ⟨_, .choiceNil⟩
  | e :: rest, s, hT => by
    obtain ⟨r, h⟩ := hT e (by simp)
    by_cases hf : r = .fail
    · subst hf
      obtain ⟨r', h'⟩ := Ans.choice rest s fun x hx => hT x (List.mem_cons_of_mem _ hx)
      exact ⟨r', .choiceNext h h'⟩
    · exact ⟨r, .choiceStop h hf⟩

/-- The loop of `e*`: each turn that does not end it moves the position.  Trivia has to answer
    only where the loop runs it: not at `s` itself on the first turn (`first`), which has no gap.
    The caller (`Ans.node`) owes a rank bound for the trivia rules at its origin only if trivia can
    run there, and under this guard it cannot. -/
theorem Ans.rep (hN : NClosed g N) (e : Expr) (hne : nullable N e = false) :
    ∀ (d : Nat) (s : S0) (first : Bool) (acc : List Pair), inp.size - s.pos ≤ d → s.pos ≤ inp.size →
      (∀ s' : S0, s.pos ≤ s'.pos → s'.pos ≤ inp.size → Ans g inp (.expr e) s') →
      (∀ s' : S0, (first = true → s.pos < s'.pos) → s.pos ≤ s'.pos → s'.pos ≤ inp.size →
        Ans g inp .skip s') →
      Ans g inp (.rep e first acc) s := by
  intro d
  induction d using Nat.strongRecOn with
  | ind d ih =>
    intro s first acc hd hs hE hSk
    obtain ⟨a, hA, hbd⟩ : ∃ a, Big g inp (.gap first) s a ∧
        ∀ s1 tps, a = .ok s1 tps → s.pos ≤ s1.pos ∧ s1.pos ≤ inp.size := by
      cases first with
      | true => exact ⟨_, .gapFirst, fun s1 tps h => by cases h; exact ⟨Nat.le_refl _, hs⟩⟩
      | false =>
        obtain ⟨a, h⟩ := hSk s nofun (Nat.le_refl _) hs
        refine ⟨a, .gapSkip h, fun s1 tps e1 => ?_⟩
        have p : Moves inp s s1 True := h.prog hN hs s1 tps e1
        exact ⟨p.1, p.2.1⟩
    cases a with
    | oof => exact absurd rfl hA.ne_oof
    | fail => exact ⟨_, .repGapStop hA rfl⟩
    | stuck => exact ⟨_, .repGapStop hA rfl⟩
    | ok s1 tps =>
      have b1 := hbd s1 tps rfl
      obtain ⟨x1, h1⟩ := hE s1 b1.1 b1.2
      cases x1 with
      | oof => exact absurd rfl h1.ne_oof
      | fail => exact ⟨_, .repStop hA h1 rfl⟩
      | stuck => exact ⟨_, .repStop hA h1 rfl⟩
      | ok s2 ps2 =>
        have p2 : Moves inp s1 s2 (nullable N e = true) := h1.prog hN b1.2 s2 ps2 rfl
        have hlt : s.pos < s2.pos := Nat.lt_of_le_of_lt b1.1
          (Nat.lt_of_le_of_ne p2.1 fun e => Bool.false_ne_true (hne.symm.trans (p2.2.2 e.symm)))
        obtain ⟨x2, h2⟩ := ih (inp.size - s2.pos) (left_lt hlt p2.2.1 hd) s2 false (acc ++ tps ++ ps2)
          (Nat.le_refl _) p2.2.1 (fun s' h1 h2 => hE s' (Nat.le_trans (Nat.le_of_lt hlt) h1) h2)
          (fun s' _ h1 h2 => hSk s' (fun _ => Nat.lt_of_lt_of_le hlt h1) (Nat.le_trans (Nat.le_of_lt hlt) h1) h2)
        exact ⟨x2, .repMore hA h1 h2⟩

theorem rk_lt_listMax (L : List String) : ∀ m ∈ L, rk m < listMax (L.map rk) + 1 := by
  induction L with
  | nil => intro m hm; cases hm
  | cons x xs ih =>
    intro m hm
    show rk m < max (rk x) (listMax (xs.map rk)) + 1
    rcases List.mem_cons.1 hm with rfl | h
    · omega
    · have := ih m h; omega

theorem Below.sub {b : Nat} {L L' : List String} (h : Below rk b L) (hs : ∀ m ∈ L', m ∈ L) :
    Below rk b L' := fun m hm => h m (hs m hm)

theorem wfEL_iff (es : List Expr) : wfEL g N es = true ↔ ∀ e ∈ es, wfE g N e = true :=
  Prim.allL_iff rfl (fun _ _ => rfl) es

theorem seqBelow_of_lcSeq {b : Nat} : ∀ es : List Expr, Below rk b (lcSeq N tv es) →
    SeqBelow N tv rk b es := by
  intro es
  induction es with
  | nil => intro _; trivial
  | cons e rest ih =>
    intro h
    simp only [lcSeq] at h
    refine ⟨h.sub (fun m hm => List.mem_append_left _ hm), fun hn hne => ?_⟩
    have hre : rest.isEmpty = false := by
      cases rest with
      | nil => exact absurd rfl hne
      | cons _ _ => rfl
    simp only [hn, hre, Bool.not_false, Bool.and_self, ↓reduceIte] at h
    exact ⟨h.sub (fun m hm => by simp [hm]), ih (h.sub (fun m hm => by simp [hm]))⟩

theorem seqBelow_replicate_append {b : Nat} {e : Expr} (tl : List Expr) (h1 : Below rk b (lc N tv e))
    (h2 : nullable N e = true → Below rk b tv) :
    ∀ n : Nat, (nullable N e = true ∨ n = 0 → SeqBelow N tv rk b tl) →
      SeqBelow N tv rk b (List.replicate n e ++ tl) := by
  intro n
  induction n with
  | zero => intro h3; simpa using h3 (Or.inr rfl)
  | succ n ih =>
    intro h3
    simp only [List.replicate_succ, List.cons_append]
    exact ⟨h1, fun hn _ => ⟨h2 hn, ih (fun _ => h3 (Or.inl hn))⟩⟩

theorem seqBelow_replicate {b : Nat} {e : Expr} (h1 : Below rk b (lc N tv e))
    (h2 : nullable N e = true → Below rk b tv) (n : Nat) :
    SeqBelow N tv rk b (List.replicate n e) := by
  have := seqBelow_replicate_append (rk := rk) [] h1 h2 n (fun _ => trivial)
  simpa using this

theorem lc_mem_lcAll {x : Expr} {es : List Expr} {m : String} (hx : x ∈ es) (hm : m ∈ lc N tv x) :
    m ∈ lcAll N tv es := by
  induction es with
  | nil => cases hx
  | cons y ys ih =>
    simp only [lcAll, List.mem_append]
    rcases List.mem_cons.1 hx with rfl | h
    · exact Or.inl hm
    · exact Or.inr (ih h)

theorem unrolled_static {e : Expr} {es : List Expr} {b : Nat} (hu : L1.unrolled e = some es)
    (hw : wfE g N e = true) (hb : Below rk b (lc N tv e)) :
    (∀ x ∈ es, wfE g N x = true ∧ esize x < esize e) ∧ SeqBelow N tv rk b es := by
  have copies : ∀ {P : Expr → Prop} {a : Expr} {n : Nat}, P a → ∀ x ∈ List.replicate n a, P x :=
    fun ha => List.forall_mem_replicate.2 (.inr ha)
  have lt2 : ∀ a : Expr, esize a < esize a + 2 := fun _ => Nat.lt_add_of_pos_right Nat.zero_lt_two
  unfold L1.unrolled at hu
  split at hu
  · next e =>
    cases hu
    have hw := and_not_iff.1 hw
    have hr : wfE g N (.rep e) = true := and_not_iff.2 hw
    refine ⟨List.forall_mem_cons.2 ⟨⟨hw.1, lt2 e⟩, List.forall_mem_singleton.2 ⟨hr, Nat.lt_succ_self _⟩⟩,
      hb.sub (fun m hm => List.mem_append_left _ hm), fun hn => by rw [hw.2] at hn; cases hn⟩
  · next e n =>
    cases hu
    exact ⟨copies ⟨hw, Nat.lt_succ_self _⟩, seqBelow_replicate
      (hb.sub fun m hm => List.mem_append_left _ hm)
      (fun hn => hb.sub fun m hm => by
        show m ∈ lc N tv e ++ (if nullable N e = true then tv else [])
        rw [if_pos hn]; exact List.mem_append_right _ hm) n⟩
  · next e n =>
    cases hu
    have hw := and_not_iff.1 hw
    have hr : wfE g N (.rep e) = true := and_not_iff.2 hw
    have hbe : Below rk b (lc N tv e) := hb.sub fun m hm => List.mem_append_left _ hm
    exact ⟨List.forall_mem_append.2 ⟨copies ⟨hw.1, lt2 e⟩, List.forall_mem_singleton.2 ⟨hr, Nat.lt_succ_self _⟩⟩,
      seqBelow_replicate_append [.rep e] hbe (fun hn => by rw [hw.2] at hn; cases hn) n
        (fun _ => ⟨hbe, fun _ hne => absurd rfl hne⟩)⟩
  · next e n =>
    cases hu
    exact ⟨copies ⟨hw, Nat.lt_succ_self _⟩, seqBelow_replicate (e := .opt e)
      (hb.sub fun m hm => List.mem_append_left _ hm)
      (fun _ => hb.sub fun m hm => List.mem_append_right _ hm) n⟩
  · next e m n =>
    cases hu
    have hbe : Below rk b (lc N tv e) := hb.sub fun m hm => List.mem_append_left _ hm
    have hbt : nullable N e = true ∨ m = 0 → Below rk b tv := fun hn =>
      hb.sub fun x hx => by
        have : (nullable N e || m == 0) = true := by
          rcases hn with hn | hn <;> simp only [hn, Bool.true_or, beq_self_eq_true, Bool.or_true]
        show x ∈ lc N tv e ++ (if (nullable N e || m == 0) = true then tv else [])
        rw [if_pos this]; exact List.mem_append_right _ hx
    exact ⟨List.forall_mem_append.2 ⟨copies ⟨hw, lt2 e⟩, copies ⟨hw, Nat.lt_succ_self _⟩⟩,
      seqBelow_replicate_append _ hbe (fun hn => hbt (Or.inl hn)) m
        (fun hn => seqBelow_replicate (e := .opt e) hbe (fun _ => hbt hn) (n - m))⟩
  · cases hu

theorem Ans.node (W : WFG g N tv rk) {e : Expr} {s : S0} {b : Nat} (hw : wfE g N e = true)
    (hs : s.pos ≤ inp.size) (hb : Below rk b (lc N tv e)) (C : Ctx g inp N tv rk s.pos b (esize e)) :
    Ans g inp (.expr e) s := by
  have sub : ∀ e', wfE g N e' = true → (∀ m ∈ lc N tv e', m ∈ lc N tv e) → esize e' < esize e →
      Ans g inp (.expr e') s := fun e' hw' hl hsz => C.same e' s rfl (hb.sub hl) hsz hw'
  cases e with
  | ident name tag =>
    cases hl : g.lookup name with
    | none =>
      have hw : (g.lookup name).isSome = true := hw
      rw [hl] at hw; cases hw
    | some r =>
      have hrk : rk r.name < b := by rw [Prim.lookup_name hl]; exact hb name (List.mem_singleton_self _)
      obtain ⟨x, h⟩ := C.rule r (Prim.lookup_mem hl) hrk { s with atomic := ruleAtomic r.name r.mod s.atomic } rfl
      exact ⟨_, .ident hl (.rule h)⟩
  | rule name mod sm body =>
    obtain ⟨x, h⟩ := C.same body { s with atomic := ruleAtomic name mod s.atomic } rfl hb (Nat.lt_succ_self _) hw
    exact ⟨_, .ruleE (.rule h)⟩
  | seq es =>
    have hwes := (wfEL_iff es).1 hw
    obtain ⟨x, h⟩ := Ans.seq W C es s [] (fun x hx => ⟨hwes x hx, Nat.lt_succ_of_le (esize_mem hx)⟩)
      (Nat.le_refl _) hs (fun _ => seqBelow_of_lcSeq es hb)
    exact ⟨x, .seqE rfl h⟩
  | choice es =>
    have hwes := (wfEL_iff es).1 hw
    obtain ⟨x, h⟩ := Ans.choice es s fun x hx =>
      sub x (hwes x hx) (fun m hm => lc_mem_lcAll hx hm) (Nat.lt_succ_of_le (esize_mem hx))
    exact ⟨x, .choiceE h⟩
  | rep e =>
    have hw := and_not_iff.1 hw
    obtain ⟨x, h⟩ := Ans.rep (g := g) W.ncl e hw.2 (inp.size - s.pos) s true [] (Nat.le_refl _) hs
      (fun s' h1 h2 => by
        rcases Nat.lt_or_ge s.pos s'.pos with h | h
        · exact C.big e s' h h2 hw.1
        · exact C.same e s' (Nat.le_antisymm h h1) hb (Nat.lt_succ_self _) hw.1)
      (fun s' hf h1 h2 => Ans.skipAt W C h1 h2 (fun e1 => absurd e1 (Nat.ne_of_gt (hf rfl))))
    exact ⟨x, .repE h⟩
  | rep1 e | repExact e n | repMin e n | repMax e n | repMinMax e m n =>
    obtain ⟨h1, h2⟩ := unrolled_static (rk := rk) (tv := tv) rfl hw hb
    obtain ⟨x, h⟩ := Ans.seq W C _ s [] h1 (Nat.le_refl _) hs fun _ => h2
    exact ⟨x, .seqE rfl h⟩
  | opt e =>
    obtain ⟨x, h⟩ := sub e hw (fun _ hm => hm) (Nat.lt_succ_self _)
    exact ⟨_, .opt h⟩
  | andP e =>
    obtain ⟨x, h⟩ := sub e hw (fun _ hm => hm) (Nat.lt_succ_self _)
    exact ⟨_, .andP h⟩
  | notP e =>
    obtain ⟨x, h⟩ := sub e hw (fun _ hm => hm) (Nat.lt_succ_self _)
    exact ⟨_, .notP h⟩
  | push e =>
    obtain ⟨x, h⟩ := sub e hw (fun _ hm => hm) (Nat.lt_succ_self _)
    exact ⟨_, .push h⟩
  | group e tag =>
    obtain ⟨x, h⟩ := sub e hw (fun _ hm => hm) (Nat.lt_succ_self _)
    exact ⟨x, .group h⟩
  | _ => exact ⟨_, .leaf rfl⟩

theorem Ans.expr (W : WFG g N tv rk) :
    ∀ (a b c : Nat) (e : Expr) (s : S0), wfE g N e = true → s.pos ≤ inp.size →
      inp.size - s.pos ≤ a → Below rk b (lc N tv e) → esize e ≤ c → Ans g inp (.expr e) s := by
  intro a
  induction a using Nat.strongRecOn with
  | ind a iha =>
  intro b
  induction b using Nat.strongRecOn with
  | ind b ihb =>
  intro c
  induction c using Nat.strongRecOn with
  | ind c ihc =>
  intro e s hw hs ha hb hc
  exact Ans.node W hw hs hb
    { big := fun e' s' h1 h2 hw' =>
        iha (inp.size - s'.pos) (left_lt h1 h2 ha)
          (listMax ((lc N tv e').map rk) + 1) (esize e') e' s' hw' h2
          (Nat.le_refl _) (rk_lt_listMax _) (Nat.le_refl _)
      same := fun e' s' h1 hb' hc' hw' =>
        ihc (esize e') (Nat.lt_of_lt_of_le hc' hc) e' s' hw' (h1 ▸ hs) (h1 ▸ ha) hb' (Nat.le_refl _)
      rule := fun r hr hrk s' h1 =>
        ihb (rk r.name) hrk (esize r.body) r.body s' (W.wf r hr) (h1 ▸ hs) (h1 ▸ ha) (W.rank r hr)
          (Nat.le_refl _) }

end main

section final
variable (g : Grammar) (inp : Input)

theorem wfg_of_wellFormed (h : wellFormed g = true) :
    WFG g (nullSet g) (triv g) (rankOf (rankTable g)) := by
  simp only [wellFormed, Bool.and_eq_true] at h
  obtain ⟨⟨⟨h1, h2⟩, h3⟩, h4⟩ := h
  refine ⟨nClosed_of_check g _ h1, ?_, ?_, ?_, ?_⟩
  · intro r hr
    exact (List.all_eq_true.1 h2) r hr
  · intro n r hn hl
    simp only [triviaOk, List.all_cons, List.all_nil, Bool.and_true, Bool.and_eq_true] at h3
    rcases hn with rfl | rfl
    · have := h3.1; rw [hl] at this; simpa using this
    · have := h3.2; rw [hl] at this; simpa using this
  · intro r hr m hm
    have := (List.all_eq_true.1 ((List.all_eq_true.1 h4) r hr)) m hm
    simpa using this
  · intro n r hn hl
    simp only [triv, List.mem_filter, List.mem_cons, List.not_mem_nil, or_false]
    exact ⟨hn, by rw [hl]; rfl⟩

theorem run_terminates (h : wellFormed g = true) (e : Expr) (he : wfE g (nullSet g) e = true)
    (s : S0) (hs : s.pos ≤ inp.size) : ∃ n, L0.run g inp n e s ≠ .oof :=
  T_iff.2 <| Ans.expr (wfg_of_wellFormed g h)
    (inp.size - s.pos) (listMax ((lc (nullSet g) (triv g) e).map (rankOf (rankTable g))) + 1) (esize e)
    e s he hs (Nat.le_refl _) (rk_lt_listMax _) (Nat.le_refl _)

/-- an undefined start rule answers `stuck` at once -/
theorem parse_terminates (h : wellFormed g = true) (start : String) (k : Nat) (hk : k ≤ inp.size) :
    ∃ n, L0.run g inp n (.ident start none) ⟨k, [], false⟩ ≠ .oof := by
  cases hl : g.lookup start with
  | none => exact T_iff.2 ⟨_, .identNone hl⟩
  | some r =>
    exact run_terminates g inp h (.ident start none) (show (g.lookup start).isSome = true by rw [hl]; rfl) ⟨k, [], false⟩ hk

theorem parse_terminates_stable (h : wellFormed g = true) (start : String) (k : Nat)
    (hk : k ≤ inp.size) :
    ∃ n x, x ≠ R0.oof ∧ ∀ fuel, n ≤ fuel → L0.parse g inp fuel start k = x :=
  let ⟨n, x, hx, hst⟩ := T.stable (parse_terminates g inp h start k hk)
  -- `L0.parse g inp fuel start k` is `L0.run g inp (fuel + 1)` of the start rule, by definition
  ⟨n, x, hx, fun fuel hf => hst (fuel + 1) (Nat.le_succ_of_le hf)⟩

end final

end Term
end Pest
