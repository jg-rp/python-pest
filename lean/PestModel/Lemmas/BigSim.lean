/-
  Lemmas/BigSim.lean — one step of L0's semantics preserves a relation between the expressions
  of two grammars; in one grammar, the completeness of the big-step relation.

  `step_sim`: if the recursive call `rec` is simulated (whatever it answers in `g` for `x`, the
  big-step relation of `g'` answers for every related `x'`) and so is implicit trivia, then so is
  `step g inp k rec` on structurally related expressions (`CongA`), and each helper of `step`
  (`seqL_sim`, `repLoop_sim`, …) on related jobs.  The relation is indexed by the atomicity flag of
  the state; positions may be restricted by an invariant.  The simulation theorems (Algebra.lean
  `conv_sim`, OptSoundSim.lean `fwd`/`rev`, OptSoundFusion.lean `ext_fwd`) are inductions on fuel
  with this as their step.

  In one grammar, with equality for the relation, the same induction is the completeness of the
  big-step relation: `Big.of_eval` (any job), `Big.of_run`, hence `big_iff`, `big_conv`.  It stands
  here, after Lemmas/SpecPost.lean, because the step reads the flag and the invariant of the next
  state off the derivation built so far (`Big.atomic`).  A reader who wants `big_iff` only needs of
  the definitions below that each holds of equal things (`ListRel2.refl`, `RuleRelA.refl`,
  `CongA.of_refl`, `SkipRel.refl`).
-/
import PestModel.Lemmas.SpecPost

namespace Pest
namespace L0

variable {g : Grammar} {inp : Input}

inductive ListRel2 {α β : Type} (R : α → β → Prop) : List α → List β → Prop
  | nil : ListRel2 R [] []
  | cons {a b as bs} : R a b → ListRel2 R as bs → ListRel2 R (a :: as) (b :: bs)

theorem ListRel2.of_forall {α : Type} {R : α → α → Prop} : ∀ {as : List α}, (∀ a, a ∈ as → R a a) → ListRel2 R as as
  | [], _ => .nil
  | a :: as, h => .cons (h a (by simp)) (ListRel2.of_forall fun b hb => h b (by simp [hb]))

/-- two rules looked up (or two absences): same name, same modifiers, bodies related at the flag
    they run under when the caller's flag is `a` -/
def RuleRelA (Q : Bool → Expr → Expr → Prop) (a : Bool) : Option Rule → Option Rule → Prop
  | none, none => True
  | some r, some r' => r.name = r'.name ∧ r.mod = r'.mod ∧ Q (ruleAtomic r.name r.mod a) r.body r'.body
  | _, _ => False

theorem RuleRelA.cases {Q : Bool → Expr → Expr → Prop} {a : Bool} {r r' : Option Rule} (h : RuleRelA Q a r r') :
    (r = none ∧ r' = none) ∨ ∃ x x', r = some x ∧ r' = some x' ∧ x.name = x'.name ∧ x.mod = x'.mod ∧
      Q (ruleAtomic x.name x.mod a) x.body x'.body := by
  cases r with
  | none => cases r' with
    | none => exact .inl ⟨rfl, rfl⟩
    | some _ => exact h.elim
  | some x => cases r' with
    | none => exact h.elim
    | some x' => exact .inr ⟨x, x', rfl, rfl, h⟩

theorem RuleRelA.isNone_eq {Q : Bool → Expr → Expr → Prop} {a : Bool} {r r' : Option Rule}
    (h : RuleRelA Q a r r') : r.isNone = r'.isNone := by
  rcases h.cases with ⟨rfl, rfl⟩ | ⟨_, _, rfl, rfl, _⟩
  · rfl
  · rfl

theorem RuleRelA.flip {Q : Bool → Expr → Expr → Prop} {a : Bool} {r r' : Option Rule}
    (h : RuleRelA Q a r r') : RuleRelA (fun b x y => Q b y x) a r' r := by
  rcases h.cases with ⟨rfl, rfl⟩ | ⟨x, x', rfl, rfl, hn, hm, hq⟩
  · trivial
  · refine ⟨hn.symm, hm.symm, ?_⟩
    rw [← hn, ← hm]
    exact hq

/-- the fused rule is what `"SKIP"` names, if that has exactly the modifiers the optimizer gives it -/
theorem fusedSkip_eq {g : Grammar} {x : Option Rule} (h : g.lookup "SKIP" = x) :
    g.fusedSkip = x.bind fun r => if r.mod == SILENT + ATOMIC then some r else none := by
  subst h
  unfold Grammar.fusedSkip
  cases g.lookup "SKIP" <;> rfl

theorem fusedSkip_relA {g g' : Grammar} {Q : Bool → Expr → Expr → Prop} {a : Bool}
    (h : RuleRelA Q a (g.lookup "SKIP") (g'.lookup "SKIP")) : RuleRelA Q a g.fusedSkip g'.fusedSkip := by
  rcases h.cases with ⟨hl, hl'⟩ | ⟨r, r', hl, hl', hn, hm, hq⟩
  · rw [fusedSkip_eq hl, fusedSkip_eq hl']; trivial
  · rw [fusedSkip_eq hl, fusedSkip_eq hl']
    simp only [Option.bind_some, ← hm]
    by_cases hmod : (r.mod == SILENT + ATOMIC) = true
    · simp only [hmod, ↓reduceIte]; exact ⟨hn, hm, hq⟩
    · simp only [hmod, Bool.false_eq_true, ↓reduceIte]; trivial

/-- `x` (run in `g`) and `x'` (run in `g'`) from a state with atomicity flag `a`: same top node,
    children related at the flag they run under; the six sequence-like node kinds are one case
    (`seqView`).  `Struct` of Algebra.lean is the case of a relation that ignores the flag. -/
inductive CongA (g g' : Grammar) (Q : Bool → Expr → Expr → Prop) (a : Bool) : Expr → Expr → Prop
  | leaf {x} : isLeaf x = true → CongA g g' Q a x x
  | ident {n n' t t'} : RuleRelA Q a (g.lookup n) (g'.lookup n') → CongA g g' Q a (.ident n t) (.ident n' t')
  | rule {n m sm sm' b b'} : Q (ruleAtomic n m a) b b' → CongA g g' Q a (.rule n m sm b) (.rule n m sm' b')
  | seqlike {x x' es es'} : seqView x = some es → seqView x' = some es' → ListRel2 (Q a) es es' → CongA g g' Q a x x'
  | choice {es es'} : ListRel2 (Q a) es es' → CongA g g' Q a (.choice es) (.choice es')
  | opt {e e'} : Q a e e' → CongA g g' Q a (.opt e) (.opt e')
  | rep {e e'} : Q a e e' → CongA g g' Q a (.rep e) (.rep e')
  | andP {e e'} : Q a e e' → CongA g g' Q a (.andP e) (.andP e')
  | notP {e e'} : Q a e e' → CongA g g' Q a (.notP e) (.notP e')
  | group {e e' t t'} : Q a e e' → CongA g g' Q a (.group e t) (.group e' t')
  | push {e e'} : Q a e e' → CongA g g' Q a (.push e) (.push e')

theorem CongA.of_refl {g g' : Grammar} {Q : Bool → Expr → Expr → Prop} (x : Expr) (a : Bool)
    (hc : ∀ b c, Sub x c → Q b c c)
    (hi : ∀ n t, x = .ident n t → RuleRelA Q a (g.lookup n) (g'.lookup n)) : CongA g g' Q a x x := by
  cases hv : seqView x with
  | some es => exact .seqlike hv hv (ListRel2.of_forall fun c h => hc _ c (Sub.of_seqView hv h))
  | none =>
    cases x with
    | ident n t => exact .ident (hi n t rfl)
    | rule n m sm b => exact .rule (hc _ _ .rule)
    | choice es => exact .choice (ListRel2.of_forall fun c h => hc _ c (.choice h))
    | opt e => exact .opt (hc _ _ .opt)
    | rep e => exact .rep (hc _ _ .rep)
    | andP e => exact .andP (hc _ _ .andP)
    | notP e => exact .notP (hc _ _ .notP)
    | group e t => exact .group (hc _ _ .group)
    | push e => exact .push (hc _ _ .push)
    | seq _ | rep1 _ | repExact _ _ | repMin _ _ | repMax _ _ | repMinMax _ _ _ => cases hv
    | str _ | ci _ | range _ _ | pushLit _ | peek | pop | drop | peekAll | popAll | peekSlice _ _
    | anyB | soiB | eoiB | uprop _ | skipUntil _ | optChoice _ _ => exact .leaf rfl

/-- what is known of the recursive call in the induction on fuel; `Q` is indexed by the atomicity
    flag of the state, `I` restricts the positions -/
def RecSim (g' : Grammar) (inp : Input) (Q : Bool → Expr → Expr → Prop) (I : Nat → Prop) (rec : Sem0) : Prop :=
  ∀ x x' s r, Q s.atomic x x' → I s.pos → rec x s = r → r ≠ .oof → Big g' inp (.expr x') s r

/-! One step of the semantics over a recursive call `rec` that is simulated (`RecSim`): whatever a
    helper of `L0.step` answers in `g`, the related job answers in `g'`.  Each case of a helper is
    the rule of `Big` for that case.  Source and target run through the same states, so what the
    next turn of a loop needs of the state it starts in (flag, invariant) is read off the target
    derivation built so far (`Big.atomic`, `hinv`). -/

section sim
variable {g' : Grammar} {Q : Bool → Expr → Expr → Prop} {I : Nat → Prop} {rec : Sem0}

theorem ruleApply_sim (hr : RecSim g' inp Q I rec) {name : String} {mod : Nat} {body body' : Expr} {s : S0}
    {r : R0} (hq : Q (ruleAtomic name mod s.atomic) body body') (hi : I s.pos)
    (h : ruleApply rec name mod body s = r) (hne : r ≠ .oof) : Big g' inp (.rule name mod body') s r := by
  rw [ruleApply_eq] at h
  subst h
  exact .rule (hr _ _ { s with atomic := ruleAtomic name mod s.atomic } _ hq hi rfl fun e0 => hne (by rw [e0]; rfl))

theorem callRule_sim (hr : RecSim g' inp Q I rec) {n n' : String} {t' : Option String} {s : S0} {r : R0}
    (hrel : RuleRelA Q s.atomic (g.lookup n) (g'.lookup n')) (hi : I s.pos)
    (h : callRule g rec n s = r) (hne : r ≠ .oof) : Big g' inp (.expr (.ident n' t')) s r := by
  unfold callRule at h
  rcases hrel.cases with ⟨hl, hl'⟩ | ⟨rl, rl', hl, hl', hn, hm, hq⟩
  · rw [hl] at h; subst h; exact .identNone hl'
  · rw [hl] at h
    refine .ident hl' ?_
    rw [← hn, ← hm]
    exact ruleApply_sim hr hq hi h hne

theorem attempt_sim (hr : RecSim g' inp Q I rec) {rl rl' : Option Rule} {s : S0} {r : R0}
    (hrel : RuleRelA Q s.atomic rl rl') (hi : I s.pos)
    (h : attemptR rec rl s = r) (hne : r ≠ .oof) : Big g' inp (.attempt rl') s r := by
  rcases hrel.cases with ⟨rfl, rfl⟩ | ⟨rl, rl', rfl, rfl, hn, hm, hq⟩
  · subst h; exact .attemptNone
  · refine .attemptSome ?_
    rw [← hn, ← hm]
    exact ruleApply_sim hr hq hi h hne

theorem skipLoop_sim (hr : RecSim g' inp Q I rec)
    (hinv : ∀ {j s s' ps}, Big g' inp j s (.ok s' ps) → I s.pos → I s'.pos) {a : Bool}
    {ws ws' cm cm' : Option Rule} (hws : RuleRelA Q a ws ws') (hcm : RuleRelA Q a cm cm') :
    ∀ (k : Nat) (s : S0) (acc : List Pair) (r : R0), s.atomic = a → I s.pos →
      skipLoop rec ws cm k s acc = r → r ≠ .oof → Big g' inp (.loop ws' cm' acc) s r := by
  intro k
  induction k with
  | zero => intro s acc r _ _ h hne; exact absurd h.symm hne
  | succ k ih =>
    intro s acc r ha hi h hne
    subst ha
    rw [skipLoop_succ] at h
    cases h1 : attemptR rec ws s with
    | oof => rw [h1] at h; exact absurd h.symm hne
    | stuck => rw [h1] at h; subst h; exact .loopWsStuck (attempt_sim hr hws hi h1 nofun)
    | ok s1 ps =>
      rw [h1] at h
      have b1 := attempt_sim hr hws hi h1 nofun
      exact .loopWs b1 (ih _ _ _ b1.atomic (hinv b1 hi) h hne)
    | fail =>
      rw [h1] at h
      have b1 := attempt_sim hr hws hi h1 nofun
      cases h2 : attemptR rec cm s with
      | oof => rw [h2] at h; exact absurd h.symm hne
      | stuck => rw [h2] at h; subst h; exact .loopCmStuck b1 (attempt_sim hr hcm hi h2 nofun)
      | ok s1 ps =>
        rw [h2] at h
        have b2 := attempt_sim hr hcm hi h2 nofun
        exact .loopCm b1 b2 (ih _ _ _ b2.atomic (hinv b2 hi) h hne)
      | fail => rw [h2] at h; subst h; exact .loopDone b1 (attempt_sim hr hcm hi h2 nofun)

/-- the trivia rules of the two grammars are related (they only run from non-atomic states) -/
structure SkipRel (g g' : Grammar) (Q : Bool → Expr → Expr → Prop) : Prop where
  fused : RuleRelA Q false g.fusedSkip g'.fusedSkip
  ws : RuleRelA Q false (g.lookup "WHITESPACE") (g'.lookup "WHITESPACE")
  cm : RuleRelA Q false (g.lookup "COMMENT") (g'.lookup "COMMENT")

theorem skip_sim (hr : RecSim g' inp Q I rec)
    (hinv : ∀ {j s s' ps}, Big g' inp j s (.ok s' ps) → I s.pos → I s'.pos) (hsk : SkipRel g g' Q) {k : Nat}
    {s : S0} {r : R0} (hi : I s.pos) (h : skip g rec k s = r) (hne : r ≠ .oof) : Big g' inp .skip s r := by
  cases ha : s.atomic with
  | true => rw [skip_of_atomic ha] at h; subst h; exact .skipAtomic ha
  | false =>
    rcases hsk.fused.cases with ⟨hfs, hfs'⟩ | ⟨rl, rl', hfs, hfs', hn, hm, hq⟩
    · cases hn : ((g.lookup "WHITESPACE").isNone && (g.lookup "COMMENT").isNone) with
      | true =>
        rw [skip_of_noTrivia hfs hn] at h; subst h
        rw [hsk.ws.isNone_eq, hsk.cm.isNone_eq] at hn
        exact .skipNoTrivia hfs' hn
      | false =>
        rw [skip_of_loop ha hfs hn] at h
        rw [hsk.ws.isNone_eq, hsk.cm.isNone_eq] at hn
        exact .skipLoop ha hfs' hn (skipLoop_sim hr hinv hsk.ws hsk.cm _ _ _ _ ha hi h hne)
    · rw [skip_of_fused ha hfs] at h
      refine .skipFused ha hfs' ?_
      rw [← hn, ← hm]
      exact ruleApply_sim hr (by rw [ha]; exact hq) hi h hne

/-- what one step of the semantics needs: the recursive call and implicit trivia are simulated
    (trivia from `SkipRel` by `skip_sim`, or for a reason of the caller's), and the invariant is
    a post-condition of finished jobs -/
structure StepSim (g g' : Grammar) (inp : Input) (Q : Bool → Expr → Expr → Prop) (I : Nat → Prop)
    (rec : Sem0) (k : Nat) : Prop where
  sim : RecSim g' inp Q I rec
  skip : ∀ s r, I s.pos → skip g rec k s = r → r ≠ .oof → Big g' inp .skip s r
  inv : ∀ {j s s' ps}, Big g' inp j s (.ok s' ps) → I s.pos → I s'.pos

theorem seqL_sim {k : Nat} (H : StepSim g g' inp Q I rec k) {a : Bool} {es es' : List Expr}
    (hes : ListRel2 (Q a) es es') :
    ∀ (s : S0) (acc : List Pair) (r : R0), s.atomic = a → I s.pos →
      seqL g rec k es s acc = r → r ≠ .oof → Big g' inp (.seq es' acc) s r := by
  induction hes with
  | nil => intro s acc r _ _ h _; subst h; exact .seqNil
  | @cons e e' rest rest' hq hrest ih =>
    intro s acc r ha hi h hne
    subst ha
    dsimp only [seqL] at h
    cases he : rec e s with
    | oof => rw [he] at h; exact absurd h.symm hne
    | fail => rw [he] at h; subst h; exact .seqStop (H.sim _ _ _ _ hq hi he nofun) rfl
    | stuck => rw [he] at h; subst h; exact .seqStop (H.sim _ _ _ _ hq hi he nofun) rfl
    | ok s1 ps =>
      rw [he] at h
      have b1 := H.sim _ _ _ _ hq hi he nofun
      have i1 := H.inv b1 hi
      cases hrest with
      | nil => simp only [List.isEmpty_nil, if_true] at h; subst h; exact .seqLast b1
      | cons hq2 hrest2 =>
        simp only [List.isEmpty_cons, Bool.false_eq_true, if_false] at h
        cases hs : skip g rec k s1 with
        | oof => rw [hs] at h; exact absurd h.symm hne
        | stuck => rw [hs] at h; subst h; exact .seqSkipStuck b1 (H.skip _ _ i1 hs nofun)
        | fail => rw [hs] at h; exact .seqSkipFail b1 (H.skip _ _ i1 hs nofun) (ih _ _ _ b1.atomic i1 h hne)
        | ok s2 tps =>
          rw [hs] at h
          have b2 := H.skip _ _ i1 hs nofun
          exact .seqMore b1 b2 (ih _ _ _ (b2.atomic.trans b1.atomic) (H.inv b2 i1) h hne)

theorem choiceL_sim (hr : RecSim g' inp Q I rec) {es es' : List Expr} {s : S0}
    (hes : ListRel2 (Q s.atomic) es es') (hi : I s.pos) :
    ∀ (r : R0), choiceL rec es s = r → r ≠ .oof → Big g' inp (.choice es') s r := by
  induction hes with
  | nil => intro r h _; subst h; exact .choiceNil
  | @cons e e' rest rest' hq hrest ih =>
    intro r h hne
    dsimp only [choiceL] at h
    cases he : rec e s with
    | oof => rw [he] at h; exact absurd h.symm hne
    | fail => rw [he] at h; exact .choiceNext (hr _ _ _ _ hq hi he nofun) (ih _ h hne)
    | stuck => rw [he] at h; subst h; exact .choiceStop (hr _ _ _ _ hq hi he nofun) nofun
    | ok s1 ps => rw [he] at h; subst h; exact .choiceStop (hr _ _ _ _ hq hi he nofun) nofun

theorem gap_sim {kk : Nat} (H : StepSim g g' inp Q I rec kk) {first : Bool} {s : S0} {r : R0} (hi : I s.pos)
    (h : (if first = true then R0.ok s [] else skip g rec kk s) = r) (hne : r ≠ .oof) :
    Big g' inp (.gap first) s r := by
  cases first with
  | true => subst h; exact .gapFirst
  | false => exact .gapSkip (H.skip _ _ hi h hne)

theorem repLoop_sim {kk : Nat} (H : StepSim g g' inp Q I rec kk) {a : Bool} {e e' : Expr}
    (hq : Q a e e') :
    ∀ (k : Nat) (first : Bool) (s : S0) (acc : List Pair) (r : R0), s.atomic = a → I s.pos →
      repLoop g rec e k kk first s acc = r → r ≠ .oof → Big g' inp (.rep e' first acc) s r := by
  intro k
  induction k with
  | zero => intro first s acc r _ _ h hne; exact absurd h.symm hne
  | succ k ih =>
    intro first s acc r ha hi h hne
    subst ha
    dsimp only [repLoop] at h
    cases hg : (if first = true then R0.ok s [] else skip g rec kk s) with
    | oof => rw [hg] at h; exact absurd h.symm hne
    | fail => rw [hg] at h; subst h; exact .repGapStop (gap_sim H hi hg nofun) rfl
    | stuck => rw [hg] at h; subst h; exact .repGapStop (gap_sim H hi hg nofun) rfl
    | ok s1 tps =>
      rw [hg] at h
      simp only [] at h
      have b1 := gap_sim H hi hg nofun
      have i1 := H.inv b1 hi
      have hq1 : Q s1.atomic e e' := by rw [b1.atomic]; exact hq
      cases he : rec e s1 with
      | oof => rw [he] at h; exact absurd h.symm hne
      | fail => rw [he] at h; subst h; exact .repStop b1 (H.sim _ _ _ _ hq1 i1 he nofun) rfl
      | stuck => rw [he] at h; subst h; exact .repStop b1 (H.sim _ _ _ _ hq1 i1 he nofun) rfl
      | ok s2 ps =>
        rw [he] at h
        have b2 := H.sim _ _ _ _ hq1 i1 he nofun
        exact .repMore b1 b2 (ih _ _ _ _ (b2.atomic.trans b1.atomic) (H.inv b2 i1) h hne)

theorem step_sim (hu : g'.usets = g.usets) {k : Nat} (H : StepSim g g' inp Q I rec k) {x x' : Expr} {s : S0}
    {r : R0} (hx : CongA g g' Q s.atomic x x') (hi : I s.pos)
    (h : step g inp k rec x s = r) (hne : r ≠ .oof) : Big g' inp (.expr x') s r := by
  cases hx with
  | leaf hl => subst h; rw [step_leaf hl, ← leafAct_usets hu]; exact .leaf hl
  | ident hrel => exact callRule_sim H.sim hrel hi h hne
  | rule hq => exact .ruleE (ruleApply_sim H.sim hq hi h hne)
  | seqlike h1 h2 hes =>
    rw [step_seqView g inp k rec h1] at h
    exact .seqE h2 (seqL_sim H hes _ _ _ rfl hi h hne)
  | choice hes => exact .choiceE (choiceL_sim H.sim hes hi _ h hne)
  | rep hq => exact .repE (repLoop_sim H hq _ _ _ _ _ rfl hi h hne)
  | group hq => exact .group (H.sim _ _ _ _ hq hi h hne)
  | opt hq => rw [step_opt] at h; subst h; exact .opt (H.sim _ _ _ _ hq hi rfl fun e0 => hne (by rw [e0]; rfl))
  | andP hq => rw [step_andP] at h; subst h; exact .andP (H.sim _ _ _ _ hq hi rfl fun e0 => hne (by rw [e0]; rfl))
  | notP hq => rw [step_notP] at h; subst h; exact .notP (H.sim _ _ _ _ hq hi rfl fun e0 => hne (by rw [e0]; rfl))
  | push hq => rw [step_push] at h; subst h; exact .push (H.sim _ _ _ _ hq hi rfl fun e0 => hne (by rw [e0]; rfl))

end sim

theorem ListRel2.refl {α : Type} {R : α → α → Prop} (h : ∀ a, R a a) (as : List α) : ListRel2 R as as :=
  .of_forall fun a _ => h a

theorem RuleRelA.refl {Q : Bool → Expr → Expr → Prop} (h : ∀ a x, Q a x x) (a : Bool) :
    ∀ r : Option Rule, RuleRelA Q a r r
  | none => trivial
  | some _ => ⟨rfl, rfl, h _ _⟩

theorem SkipRel.refl {Q : Bool → Expr → Expr → Prop} (h : ∀ a x, Q a x x) : SkipRel g g Q :=
  ⟨RuleRelA.refl h _ _, RuleRelA.refl h _ _, RuleRelA.refl h _ _⟩

theorem run_stepSim (n : Nat) : StepSim g g inp (fun _ => Eq) (fun _ => True) (run g inp n) n := by
  have H : ∀ {n}, RecSim g inp (fun _ => Eq) (fun _ => True) (run g inp n) →
      StepSim g g inp (fun _ => Eq) (fun _ => True) (run g inp n) n :=
    fun hs => ⟨hs, fun _ _ hi h hne => skip_sim hs (fun _ _ => trivial) (.refl fun _ _ => rfl) hi h hne, fun _ _ => trivial⟩
  induction n with
  | zero => exact H fun x x' s r _ _ h hne => absurd h.symm hne
  | succ n ih =>
    refine H fun x x' s r hq _ h hne => ?_
    cases hq
    exact step_sim rfl ih (.of_refl x _ (fun _ _ _ => rfl) fun _ _ _ => RuleRelA.refl (fun _ _ => rfl) _ _)
      trivial h hne

theorem Big.of_eval {j : Job} {s : S0} {r : R0} {n l : Nat} (h : j.eval g (run g inp n) n l s = r)
    (hne : r ≠ .oof) : Big g inp j s r := by
  have H := run_stepSim (g := g) (inp := inp) n
  cases j with
  | expr e => exact H.sim _ _ _ _ rfl trivial h hne
  | rule n m b => exact ruleApply_sim H.sim rfl trivial h hne
  | seq es acc => exact seqL_sim H (ListRel2.refl (fun _ => rfl) es) _ _ _ rfl trivial h hne
  | choice es => exact choiceL_sim H.sim (ListRel2.refl (fun _ => rfl) es) trivial _ h hne
  | rep e first acc => exact repLoop_sim H rfl _ _ _ _ _ rfl trivial h hne
  | gap first => exact gap_sim H trivial h hne
  | skip => exact H.skip _ _ trivial h hne
  | loop ws cm acc =>
    exact skipLoop_sim H.sim (fun _ _ => trivial) (RuleRelA.refl (fun _ _ => rfl) _ ws)
      (RuleRelA.refl (fun _ _ => rfl) _ cm) _ _ _ _ rfl trivial h hne
  | attempt ro =>
    exact attempt_sim H.sim (RuleRelA.refl (fun _ _ => rfl) _ ro) trivial h hne

theorem big_iff {j : Job} {s : S0} {r : R0} :
    Big g inp j s r ↔ ∃ n, j.eval g (run g inp n) n n s = r ∧ r ≠ .oof := by
  constructor
  · intro h
    obtain ⟨N, hN⟩ := h.evDiag
    exact ⟨N, hN N (Nat.le_refl _), h.ne_oof⟩
  · rintro ⟨n, h, hne⟩
    exact .of_eval h hne

theorem big_conv {e : Expr} {s : S0} {r : R0} : Big g inp (.expr e) s r ↔ Conv g inp e s r := big_iff

theorem Big.of_run {e : Expr} {s : S0} {r : R0} {n : Nat} (h : run g inp n e s = r) (hne : r ≠ .oof) :
    Big g inp (.expr e) s r :=
  .of_eval (j := .expr e) (l := n) h hne

end L0
end Pest
