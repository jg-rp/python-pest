/-
  Lemmas/TreeWF.lean — well-formedness of parse trees (property C06).

  1. Shape.  `WFForest lo hi ps`: the pairs `ps` lie in `[lo, hi]`, in input order, pairwise
     disjoint, each with `start ≤ stop` and its children (recursively) inside its own span (with
     the non-recursive reading `WFUnfolded` and the checker `wfForestB`); `AllPairs P ps`: every
     pair at every depth satisfies `P`, which is `∀ p ∈ flattenL ps, P p`.
  2. The two linear views, of any list of pairs: `tokens()` is a balanced Start/End stream
     (`Balanced`, decided by `check`), sorted by position for a well-formed forest (`SortedIn`),
     and `flatten()` lists the pairs in the order of their Start tokens.
  3. L0.  Every successful run yields a well-formed forest inside `[s.pos, s'.pos] ⊆ [0, inp.size]`
     (`tree_post`, an instance of `L0.Post`, Lemmas/SpecPost.lean); `root_single`.
  4. Where names and tags come from.  `Reach g e0`: the expressions a run started on `e0` can be
     asked to run, i.e. `e0`, the rule bodies and what one step of the semantics (`L0.Sub`) hands
     on from them; `Pest.Sub g e0`: those that are written in `e0` or a rule body.  Pair names
     are names of non-silent rules (`NameOK`; L0, a second instance of `L0.Post`); tags are tags
     written in the grammar (`TagOK`), shown on L1, L0 having none (an instance of `HKit`,
     Lemmas/Kit.lean).
-/
import PestModel.Pairs
import PestModel.Lemmas.TagHist
import PestModel.Lemmas.BigSim

namespace Pest


inductive WFForest : Nat → Nat → List Pair → Prop
  | nil {lo hi : Nat} : lo ≤ hi → WFForest lo hi []
  | cons {lo hi : Nat} {n : String} {m s e : Nat} {ch : List Pair} {t : Option String}
      {rest : List Pair} :
      lo ≤ s → s ≤ e → WFForest s e ch → WFForest e hi rest →
      WFForest lo hi (.mk n m s e ch t :: rest)

namespace WFForest

theorem le {lo hi : Nat} {ps : List Pair} (h : WFForest lo hi ps) : lo ≤ hi := by
  induction h with
  | nil h => exact h
  | cons h1 h2 _ _ _ ih => exact Nat.le_trans h1 (Nat.le_trans h2 ih)

theorem widen {lo hi : Nat} {ps : List Pair} (h : WFForest lo hi ps) :
    ∀ {lo' hi' : Nat}, lo' ≤ lo → hi ≤ hi' → WFForest lo' hi' ps := by
  induction h with
  | nil h => intro lo' hi' h1 h2; exact .nil (Nat.le_trans h1 (Nat.le_trans h h2))
  | cons h1 h2 hc _ _ ih =>
    intro lo' hi' a b
    exact .cons (Nat.le_trans a h1) h2 hc (ih (Nat.le_refl _) b)

theorem append {a b c : Nat} {xs ys : List Pair} (h1 : WFForest a b xs) (h2 : WFForest b c ys) :
    WFForest a c (xs ++ ys) := by
  induction h1 with
  | nil h => exact h2.widen h (Nat.le_refl _)
  | cons g1 g2 hc _ _ ih => exact .cons g1 g2 hc (ih h2)

theorem single {lo hi s e : Nat} (n : String) (m : Nat) {ch : List Pair} (t : Option String)
    (h1 : lo ≤ s) (h2 : s ≤ e) (h3 : e ≤ hi) (hc : WFForest s e ch) :
    WFForest lo hi [.mk n m s e ch t] :=
  .cons h1 h2 hc (.nil h3)

end WFForest

theorem visibleList_wf {lo hi : Nat} {ps : List Pair} (h : WFForest lo hi ps) :
    WFForest lo hi (visibleList ps) := by
  induction h with
  | nil h => rw [visibleList_nil]; exact .nil h
  | @cons lo hi n m s e ch t rest h1 h2 hc hr ihc ihr =>
    rw [visibleList_cons]
    by_cases hv : (hasBit m COMPOUND || hasBit m NONATOMIC) = true
    · simp only [hv, ↓reduceIte]
      exact .cons h1 h2 hc ihr
    · simp only [hv, Bool.false_eq_true, ↓reduceIte]
      exact (ihc.widen h1 (Nat.le_refl _)).append ihr

theorem eraseTagsL_nil : eraseTagsL [] = [] := by simp [eraseTagsL]

theorem eraseTagsL_cons (n : String) (m s e : Nat) (ch : List Pair) (t : Option String) (rest : List Pair) :
    eraseTagsL (.mk n m s e ch t :: rest) = .mk n m s e (eraseTagsL ch) none :: eraseTagsL rest := by
  simp [eraseTagsL, Pair.eraseTags]

theorem eraseTagsL_eq_nil {ps : List Pair} (h : eraseTagsL ps = []) : ps = [] := by
  cases ps with
  | nil => rfl
  | cons p ps => cases p; rw [eraseTagsL_cons] at h; cases h

theorem eraseTagsL_eq_cons {ps : List Pair} {n : String} {m s e : Nat} {ch : List Pair}
    {t : Option String} {rest : List Pair} (h : eraseTagsL ps = .mk n m s e ch t :: rest) :
    ∃ ch' t' rest', ps = .mk n m s e ch' t' :: rest' ∧ eraseTagsL ch' = ch ∧ eraseTagsL rest' = rest ∧
      t = none := by
  cases ps with
  | nil => rw [eraseTagsL_nil] at h; cases h
  | cons p ps =>
    cases p with
    | mk n' m' s' e' ch' t' =>
      rw [eraseTagsL_cons] at h
      simp only [List.cons.injEq, Pair.mk.injEq] at h
      obtain ⟨⟨rfl, rfl, rfl, rfl, h5, h6⟩, h7⟩ := h
      exact ⟨ch', t', ps, rfl, h5, h7, h6.symm⟩

theorem eraseTagsL_wf_mp {lo hi : Nat} {ps : List Pair} (h : WFForest lo hi ps) :
    WFForest lo hi (eraseTagsL ps) := by
  induction h with
  | nil h => rw [eraseTagsL_nil]; exact .nil h
  | cons h1 h2 _ _ ihc ihr => rw [eraseTagsL_cons]; exact .cons h1 h2 ihc ihr

theorem eraseTagsL_wf_mpr {lo hi : Nat} {qs : List Pair} (h : WFForest lo hi qs) :
    ∀ ps, eraseTagsL ps = qs → WFForest lo hi ps := by
  induction h with
  | nil h => intro ps e; rw [eraseTagsL_eq_nil e]; exact .nil h
  | cons h1 h2 _ _ ihc ihr =>
    intro ps e
    obtain ⟨ch', t', rest', rfl, e1, e2, _⟩ := eraseTagsL_eq_cons e
    exact .cons h1 h2 (ihc ch' e1) (ihr rest' e2)

theorem eraseTagsL_wf {lo hi : Nat} {ps : List Pair} :
    WFForest lo hi (eraseTagsL ps) ↔ WFForest lo hi ps :=
  ⟨fun h => eraseTagsL_wf_mpr h ps rfl, eraseTagsL_wf_mp⟩

/-- what `WFForest` says, without the inductive -/
def WFUnfolded (lo hi : Nat) (ps : List Pair) : Prop :=
  lo ≤ hi ∧
  (∀ p ∈ ps, lo ≤ p.start ∧ p.start ≤ p.stop ∧ p.stop ≤ hi ∧ WFForest p.start p.stop p.children) ∧
  ps.Pairwise (fun a b => a.stop ≤ b.start)

theorem WFForest.unfolded {lo hi : Nat} {ps : List Pair} (h : WFForest lo hi ps) :
    WFUnfolded lo hi ps := by
  induction h with
  | nil h => exact ⟨h, by simp, List.Pairwise.nil⟩
  | @cons lo hi n m s e ch t rest h1 h2 hc hr _ ihr =>
    obtain ⟨r1, r2, r3⟩ := ihr
    refine ⟨Nat.le_trans h1 (Nat.le_trans h2 r1), ?_, ?_⟩
    · intro p hp
      rcases List.mem_cons.mp hp with rfl | hp
      · exact ⟨h1, h2, r1, hc⟩
      · obtain ⟨a, b, c, d⟩ := r2 p hp
        exact ⟨Nat.le_trans h1 (Nat.le_trans h2 a), b, c, d⟩
    · refine List.Pairwise.cons ?_ r3
      intro p hp
      exact (r2 p hp).1

theorem WFForest.of_unfolded {hi : Nat} {ps : List Pair} :
    ∀ {lo : Nat}, WFUnfolded lo hi ps → WFForest lo hi ps := by
  induction ps with
  | nil => intro lo h; exact .nil h.1
  | cons p rest ih =>
    intro lo h
    obtain ⟨h0, h1, h2⟩ := h
    cases p with
    | mk n m s e ch t =>
      obtain ⟨a, b, c, d⟩ := h1 _ (List.mem_cons_self ..)
      have h2' := List.pairwise_cons.mp h2
      refine .cons a b d (ih ⟨c, ?_, h2'.2⟩)
      intro q hq
      obtain ⟨_, b', c', d'⟩ := h1 q (List.mem_cons_of_mem _ hq)
      exact ⟨h2'.1 q hq, b', c', d'⟩

theorem WFForest.iff_unfolded {lo hi : Nat} {ps : List Pair} :
    WFForest lo hi ps ↔ WFUnfolded lo hi ps := ⟨WFForest.unfolded, WFForest.of_unfolded⟩

theorem WFForest.ordered {lo hi : Nat} {ps : List Pair} (h : WFForest lo hi ps) (i j : Nat)
    (hij : i < j) (hj : j < ps.length) : (ps[i]'(by omega)).stop ≤ (ps[j]'hj).start :=
  List.pairwise_iff_getElem.mp h.unfolded.2.2 i j (by omega) hj hij

mutual
def Pair.wfB : Pair → Bool
  | .mk _ _ s e ch _ => decide (s ≤ e) && wfForestB s e ch
def wfForestB : Nat → Nat → List Pair → Bool
  | lo, hi, [] => decide (lo ≤ hi)
  | lo, hi, p :: rest => decide (lo ≤ p.start) && p.wfB && wfForestB p.stop hi rest
end

mutual
theorem Pair.wfB_sound : ∀ (p : Pair), p.wfB = true →
    p.start ≤ p.stop ∧ WFForest p.start p.stop p.children
  | .mk n m s e ch t => by
    intro h
    simp only [Pair.wfB, Bool.and_eq_true, decide_eq_true_eq] at h
    exact ⟨h.1, wfForestB_sound s e ch h.2⟩
theorem wfForestB_sound : ∀ (lo hi : Nat) (ps : List Pair), wfForestB lo hi ps = true → WFForest lo hi ps
  | lo, hi, [] => by
    intro h
    simp only [wfForestB, decide_eq_true_eq] at h
    exact .nil h
  | lo, hi, p :: rest => by
    intro h
    simp only [wfForestB, Bool.and_eq_true, decide_eq_true_eq] at h
    have h1 := Pair.wfB_sound p h.1.2
    have h2 := wfForestB_sound p.stop hi rest h.2
    cases p with
    | mk n m s e ch t => exact .cons h.1.1 h1.1 h1.2 h2
end

inductive AllPairs (P : Pair → Prop) : List Pair → Prop
  | nil : AllPairs P []
  | cons {n : String} {m s e : Nat} {ch : List Pair} {t : Option String} {rest : List Pair} :
      P (.mk n m s e ch t) → AllPairs P ch → AllPairs P rest → AllPairs P (.mk n m s e ch t :: rest)

namespace AllPairs

theorem append {P : Pair → Prop} {xs ys : List Pair} (h1 : AllPairs P xs) (h2 : AllPairs P ys) :
    AllPairs P (xs ++ ys) := by
  induction h1 with
  | nil => exact h2
  | cons a b _ _ ih => exact .cons a b ih

theorem visible {P : Pair → Prop} {ps : List Pair} (h : AllPairs P ps) : AllPairs P (visibleList ps) := by
  induction h with
  | nil => rw [visibleList_nil]; exact .nil
  | @cons n m s e ch t rest a b c ihc ihr =>
    rw [visibleList_cons]
    by_cases hv : (hasBit m COMPOUND || hasBit m NONATOMIC) = true
    · simp only [hv, ↓reduceIte]; exact .cons a b ihr
    · simp only [hv, Bool.false_eq_true, ↓reduceIte]; exact ihc.append ihr

theorem mono {P Q : Pair → Prop} (hpq : ∀ p, P p → Q p) {ps : List Pair} (h : AllPairs P ps) :
    AllPairs Q ps := by
  induction h with
  | nil => exact .nil
  | cons a _ _ ihc ihr => exact .cons (hpq _ a) ihc ihr

theorem flatten {P : Pair → Prop} {ps : List Pair} (h : AllPairs P ps) : ∀ p ∈ flattenL ps, P p := by
  induction h with
  | nil => intro p hp; rw [flattenL_nil] at hp; cases hp
  | cons a _ _ ihc ihr =>
    intro p hp
    rw [flattenL_cons] at hp
    rcases List.mem_append.mp hp with hp | hp
    · rcases List.mem_cons.mp hp with rfl | hp
      · exact a
      · exact ihc p hp
    · exact ihr p hp

theorem of_erase {P Q : Pair → Prop} (hpq : ∀ p, P p.eraseTags → Q p) {qs : List Pair}
    (h : AllPairs P qs) : ∀ ps, eraseTagsL ps = qs → AllPairs Q ps := by
  induction h with
  | nil => intro ps e; rw [eraseTagsL_eq_nil e]; exact .nil
  | @cons n m s e ch t rest a _ _ ihc ihr =>
    intro ps e
    obtain ⟨ch', t', rest', rfl, e1, e2, e3⟩ := eraseTagsL_eq_cons e
    refine .cons (hpq _ ?_) (ihc ch' e1) (ihr rest' e2)
    simp only [Pair.eraseTags, e1]
    rw [← e3]; exact a

end AllPairs

mutual
theorem Pair.allPairs_of_flatten {P : Pair → Prop} : ∀ (p : Pair), (∀ q ∈ p.flatten, P q) →
    P p ∧ AllPairs P p.children
  | .mk n m s e ch t => by
    intro h
    simp only [Pair.flatten] at h
    exact ⟨h _ (List.mem_cons_self ..), allPairs_of_flatten ch (fun q hq => h q (List.mem_cons_of_mem _ hq))⟩
theorem allPairs_of_flatten {P : Pair → Prop} : ∀ (ps : List Pair), (∀ q ∈ flattenL ps, P q) → AllPairs P ps
  | [] => fun _ => .nil
  | p :: rest => by
    intro h
    simp only [flattenL] at h
    have h1 := Pair.allPairs_of_flatten p (fun q hq => h q (List.mem_append_left _ hq))
    have h2 := allPairs_of_flatten rest (fun q hq => h q (List.mem_append_right _ hq))
    cases p with
    | mk n m s e ch t => exact .cons h1.1 h1.2 h2
end

theorem WFForest.allPairs {lo hi : Nat} {ps : List Pair} (h : WFForest lo hi ps) :
    AllPairs (fun p => lo ≤ p.start ∧ p.start ≤ p.stop ∧ p.stop ≤ hi ∧
      WFForest p.start p.stop p.children) ps := by
  induction h with
  | nil _ => exact .nil
  | @cons lo hi n m s e ch t rest h1 h2 hc hr ihc ihr =>
    have hle := hr.le
    refine .cons ⟨h1, h2, hle, hc⟩ (ihc.mono ?_) (ihr.mono ?_)
    · intro p ⟨a, b, c, d⟩; exact ⟨Nat.le_trans h1 a, b, Nat.le_trans c hle, d⟩
    · intro p ⟨a, b, c, d⟩; exact ⟨Nat.le_trans h1 (Nat.le_trans h2 a), b, c, d⟩

theorem WFForest.flat {lo hi : Nat} {ps : List Pair} (h : WFForest lo hi ps) :
    ∀ p ∈ flattenL ps, lo ≤ p.start ∧ p.start ≤ p.stop ∧ p.stop ≤ hi ∧
      WFForest p.start p.stop p.children :=
  h.allPairs.flatten


inductive Balanced : List Tok → Prop
  | nil : Balanced []
  | wrap {n : String} {p q : Nat} {w : List Tok} : Balanced w → Balanced (.start n p :: w ++ [.stop n q])
  | append {a b : List Tok} : Balanced a → Balanced b → Balanced (a ++ b)

def check : List String → List Tok → Bool
  | st, [] => st.isEmpty
  | st, .start n _ :: w => check (n :: st) w
  | [], .stop _ _ :: _ => false
  | m :: st, .stop n _ :: w => m == n && check st w

theorem Balanced.check_append {w : List Tok} (h : Balanced w) :
    ∀ (st : List String) (rest : List Tok), check st (w ++ rest) = check st rest := by
  induction h with
  | nil => intro st rest; rfl
  | @wrap n p q w _ ih =>
    intro st rest
    have : (Tok.start n p :: w ++ [Tok.stop n q]) ++ rest = Tok.start n p :: (w ++ (Tok.stop n q :: rest)) := by
      simp
    rw [this]
    simp only [check]
    rw [ih]
    simp [check]
  | append _ _ iha ihb =>
    intro st rest
    rw [List.append_assoc, iha, ihb]

theorem Balanced.check {w : List Tok} (h : Balanced w) : check [] w = true := by
  have := h.check_append [] []
  rw [List.append_nil] at this
  rw [this]; rfl

/-- the converse needs the invariant of the machine in the middle of a word: with `st` on the
    stack, the rest of the word is balanced blocks separated by the `End`s that close `st` -/
inductive Closes : List String → List Tok → Prop
  | nil {b : List Tok} : Balanced b → Closes [] b
  | cons {n : String} {q : Nat} {st : List String} {b w : List Tok} :
      Balanced b → Closes st w → Closes (n :: st) (b ++ .stop n q :: w)

theorem Closes.prepend {a : List Tok} (ha : Balanced a) {st : List String} {w : List Tok}
    (h : Closes st w) : Closes st (a ++ w) := by
  cases h with
  | nil hb => exact .nil (.append ha hb)
  | cons hb hw => rw [← List.append_assoc]; exact .cons (.append ha hb) hw

theorem check_closes : ∀ (w : List Tok) (st : List String), check st w = true → Closes st w
  | [], st, h => by
    cases st with
    | nil => exact .nil .nil
    | cons _ _ => simp [check] at h
  | .start n p :: w, st, h => by
    simp only [check] at h
    have ih := check_closes w (n :: st) h
    cases ih with
    | @cons _ q _ b w' hb hw =>
      have e : Tok.start n p :: (b ++ Tok.stop n q :: w') = (Tok.start n p :: b ++ [Tok.stop n q]) ++ w' := by
        simp
      rw [e]
      exact hw.prepend (.wrap hb)
  | .stop n q :: w, st, h => by
    cases st with
    | nil => simp [check] at h
    | cons m st =>
      simp only [check, Bool.and_eq_true, beq_iff_eq] at h
      obtain ⟨rfl, h2⟩ := h
      exact .cons (b := []) .nil (check_closes w st h2)

theorem Balanced.of_check {w : List Tok} (h : Pest.check [] w = true) : Balanced w := by
  have := check_closes w [] h
  cases this with
  | nil hb => exact hb

mutual
theorem Pair.tokens_balanced : ∀ p : Pair, Balanced p.tokens
  | .mk n m s e ch t => by
    simp only [Pair.tokens]
    exact .wrap (tokensL_balanced ch)
theorem tokensL_balanced : ∀ ps : List Pair, Balanced (tokensL ps)
  | [] => by rw [tokensL_nil]; exact .nil
  | p :: rest => by
    simp only [tokensL]
    exact .append (Pair.tokens_balanced p) (tokensL_balanced rest)
end

theorem tokens_balanced (ps : List Pair) : Balanced (tokensL ps) ∧ check [] (tokensL ps) = true :=
  ⟨tokensL_balanced ps, (tokensL_balanced ps).check⟩

def SortedIn (lo hi : Nat) (l : List Nat) : Prop :=
  l.Pairwise (· ≤ ·) ∧ ∀ x ∈ l, lo ≤ x ∧ x ≤ hi

theorem SortedIn.append {a b c : Nat} {l1 l2 : List Nat} (hab : a ≤ b) (hbc : b ≤ c)
    (h1 : SortedIn a b l1) (h2 : SortedIn b c l2) : SortedIn a c (l1 ++ l2) := by
  refine ⟨List.pairwise_append.mpr ⟨h1.1, h2.1, ?_⟩, ?_⟩
  · intro x hx y hy
    exact Nat.le_trans (h1.2 x hx).2 (h2.2 y hy).1
  · intro x hx
    rcases List.mem_append.mp hx with hx | hx
    · exact ⟨(h1.2 x hx).1, Nat.le_trans (h1.2 x hx).2 hbc⟩
    · exact ⟨Nat.le_trans hab (h2.2 x hx).1, (h2.2 x hx).2⟩

theorem SortedIn.widen {a b a' b' : Nat} {l : List Nat} (h : SortedIn a b l) (h1 : a' ≤ a) (h2 : b ≤ b') :
    SortedIn a' b' l :=
  ⟨h.1, fun x hx => ⟨Nat.le_trans h1 (h.2 x hx).1, Nat.le_trans (h.2 x hx).2 h2⟩⟩

theorem SortedIn.single {a b x : Nat} (h1 : a ≤ x) (h2 : x ≤ b) : SortedIn a b [x] :=
  ⟨List.pairwise_singleton _ _, fun y hy => by
    have : y = x := by simpa using hy
    subst this; exact ⟨h1, h2⟩⟩

theorem tokens_sorted {lo hi : Nat} {ps : List Pair} (h : WFForest lo hi ps) :
    SortedIn lo hi ((tokensL ps).map Tok.pos) := by
  induction h with
  | nil h => rw [tokensL_nil]; exact ⟨List.Pairwise.nil, by simp⟩
  | @cons lo hi n m s e ch t rest h1 h2 hc hr ihc ihr =>
    have hle := hr.le
    rw [tokensL_cons]
    have e1 : List.map Tok.pos (Tok.start n s :: (tokensL ch ++ [Tok.stop n e]) ++ tokensL rest)
        = ([s] ++ ((tokensL ch).map Tok.pos ++ [e])) ++ (tokensL rest).map Tok.pos := by
      simp [Tok.pos]
    rw [e1]
    have a1 : SortedIn s e ([s] ++ ((tokensL ch).map Tok.pos ++ [e])) :=
      SortedIn.append (Nat.le_refl s) h2 (SortedIn.single (Nat.le_refl s) (Nat.le_refl s))
        (SortedIn.append h2 (Nat.le_refl e) ihc (SortedIn.single (Nat.le_refl e) (Nat.le_refl e)))
    exact SortedIn.append (by omega) hle (a1.widen h1 (Nat.le_refl e)) ihr

/-- the key `flatten()` and the Start tokens are compared on -/
def Tok.startKey : Tok → Option (String × Nat)
  | .start n p => some (n, p)
  | .stop _ _ => none

mutual
theorem Pair.flatten_tokens : ∀ p : Pair,
    p.flatten.map (fun q => (q.name, q.start)) = p.tokens.filterMap Tok.startKey
  | .mk n m s e ch t => by
    have ih := flattenL_tokens ch
    simp only [Pair.flatten, Pair.tokens, List.map_cons, List.filterMap_cons, Tok.startKey,
      List.filterMap_append, List.filterMap_nil, List.append_nil]
    rw [ih]; rfl
theorem flattenL_tokens : ∀ ps : List Pair,
    (flattenL ps).map (fun q => (q.name, q.start)) = (tokensL ps).filterMap Tok.startKey
  | [] => by simp [flattenL, tokensL]
  | p :: rest => by
    simp only [flattenL, tokensL, List.map_append, List.filterMap_append]
    rw [Pair.flatten_tokens p, flattenL_tokens rest]
end

/-- **`flatten()` is the pre-order of the tree**: the pairs it yields are, in order, the pairs
    whose `Start` tokens `tokens()` yields -/
theorem flatten_is_preorder (ps : List Pair) :
    (flattenL ps).map (fun q => (q.name, q.start)) = (tokensL ps).filterMap Tok.startKey :=
  flattenL_tokens ps

mutual
theorem Pair.tokens_length : ∀ p : Pair, p.tokens.length = 2 * p.flatten.length
  | .mk n m s e ch t => by
    simp only [Pair.flatten, Pair.tokens, List.length_cons, List.length_append, List.length_nil]
    rw [tokensL_length ch]; omega
theorem tokensL_length : ∀ ps : List Pair, (tokensL ps).length = 2 * (flattenL ps).length
  | [] => by simp [flattenL, tokensL]
  | p :: rest => by
    simp only [flattenL, tokensL, List.length_append]
    rw [Pair.tokens_length p, tokensL_length rest]; omega
end


namespace L0

variable (g : Grammar) (inp : Input)

def Span (s s' : S0) (ps : List Pair) : Prop :=
  s.pos ≤ inp.size → s.pos ≤ s'.pos ∧ s'.pos ≤ inp.size ∧ WFForest s.pos s'.pos ps

variable {inp}

theorem ruleWrap_tree {name : String} {mod : Nat} {s s1 s' : S0} {ps1 ps : List Pair}
    (h : ruleWrap name mod s s1 ps1 = .ok s' ps) (hw : WFForest s.pos s1.pos ps1) :
    s'.pos = s1.pos ∧ WFForest s.pos s1.pos ps := by
  obtain ⟨rfl, ⟨_, rfl⟩ | ⟨_, ch, rfl, rfl | rfl⟩⟩ := ruleWrap_cases h
  · exact ⟨rfl, hw⟩
  · exact ⟨rfl, WFForest.single _ _ _ (Nat.le_refl _) hw.le (Nat.le_refl _) hw⟩
  · exact ⟨rfl, WFForest.single _ _ _ (Nat.le_refl _) hw.le (Nat.le_refl _) (visibleList_wf hw)⟩

variable (inp)

theorem tree_post : Post g inp (fun _ => True) (fun _ _ => True) (Span inp) where
  sub _ _ := trivial
  hdr _ := trivial
  table _ := ⟨trivial, trivial⟩
  nil _ hs := ⟨Nat.le_refl _, hs, .nil (Nat.le_refl _)⟩
  app h1 h2 hs := by
    obtain ⟨a1, b1, c1⟩ := h1 hs
    obtain ⟨a2, b2, c2⟩ := h2 b1
    exact ⟨Nat.le_trans a1 a2, b2, c1.append c2⟩
  wrap _ _ hb h hs := by
    obtain ⟨a, b, c⟩ := hb hs
    obtain ⟨e1, w⟩ := ruleWrap_tree h c
    rw [e1]; exact ⟨a, b, w⟩
  push _ h := h
  leaf _ _ _ _ h hs := by
    obtain ⟨e, _, hp⟩ := leaf_spec h
    rw [e]; exact ⟨(hp hs).1, (hp hs).2, .nil (hp hs).1⟩

/-- **C06, spans and nesting (specification level).**  A successful run of any expression from a
    position inside the input ends inside the input, at or after where it started, and its
    pairs form a well-formed forest spanning exactly what was consumed. -/
theorem spec_tree_wf {n : Nat} {e : Expr} {s s' : S0} {ps : List Pair}
    (h : run g inp n e s = .ok s' ps) (hs : s.pos ≤ inp.size) :
    s.pos ≤ s'.pos ∧ s'.pos ≤ inp.size ∧ WFForest s.pos s'.pos ps :=
  (Big.of_run h nofun).post (tree_post g inp) trivial s' ps rfl hs

theorem parse_tree_wf {fuel : Nat} {start : String} {k : Nat} {s : S0} {ps : List Pair}
    (h : parse g inp fuel start k = .ok s ps) (hk : k ≤ inp.size) :
    k ≤ s.pos ∧ s.pos ≤ inp.size ∧ WFForest k s.pos ps := by
  -- `parse` is `run` with one more unit of fuel on a reference to the start rule
  exact spec_tree_wf g inp (n := fuel + 1) (e := .ident start none) h hk

end L0

theorem L0.root_single {g : Grammar} {inp : Input} {fuel : Nat} {start : String} {k : Nat} {r : Rule}
    {s : S0} {ps : List Pair} (hl : g.lookup start = some r) (hS : hasBit r.mod SILENT = false)
    (h : L0.parse g inp fuel start k = .ok s ps) :
    ∃ ch, ps = [.mk r.name r.mod k s.pos ch none] := by
  unfold L0.parse at h
  rw [hl] at h
  obtain ⟨s1, ps1, _, hw⟩ := L0.wrapK_ok ((L0.ruleApply_eq _ _ _ _ _).symm.trans h)
  cases (L0.ruleWrap_pair hS).symm.trans hw
  exact ⟨_, rfl⟩


/-- the expressions the semantic functions can be asked to run when started on `e0` in grammar
    `g`: `e0`, the rule bodies of `g`, their sub-expressions — and the expressions `step`
    manufactures for the bounded repetitions (`e+ ↦ e*`, `e{n,} ↦ e*`, `e{,n} ↦ e?`,
    `e{m,n} ↦ e?`).  (`Reach.rule_sub` / `ident_sub` / `group_sub` below: the rule, identifier and
    group nodes among them are all *written* in `e0` or in a rule body.)  Constructor by
    constructor this is `root`, `body` and the closure under `L0.Sub`, the one-step relation of
    Lemmas/LeafAct.lean (`Reach.step`; `repMax`, two steps of `L0.Sub`, is the one clause
    more). -/
inductive Reach (g : Grammar) (e0 : Expr) : Expr → Prop
  | root : Reach g e0 e0
  | body {r : Rule} : r ∈ g.rules → Reach g e0 r.body
  | seq {es : List Expr} {x : Expr} : Reach g e0 (.seq es) → x ∈ es → Reach g e0 x
  | choice {es : List Expr} {x : Expr} : Reach g e0 (.choice es) → x ∈ es → Reach g e0 x
  | opt {e : Expr} : Reach g e0 (.opt e) → Reach g e0 e
  | rep {e : Expr} : Reach g e0 (.rep e) → Reach g e0 e
  | rep1 {e : Expr} : Reach g e0 (.rep1 e) → Reach g e0 e
  | repExact {e : Expr} {n : Nat} : Reach g e0 (.repExact e n) → Reach g e0 e
  | repMin {e : Expr} {n : Nat} : Reach g e0 (.repMin e n) → Reach g e0 e
  | repMax {e : Expr} {n : Nat} : Reach g e0 (.repMax e n) → Reach g e0 e
  | repMinMax {e : Expr} {m n : Nat} : Reach g e0 (.repMinMax e m n) → Reach g e0 e
  | andP {e : Expr} : Reach g e0 (.andP e) → Reach g e0 e
  | notP {e : Expr} : Reach g e0 (.notP e) → Reach g e0 e
  | group {e : Expr} {tag : Option String} : Reach g e0 (.group e tag) → Reach g e0 e
  | push {e : Expr} : Reach g e0 (.push e) → Reach g e0 e
  | rule {name : String} {mod : Nat} {sm : Bool} {body : Expr} :
      Reach g e0 (.rule name mod sm body) → Reach g e0 body
  | rep1Rep {e : Expr} : Reach g e0 (.rep1 e) → Reach g e0 (.rep e)
  | repMinRep {e : Expr} {n : Nat} : Reach g e0 (.repMin e n) → Reach g e0 (.rep e)
  | repMaxOpt {e : Expr} {n : Nat} : Reach g e0 (.repMax e n) → Reach g e0 (.opt e)
  | repMinMaxOpt {e : Expr} {m n : Nat} : Reach g e0 (.repMinMax e m n) → Reach g e0 (.opt e)

theorem Reach.step {g : Grammar} {e0 x c : Expr} (hx : Reach g e0 x) (h : L0.Sub x c) :
    Reach g e0 c := by
  cases h with
  | rule => exact .rule hx
  | seq hc => exact .seq hx hc
  | choice hc => exact .choice hx hc
  | opt => exact .opt hx
  | rep => exact .rep hx
  | rep1 => exact .rep1 hx
  | rep1' => exact .rep1Rep hx
  | repExact => exact .repExact hx
  | repMin => exact .repMin hx
  | repMin' => exact .repMinRep hx
  | repMax => exact .repMaxOpt hx
  | repMinMax => exact .repMinMax hx
  | repMinMax' => exact .repMinMaxOpt hx
  | andP => exact .andP hx
  | notP => exact .notP hx
  | group => exact .group hx
  | push => exact .push hx

theorem Reach.trans {g : Grammar} {e0 e1 x : Expr} (h0 : Reach g e1 e0) (h : Reach g e0 x) :
    Reach g e1 x := by
  induction h with
  | root => exact h0
  | body hr => exact .body hr
  | seq _ hx ih => exact .seq ih hx
  | choice _ hx ih => exact .choice ih hx
  | opt _ ih => exact .opt ih
  | rep _ ih => exact .rep ih
  | rep1 _ ih => exact .rep1 ih
  | repExact _ ih => exact .repExact ih
  | repMin _ ih => exact .repMin ih
  | repMax _ ih => exact .repMax ih
  | repMinMax _ ih => exact .repMinMax ih
  | andP _ ih => exact .andP ih
  | notP _ ih => exact .notP ih
  | group _ ih => exact .group ih
  | push _ ih => exact .push ih
  | rule _ ih => exact .rule ih
  | rep1Rep _ ih => exact .rep1Rep ih
  | repMinRep _ ih => exact .repMinRep ih
  | repMaxOpt _ ih => exact .repMaxOpt ih
  | repMinMaxOpt _ ih => exact .repMinMaxOpt ih

/-- the *syntactic* sub-expressions of `e0` and of the rule bodies: `Reach` without the four
    clauses for manufactured expressions.  Not to be confused with `L0.Sub x c` (one step from
    `x` to `c`, no grammar): this `Sub g e0 x` is a closure, a set of expressions like `Reach`. -/
inductive Sub (g : Grammar) (e0 : Expr) : Expr → Prop
  | root : Sub g e0 e0
  | body {r : Rule} : r ∈ g.rules → Sub g e0 r.body
  | seq {es : List Expr} {x : Expr} : Sub g e0 (.seq es) → x ∈ es → Sub g e0 x
  | choice {es : List Expr} {x : Expr} : Sub g e0 (.choice es) → x ∈ es → Sub g e0 x
  | opt {e : Expr} : Sub g e0 (.opt e) → Sub g e0 e
  | rep {e : Expr} : Sub g e0 (.rep e) → Sub g e0 e
  | rep1 {e : Expr} : Sub g e0 (.rep1 e) → Sub g e0 e
  | repExact {e : Expr} {n : Nat} : Sub g e0 (.repExact e n) → Sub g e0 e
  | repMin {e : Expr} {n : Nat} : Sub g e0 (.repMin e n) → Sub g e0 e
  | repMax {e : Expr} {n : Nat} : Sub g e0 (.repMax e n) → Sub g e0 e
  | repMinMax {e : Expr} {m n : Nat} : Sub g e0 (.repMinMax e m n) → Sub g e0 e
  | andP {e : Expr} : Sub g e0 (.andP e) → Sub g e0 e
  | notP {e : Expr} : Sub g e0 (.notP e) → Sub g e0 e
  | group {e : Expr} {tag : Option String} : Sub g e0 (.group e tag) → Sub g e0 e
  | push {e : Expr} : Sub g e0 (.push e) → Sub g e0 e
  | rule {name : String} {mod : Nat} {sm : Bool} {body : Expr} :
      Sub g e0 (.rule name mod sm body) → Sub g e0 body

theorem Sub.of_core {g : Grammar} {e0 p : Expr}
    (h : Sub g e0 p ∨ (∃ e, p = .rep e ∧ Sub g e0 e) ∨ (∃ e, p = .opt e ∧ Sub g e0 e))
    (hp : match p with | .rep _ | .opt _ => False | _ => True) : Sub g e0 p := by
  rcases h with h | ⟨e, rfl, _⟩ | ⟨e, rfl, _⟩
  · exact h
  · exact hp.elim
  · exact hp.elim

theorem Reach.core {g : Grammar} {e0 x : Expr} (h : Reach g e0 x) :
    Sub g e0 x ∨ (∃ e, x = .rep e ∧ Sub g e0 e) ∨ (∃ e, x = .opt e ∧ Sub g e0 e) := by
  induction h with
  | root => exact .inl .root
  | body hr => exact .inl (.body hr)
  | seq _ hx ih => exact .inl (.seq (.of_core ih trivial) hx)
  | choice _ hx ih => exact .inl (.choice (.of_core ih trivial) hx)
  | opt _ ih =>
    rcases ih with h | ⟨_, he, _⟩ | ⟨_, he, hs⟩
    · exact .inl (.opt h)
    · cases he
    · cases he; exact .inl hs
  | rep _ ih =>
    rcases ih with h | ⟨_, he, hs⟩ | ⟨_, he, _⟩
    · exact .inl (.rep h)
    · cases he; exact .inl hs
    · cases he
  | rep1 _ ih => exact .inl (.rep1 (.of_core ih trivial))
  | repExact _ ih => exact .inl (.repExact (.of_core ih trivial))
  | repMin _ ih => exact .inl (.repMin (.of_core ih trivial))
  | repMax _ ih => exact .inl (.repMax (.of_core ih trivial))
  | repMinMax _ ih => exact .inl (.repMinMax (.of_core ih trivial))
  | andP _ ih => exact .inl (.andP (.of_core ih trivial))
  | notP _ ih => exact .inl (.notP (.of_core ih trivial))
  | group _ ih => exact .inl (.group (.of_core ih trivial))
  | push _ ih => exact .inl (.push (.of_core ih trivial))
  | rule _ ih => exact .inl (.rule (.of_core ih trivial))
  | rep1Rep _ ih => exact .inr (.inl ⟨_, rfl, .rep1 (.of_core ih trivial)⟩)
  | repMinRep _ ih => exact .inr (.inl ⟨_, rfl, .repMin (.of_core ih trivial)⟩)
  | repMaxOpt _ ih => exact .inr (.inr ⟨_, rfl, .repMax (.of_core ih trivial)⟩)
  | repMinMaxOpt _ ih => exact .inr (.inr ⟨_, rfl, .repMinMax (.of_core ih trivial)⟩)

theorem Reach.rule_sub {g : Grammar} {e0 : Expr} {name : String} {mod : Nat} {sm : Bool} {body : Expr}
    (h : Reach g e0 (.rule name mod sm body)) : Sub g e0 (.rule name mod sm body) :=
  .of_core h.core trivial

theorem Reach.ident_sub {g : Grammar} {e0 : Expr} {name : String} {tag : Option String}
    (h : Reach g e0 (.ident name tag)) : Sub g e0 (.ident name tag) :=
  .of_core h.core trivial

theorem Reach.group_sub {g : Grammar} {e0 e : Expr} {tag : Option String}
    (h : Reach g e0 (.group e tag)) : Sub g e0 (.group e tag) :=
  .of_core h.core trivial

/-- `nm` is the name of a non-silent rule of the grammar's table, or of a non-silent rule
    object embedded in a reachable expression (how the built-in `EOI` shows up) -/
def NameOK (g : Grammar) (e0 : Expr) (nm : String) : Prop :=
  (∃ r ∈ g.rules, r.name = nm ∧ hasBit r.mod SILENT = false) ∨
  (∃ mod sm body, Reach g e0 (.rule nm mod sm body) ∧ hasBit mod SILENT = false)

theorem NameOK.trans {g : Grammar} {e0 e1 : Expr} {nm : String} (h0 : Reach g e1 e0)
    (h : NameOK g e0 nm) : NameOK g e1 nm := by
  rcases h with h | ⟨mod, sm, body, hr, hs⟩
  · exact Or.inl h
  · exact Or.inr ⟨mod, sm, body, h0.trans hr, hs⟩

namespace L0

variable (g : Grammar) (inp : Input) (e0 : Expr)

abbrev NP : Pair → Prop := fun p => NameOK g e0 p.name

variable {g e0}

theorem ruleWrap_names {name : String} {mod : Nat} {s s1 s' : S0} {ps1 ps : List Pair}
    (hN : hasBit mod SILENT = false → NameOK g e0 name) (hp : AllPairs (NP g e0) ps1)
    (h : ruleWrap name mod s s1 ps1 = .ok s' ps) : AllPairs (NP g e0) ps := by
  obtain ⟨_, ⟨_, rfl⟩ | ⟨hS, ch, rfl, rfl | rfl⟩⟩ := ruleWrap_cases h
  · exact hp
  · exact .cons (hN hS) hp .nil
  · exact .cons (hN hS) hp.visible .nil

variable (g e0) in
abbrev NW (name : String) (mod : Nat) : Prop := hasBit mod SILENT = false → NameOK g e0 name

theorem names_post : Post g inp (Reach g e0) (NW g e0) (fun _ _ ps => AllPairs (NP g e0) ps) where
  sub := Reach.step
  hdr hx hS := Or.inr ⟨_, _, _, hx, hS⟩
  table hr := ⟨fun hS => Or.inl ⟨_, hr, rfl, hS⟩, .body hr⟩
  nil _ := .nil
  app h1 h2 := h1.append h2
  wrap _ hw hb h := ruleWrap_names hw hb h
  push _ h := h
  leaf _ _ _ _ h := (leaf_spec h).1 ▸ .nil

/-- **C06, names (specification level).**  Every pair, at every depth, of a successful run of
    `e` carries the name of a non-silent rule of the grammar's table or of a non-silent rule
    object embedded in an expression reachable from `e`. -/
theorem names_are_rules {n : Nat} {e : Expr} {s s' : S0} {ps : List Pair}
    (h : run g inp n e s = .ok s' ps) : AllPairs (fun p => NameOK g e p.name) ps :=
  (Big.of_run h nofun).post (names_post (e0 := e) inp) .root s' ps rfl

/-- the same for `parse`, where every expression comes from the rule table: the embedded rule
    objects are those reachable from the rule bodies (whatever `e0` is) -/
theorem parse_names_are_rules {fuel : Nat} {start : String} {k : Nat} {s : S0} {ps : List Pair}
    (h : parse g inp fuel start k = .ok s ps) (e0 : Expr) : AllPairs (fun p => NameOK g e0 p.name) ps := by
  unfold parse at h
  cases hl : g.lookup start with
  | none => rw [hl] at h; cases h
  | some r =>
    rw [hl] at h
    have P := names_post (g := g) (e0 := e0) inp
    exact (Big.of_eval (j := .rule r.name r.mod r.body) (l := fuel) h nofun).post P
      (P.table (Prim.lookup_mem hl)).1 (P.table (Prim.lookup_mem hl)).2 _ _ rfl

end L0


def TagOK (g : Grammar) (e0 : Expr) (t : String) : Prop :=
  (∃ nm, Reach g e0 (.ident nm (some t))) ∨ (∃ e, Reach g e0 (.group e (some t)))

theorem TagOK.trans {g : Grammar} {e0 e1 : Expr} {t : String} (h0 : Reach g e1 e0)
    (h : TagOK g e0 t) : TagOK g e1 t := by
  rcases h with ⟨nm, h⟩ | ⟨e, h⟩
  · exact Or.inl ⟨nm, h0.trans h⟩
  · exact Or.inr ⟨e, h0.trans h⟩

namespace L1

variable (g : Grammar) (inp : Input) (e0 : Expr)

abbrev TP : Pair → Prop := fun p => ∀ t, p.tag = some t → TagOK g e0 t

def TS (c : PState) : Prop := ∀ t ∈ c.tagStack, TagOK g e0 t

variable {g e0}

theorem ts_init (k : Nat) : TS g e0 (PState.init k) := by
  intro t ht; simp [PState.init] at ht

theorem TS.of_suffix {c c' : PState} (h : TS g e0 c) (e : c'.tagStack <:+ c.tagStack) : TS g e0 c' := by
  intro t ht; exact h t (e.subset ht)

theorem TS.of_eq {c c' : PState} (h : TS g e0 c) (e : c'.tagStack = c.tagStack) : TS g e0 c' :=
  h.of_suffix (e ▸ List.suffix_refl _)

variable (g e0)

/-- the kit (Lemmas/Kit.lean) for the tags of the pairs: the tag frame, which is `tagKit`'s part
    in every field, and — if only grammar tags were pending at the start — every tag in the pairs
    returned is a grammar tag.  The tags pending at the end need no clause of their own: they are
    among those pending at the start (`TagFrame.suf`), also after a failure, where a proper
    suffix may be left. -/
def tagsKit : HKit where
  D := Reach g e0
  W := fun _ => True
  T := TagOK g e0
  Φ := fun c c' ps => TagFrame c c' ∧ (TS g e0 c → AllPairs (TP g e0) ps)
  sub := Reach.step
  hdr := fun _ => trivial
  identTag := fun h => .inl ⟨_, h⟩
  groupTag := fun h => .inr ⟨_, h⟩
  refl := fun c => ⟨tagKit.refl c, fun _ => .nil⟩
  trans := fun h1 h2 => ⟨tagKit.trans h1.1 h2.1, fun hc => (h1.2 hc).append (h2.2 (hc.of_suffix h1.1.suf))⟩
  drop := fun h => ⟨h.1, fun _ => .nil⟩
  ustack := fun st => ⟨tagKit.ustack st, fun _ => .nil⟩
  negDepth := fun n => ⟨tagKit.negDepth n, fun _ => .nil⟩
  suppress := fun b => ⟨tagKit.suppress b, fun _ => .nil⟩
  ok_after := fun h => ⟨tagKit.ok_after h.1, h.2⟩
  restore_after := fun h => ⟨tagKit.restore_after h.1, fun _ => .nil⟩
  fail := fun _ hf => ⟨tagKit.fail (fun _ _ => trivial) hf, fun _ => .nil⟩
  scope := fun {c c2 name x rs ch} mod matched _ h hp => by
    refine ⟨tagKit.scope mod matched trivial h.1 hp, fun hc => ?_⟩
    have hen : TS g e0 (ruleEnter name mod { c with rstack := c.rstack.push name }) :=
      hc.of_eq (ruleEnter_tagStack ..)
    have hch := h.2 hen
    -- the new pair takes the innermost tag pending at the exit
    have hc2 : TS g e0 c2 := hen.of_suffix h.1.suf
    unfold exitPairs
    split
    · exact .nil
    · split
      · exact hch
      · refine .cons (fun t ht => hc2 t (List.mem_of_mem_head? ht)) ?_ .nil
        split
        · exact hch.visible
        · exact hch
  tag := fun {c c1 ps t} ht h => by
    refine ⟨tagKit.tag t h.1, fun hc => h.2 ?_⟩
    intro t' ht'
    rcases List.mem_cons.mp ht' with rfl | ht'
    · exact ht
    · exact hc t' ht'

theorem tagsKit_rules : (tagsKit g e0).Rules g := fun _ hr => ⟨trivial, .body hr⟩

theorem tagsKit_moves : (tagsKit g e0).Moves inp := fun _ _ => ⟨.of_eq, fun _ => .nil⟩

variable {g e0}

/-- **C06, tags (interpreter model).**  Starting with only grammar tags waiting on the tag
    stack (in particular: none), every tag of every pair, at every depth, of the result is the
    tag written on an identifier or group node reachable from `e`. -/
theorem tags_are_grammar_tags {n : Nat} {e : Expr} {c c' : PState} {m : Bool} {ps : List Pair}
    (hc : ∀ t ∈ c.tagStack, TagOK g e t) (h : run g inp n e c = .done m c' ps) :
    AllPairs (fun p => ∀ t, p.tag = some t → TagOK g e t) ps :=
  ((HKit.run_bal (tagsKit_rules g e) (tagsKit_moves g inp e) n e c .root).of_done h).2 hc

/-- the same for `Parser.parse`: the tags are those written in the rule bodies -/
theorem parse_tags_are_grammar_tags {fuel : Nat} {start : String} {k : Nat} {c : PState} {m : Bool}
    {ps : List Pair} (h : parse g inp fuel start k = .done m c ps) (e0 : Expr) :
    AllPairs (fun p => ∀ t, p.tag = some t → TagOK g e0 t) ps :=
  ((HKit.parse_post (tagsKit_rules g e0) (tagsKit_moves g inp e0) fuel start k).of_done h).2 (ts_init k)

end L1

end Pest
