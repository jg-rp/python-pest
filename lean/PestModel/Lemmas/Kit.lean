/-
  Lemmas/Kit.lean — one traversal of `L1.step` and one of `LG.step`, for an abstract
  postcondition on a finished call.  Three kits, each a special case of the one before
  (`RKit.toHKit`, `FailPos.Kit.toRKit`): `HKit` (H as in Hoare triple: "started in `c`, a call
  that finishes ends in some `c'` with pairs `ps` such that `Φ c c' ps`"; for the generated code
  `Φ c c' []` only, and a predicate `X` on the exceptions that may come out: `PostG`, `HKit.Exc`);
  `RKit` (R for relation: `F c c'` between the two states only, claimed for the expressions whose
  embedded rule objects have names in `N`: `FailPos.namesOK`, defined here, before `RKit`, which
  needs it); `FailPos.Kit` (Lemmas/FailPos.lean: an invariant `I` of states, read as the relation
  `I c → I c'`).  `K.Bal rec` says that every call of `rec` meets the postcondition ("balanced":
  the word is the first instance's, where every call leaves the history of saved tag stacks as
  long as it found it); the traversal is `Bal rec → Bal (step rec)`.
-/
import PestModel.Hyps
import PestModel.Lemmas.Thread


namespace Pest

/-! ### an `Identifier` that finished referred to a defined rule
    (needed where `NegativePredicate` records its operand's name: `HKit.failedName_ok`) -/

def L1.IdentDef (g : Grammar) (rec : Sem1) : Prop :=
  ∀ n t c m c' ps, rec (.ident n t) c = .done m c' ps → (g.lookup n).isSome = true

theorem L1.identDef_step {g : Grammar} (inp : Input) (k : Nat) (rec : Sem1) :
    L1.IdentDef g (L1.step g inp k rec) := by
  intro n t c m c' ps h
  have h' : L1.withTag t c (L1.callRule g rec n) = .done m c' ps := h
  rw [L1.withTag_eq] at h'
  obtain ⟨c1, h1, _⟩ := R1.mapState_eq_done h'
  unfold L1.callRule at h1
  cases hl : g.lookup n with
  | none => rw [hl] at h1; cases h1
  | some r => rfl

theorem L1.identDef_run {g : Grammar} {inp : Input} : ∀ n, L1.IdentDef g (L1.run g inp n)
  | 0 => fun _ _ _ _ _ _ h => by cases h
  | n + 1 => L1.identDef_step inp n _

def LG.IdentDef (g : Grammar) (rec : SemG) : Prop :=
  ∀ n t c ps0 m c' ps, rec (.ident n t) c ps0 = .done m c' ps → (g.lookup n).isSome = true

theorem LG.identDef_step {g : Grammar} (inp : Input) (k : Nat) (rec : SemG) :
    LG.IdentDef g (LG.step g inp k rec) := by
  intro n t c ps0 m c' ps h
  have h' : LG.withTagG t c (fun c => LG.callRuleG g rec n c ps0) = .done m c' ps := h
  rw [LG.withTagG_eq] at h'
  obtain ⟨c1, h1, _⟩ := RG.mapState_eq_done h'
  unfold LG.callRuleG at h1
  cases hl : g.lookup n with
  | none => rw [hl] at h1; cases h1
  | some r => rfl

theorem LG.identDef_run {g : Grammar} {inp : Input} : ∀ n, LG.IdentDef g (LG.run g inp n)
  | 0 => fun _ _ _ _ _ _ _ h => by cases h
  | n + 1 => LG.identDef_step inp n _

/-- the data of a Hoare-style claim about every call: a postcondition `Φ c c' ps` on a finished
    call (start state, end state, pairs returned), claimed for the expressions in `D` (closed
    under `L0.Sub`), with `W` a predicate on the names of the rules entered and `T` one on the
    tags written in `D`; `Φ` is closed under every state operation the two models perform (moving
    the position apart: `HKit.Moves`).  The brackets `checkpoint … ok/restore`,
    `with state.tag(t)` and rule entry … exit are closed as wholes, so that `Φ` may observe what
    they push and pop; a failing call hands on no pairs (`drop`). -/
structure HKit where
  D : Expr → Prop
  W : String → Prop
  T : String → Prop
  Φ : PState → PState → List Pair → Prop
  sub : ∀ {x c}, D x → L0.Sub x c → D c
  hdr : ∀ {n m sm b}, D (.rule n m sm b) → W n
  identTag : ∀ {n t}, D (.ident n (some t)) → T t
  groupTag : ∀ {e t}, D (.group e (some t)) → T t
  refl : ∀ c, Φ c c []
  trans : ∀ {a b c ps qs}, Φ a b ps → Φ b c qs → Φ a c (ps ++ qs)
  drop : ∀ {a b ps}, Φ a b ps → Φ a b []
  ustack : ∀ {c : PState} {us : DStack Str}, L1.StackStep c.ustack us → Φ c { c with ustack := us } []
  negDepth : ∀ {c : PState} (n : Nat), Φ c { c with negDepth := n } []
  suppress : ∀ {c : PState} (b : Bool), Φ c { c with suppress := b } []
  ok_after : ∀ {c c1 : PState} {ps}, Φ c.checkpoint c1 ps → Φ c c1.ok ps
  restore_after : ∀ {c c1 : PState} {ps}, Φ c.checkpoint c1 ps → Φ c c1.restore []
  fail : ∀ {c c' : PState} {rn : Option String} {force : Bool}, (∀ n, rn = some n → W n) →
    c.fail rn force = some c' → Φ c c' []
  scope : ∀ {c c2 : PState} {name : String} {x : String} {rs : DStack String} {ch : List Pair}
    (mod : Nat) (matched : Bool), W name →
    Φ (L1.ruleEnter name mod { c with rstack := c.rstack.push name }) c2 ch →
    c2.rstack.pop = some (x, rs) →
    Φ c (L1.exitState name mod matched c2 rs) (L1.exitPairs name mod c.pos matched c2 ch)
  tag : ∀ {c c1 : PState} {ps} {t : String}, T t → Φ { c with tagStack := t :: c.tagStack } c1 ps →
    Φ c { c1 with tagStack := c1.tagStack.tail } ps

namespace HKit

variable {g : Grammar} {inp : Input} {K : HKit}

def Rules (K : HKit) (g : Grammar) : Prop := ∀ r ∈ g.rules, K.W r.name ∧ K.D r.body

def Moves (K : HKit) (inp : Input) : Prop :=
  ∀ {c : PState} (q : Nat), (c.pos ≤ inp.size → c.pos ≤ q ∧ q ≤ inp.size) → K.Φ c { c with pos := q } []

theorem trans_nil {a b c : PState} {ps : List Pair} (h1 : K.Φ a b ps) (h2 : K.Φ b c []) : K.Φ a c ps :=
  List.append_nil ps ▸ K.trans h1 h2

theorem failedName_ok (hR : K.Rules g) {e : Expr} (hE : K.D e)
    (hid : ∀ n t, e = .ident n t → (g.lookup n).isSome = true) :
    ∀ n, L1.failedName e = some n → K.W n := by
  intro n hn
  cases e with
  | ident n' t =>
    cases hn
    obtain ⟨r, hl⟩ := Option.isSome_iff_exists.mp (hid n t rfl)
    rw [← Prim.lookup_name hl]; exact (hR _ (Prim.lookup_mem hl)).1
  | rule n' md sm b => cases hn; exact K.hdr hE
  | _ => cases hn

def Post (K : HKit) (c : PState) : R1 → Prop
  | .done _ c' ps => K.Φ c c' ps
  | _ => True

theorem Post.of_done {c c' : PState} {r : R1} {m : Bool} {ps : List Pair} (h : K.Post c r)
    (e : r = .done m c' ps) : K.Φ c c' ps := by
  subst e; exact h

theorem Post.ite {c : PState} {p : Prop} [Decidable p] {a b : R1} (ha : p → K.Post c a)
    (hb : ¬p → K.Post c b) : K.Post c (if p then a else b) := ite_ind (P := K.Post c) ha hb

@[elab_as_elim]
theorem Post.elim {d : PState} {r : R1} {motive : R1 → Prop} (h : K.Post d r)
    (oof : motive .oof) (exc : ∀ k, motive (.exc k))
    (done : ∀ m c' ps, K.Φ d c' ps → motive (.done m c' ps)) : motive r := by
  cases r with
  | oof => exact oof
  | exc k => exact exc k
  | done m c' ps => exact done m c' ps h

def Bal (K : HKit) (rec : Sem1) : Prop := ∀ e c, K.D e → K.Post c (rec e c)

theorem failT_post {c0 c : PState} {ps : List Pair} (h : K.Φ c0 c ps) : K.Post c0 (L1.failT c) := by
  unfold L1.failT
  cases hf : c.fail none false with
  | none => trivial
  | some c' => exact K.drop (K.trans h (K.fail (by intro _ h; cases h) hf))

theorem leaf (hM : K.Moves inp) {c : PState} {r : R1} (h : L1.Leaf inp c r) : K.Post c r := by
  cases h with
  | fail => exact failT_post (K.refl c)
  | same => exact K.refl c
  | move us q hq st => exact K.trans (K.ustack st) (hM q hq)

theorem ruleParse_post {rec : Sem1} (hrec : K.Bal rec) {name : String} (mod : Nat) {body : Expr}
    (hN : K.W name) (hE : K.D body) (c : PState) : K.Post c (L1.ruleParse rec name mod body c) := by
  unfold L1.ruleParse
  refine (hrec body _ hE).elim trivial (fun _ => trivial) fun matched c2 children a => ?_
  dsimp only []
  rw [L1.ruleExit_eq]
  cases hp : c2.rstack.pop with
  | none => trivial
  | some q => exact K.scope mod matched hN a hp

theorem withTag_post {tag : Option String} (ht : ∀ t, tag = some t → K.T t) (c : PState)
    {body : PState → R1} (hbody : ∀ d, K.Post d (body d)) : K.Post c (L1.withTag tag c body) := by
  unfold L1.withTag
  cases tag with
  | none => exact hbody c
  | some t =>
    dsimp only []
    exact (hbody { c with tagStack := t :: c.tagStack }).elim trivial (fun _ => trivial)
      fun m c' ps a => K.tag (ht t rfl) a

theorem callRule_post (hR : K.Rules g) {rec : Sem1} (hrec : K.Bal rec) (name : String) (c : PState) :
    K.Post c (L1.callRule g rec name c) := by
  unfold L1.callRule
  cases hl : g.lookup name with
  | none => trivial
  | some r =>
    have hk := hR _ (Prim.lookup_mem hl)
    exact ruleParse_post hrec r.mod hk.1 hk.2 c

def Try (K : HKit) (c : PState) : L1.TryR → Prop
  | .matched c' ps => K.Φ c c' ps
  | .no c1 => K.Φ c c1 []
  | .stop (.done ..) => False
  | .stop _ => True

theorem Try.stop {c c0 : PState} {r : R1} (h : K.Try c (.stop r)) : K.Post c0 r := by
  cases r with
  | done m c' ps => exact h.elim
  | oof => trivial
  | exc x => trivial

theorem tryTrivia_post (hR : K.Rules g) {rec : Sem1} (hrec : K.Bal rec) (r : Option Rule)
    (hmem : ∀ x, r = some x → x ∈ g.rules) (c : PState) : K.Try c (L1.tryTrivia rec r c) := by
  unfold L1.tryTrivia
  cases r with
  | none => exact K.refl c
  | some r =>
    dsimp only []
    have hk := hR r (hmem r rfl)
    refine (ruleParse_post hrec r.mod hk.1 hk.2 c.checkpoint).elim trivial (fun _ => trivial)
      fun m c' ps a => ?_
    cases m with
    | true => exact K.ok_after a
    | false => exact K.restore_after a

theorem triviaLoop_post (hR : K.Rules g) {rec : Sem1} (hrec : K.Bal rec) (ws cm : Option Rule)
    (hws : ∀ x, ws = some x → x ∈ g.rules) (hcm : ∀ x, cm = some x → x ∈ g.rules) (c0 : PState) :
    ∀ (k : Nat) (c : PState) (acc : List Pair), K.Φ c0 c acc →
      K.Post c0 (L1.triviaLoop rec ws cm k c acc) := by
  intro k
  induction k with
  | zero => intro c acc _; trivial
  | succ k ih =>
    intro c acc h
    dsimp only [L1.triviaLoop]
    have h1 := tryTrivia_post hR hrec ws hws c
    cases hx : L1.tryTrivia rec ws c with
    | matched c' ps => rw [hx] at h1; exact ih c' _ (K.trans h h1)
    | stop r => rw [hx] at h1; exact h1.stop
    | no c1 =>
      rw [hx] at h1
      dsimp only []
      have h2 := tryTrivia_post hR hrec cm hcm c1
      cases hy : L1.tryTrivia rec cm c1 with
      | matched c' ps => rw [hy] at h2; exact ih c' _ (K.trans (trans_nil h h1) h2)
      | stop r => rw [hy] at h2; exact h2.stop
      | no c2 => rw [hy] at h2; exact trans_nil (trans_nil h h1) h2

theorem parseTrivia_post (hR : K.Rules g) {rec : Sem1} (hrec : K.Bal rec) (k : Nat) (c : PState) :
    K.Post c (L1.parseTrivia g rec k c) := by
  unfold L1.parseTrivia
  refine .ite (fun _ => K.refl c) fun _ => ?_
  cases hf : g.fusedSkip with
  | some r =>
    have hk := hR r (Prim.fusedSkip_mem hf)
    exact ruleParse_post hrec r.mod hk.1 hk.2 c
  | none =>
    refine .ite (fun _ => K.refl c) fun _ => ?_
    exact (triviaLoop_post hR hrec (g.lookup "WHITESPACE") (g.lookup "COMMENT")
      (fun _ h => Prim.lookup_mem h) (fun _ h => Prim.lookup_mem h) c k { c with suppress := true } []
      (K.suppress true)).elim trivial (fun _ => trivial) fun m c' ps a => trans_nil a (K.suppress false)

theorem seqParse_post (hR : K.Rules g) {rec : Sem1} (hrec : K.Bal rec) (k : Nat) (c0 : PState) :
    ∀ (es : List Expr) (c : PState) (acc : List Pair), (∀ e ∈ es, K.D e) → K.Φ c0 c acc →
      K.Post c0 (L1.seqParse g rec k es c acc) := by
  intro es
  induction es with
  | nil => intro c acc _ h; exact h
  | cons e rest ih =>
    intro c acc hE h
    dsimp only [L1.seqParse]
    refine (hrec e c (hE e (List.mem_cons_self ..))).elim trivial (fun _ => trivial) fun m c1 ps a => ?_
    cases m with
    | false => exact K.drop (K.trans h a)
    | true =>
      refine .ite (fun _ => K.trans h a) fun _ => ?_
      exact (parseTrivia_post hR hrec k c1).elim trivial (fun _ => trivial) fun m2 c2 tps a2 =>
        ih c2 _ (fun x hx => hE x (List.mem_cons_of_mem _ hx)) (K.trans (K.trans h a) a2)

theorem choiceParse_post {rec : Sem1} (hrec : K.Bal rec) (c0 : PState) :
    ∀ (es : List Expr) (c : PState), (∀ e ∈ es, K.D e) → K.Φ c0 c [] →
      K.Post c0 (L1.choiceParse rec es c) := by
  intro es
  induction es with
  | nil => intro c _ h; exact h
  | cons e rest ih =>
    intro c hE h
    dsimp only [L1.choiceParse]
    refine (hrec e c.checkpoint (hE e (List.mem_cons_self ..))).elim trivial (fun _ => trivial)
      fun m c1 ps a => ?_
    cases m with
    | true => exact K.trans h (K.ok_after a)
    | false =>
      exact ih c1.restore (fun x hx => hE x (List.mem_cons_of_mem _ hx)) (K.trans h (K.restore_after a))

theorem repLoop_post (hR : K.Rules g) {rec : Sem1} (hrec : K.Bal rec) {e : Expr} (hE : K.D e) (kk : Nat) (c0 : PState) :
    ∀ (k : Nat) (first : Bool) (c : PState) (acc : List Pair), K.Φ c0 c acc →
      K.Post c0 (L1.repLoop g rec e k kk first c acc) := by
  intro k
  induction k with
  | zero => intro first c acc _; trivial
  | succ k ih =>
    intro first c acc h
    dsimp only [L1.repLoop]
    have hT : K.Post c.checkpoint
        (if first = true then R1.done true c.checkpoint [] else L1.parseTrivia g rec kk c.checkpoint) :=
      .ite (fun _ => K.refl _) fun _ => parseTrivia_post hR hrec kk _
    refine hT.elim trivial (fun _ => trivial) fun m c1 tps a1 => ?_
    dsimp only []
    refine (hrec e c1 hE).elim trivial (fun _ => trivial) fun m2 c2 ps a2 => ?_
    cases m2 with
    | true =>
      refine ih false c2.ok _ ?_
      rw [List.append_assoc]
      exact K.trans h (K.ok_after (K.trans a1 a2))
    | false => exact trans_nil h (K.restore_after (K.trans a1 a2))

/-- POP_ALL pops under the checkpoint taken at `c0`, keeping the position, and moves it at the end -/
theorem popAllLoop_post (hM : K.Moves inp) (c0 : PState) : ∀ (k : Nat) (c : PState) (position : Nat),
    K.Φ c0.checkpoint c [] → c.pos = c0.pos →
    (c0.pos ≤ inp.size → c0.pos ≤ position ∧ position ≤ inp.size) →
    K.Post c0 (L1.popAllLoop inp k c position) := by
  intro k
  induction k with
  | zero => intro c position _ _ _; trivial
  | succ k ih =>
    intro c position hc hpos hq
    dsimp only [L1.popAllLoop]
    cases hp : c.ustack.pop with
    | none =>
      exact K.trans (K.ok_after hc) (hM position (by rw [show c.ok.pos = c0.pos from hpos]; exact hq))
    | some q =>
      obtain ⟨lit, us⟩ := q
      dsimp only []
      have hc' : K.Φ c0.checkpoint { c with ustack := us } [] := K.trans hc (K.ustack (.pop hp))
      refine .ite (fun hm => ?_) fun _ => failT_post (K.restore_after hc')
      refine ih _ _ hc' hpos fun h0 => ?_
      have := Prim.startsWithAt_le hm
      exact ⟨Nat.le_trans (hq h0).1 (Nat.le_add_right _ _), this⟩

theorem step_bal (hR : K.Rules g) (hM : K.Moves inp) {rec : Sem1} (k : Nat) (hrec : K.Bal rec)
    (hdef : L1.IdentDef g rec) : K.Bal (L1.step g inp k rec) := by
  intro x c hE
  cases x with
  | ident name tag =>
    exact withTag_post (fun t ht => K.identTag (ht ▸ hE)) c fun d => callRule_post hR hrec name d
  | rule name mod sm body => exact ruleParse_post hrec mod (K.hdr hE) (K.sub hE .rule) c
  | choice es => exact choiceParse_post hrec c es c (fun y hy => K.sub hE (.choice hy)) (K.refl c)
  | opt e =>
    dsimp only [L1.step]
    refine (hrec e c.checkpoint (K.sub hE .opt)).elim trivial (fun _ => trivial) fun m1 c1 ps1 a => ?_
    cases m1 with
    | true => exact K.ok_after a
    | false => exact K.restore_after a
  | rep e => exact repLoop_post hR hrec (K.sub hE .rep) k c k true c [] (K.refl c)
  | seq _ | rep1 _ | repExact _ _ | repMin _ _ | repMax _ _ | repMinMax _ _ _ =>
    exact seqParse_post hR hrec k c _ c [] (fun y hy => K.sub hE (.of_seqView rfl hy)) (K.refl c)
  | andP e =>
    dsimp only [L1.step]
    exact (hrec e c.checkpoint (K.sub hE .andP)).elim trivial (fun _ => trivial)
      fun m1 c1 ps1 a => K.restore_after a
  | notP e =>
    dsimp only [L1.step]
    cases he : rec e { c.checkpoint with negDepth := c.checkpoint.negDepth + 1 } with
    | oof => trivial
    | exc kx => trivial
    | done m1 c1 ps1 =>
      have r := K.restore_after (K.trans (K.negDepth _) ((hrec e _ (K.sub hE .notP)).of_done he))
      dsimp only []
      cases m1 with
      | false => exact K.trans r (K.negDepth _)
      | true =>
        simp only [↓reduceIte]
        cases hf : c1.restore.fail (L1.failedName e) true with
        | none => trivial
        | some c3 =>
          have hid : ∀ n t, e = .ident n t → (g.lookup n).isSome = true := by
            intro n t hnt; subst hnt; exact hdef n t _ _ _ _ he
          exact K.trans r (K.trans (K.fail (failedName_ok hR (K.sub hE .notP) hid) hf) (K.negDepth _))
  | group e tag =>
    exact withTag_post (fun t ht => K.groupTag (ht ▸ hE)) c fun d => hrec e d (K.sub hE .group)
  | push e =>
    dsimp only [L1.step]
    refine (hrec e c (K.sub hE .push)).elim trivial (fun _ => trivial) fun m1 c1 ps1 a => ?_
    cases m1 with
    | true => exact trans_nil a (K.ustack (.push _))
    | false => exact K.drop a
  | popAll =>
    exact popAllLoop_post hM c _ _ _ (K.refl _) rfl fun h => ⟨Nat.le_refl _, h⟩
  | _ => exact leaf hM (L1.step_leaf rfl (by nofun) k rec c)

theorem run_bal (hR : K.Rules g) (hM : K.Moves inp) : ∀ n, K.Bal (L1.run g inp n)
  | 0 => fun _ _ _ => trivial
  | n + 1 => step_bal hR hM n (run_bal hR hM n) (L1.identDef_run n)

theorem parse_post (hR : K.Rules g) (hM : K.Moves inp) (fuel : Nat) (start : String) (k : Nat) :
    K.Post (.init k) (L1.parse g inp fuel start k) :=
  callRule_post hR (run_bal hR hM fuel) start (.init k)

open C07 (callable triviaNames)

/-- `X` holds of every exception the generated code raises on the expressions in `D`: of
    `IndexError` always; of the model's two markers for tree shapes the generator does not
    handle (`nameError`: a call of a rule without a generated function, `other`: an embedded
    rule object it does not inline) only where `D` does not exclude the node that raises them -/
structure Exc (K : HKit) (g : Grammar) (X : PyExc → Prop) : Prop where
  index : X .indexError
  call : ∀ {n t}, K.D (.ident n t) → callable g n = false → X .nameError
  trivia : ∀ n ∈ triviaNames, (g.lookup n).isSome = true → callable g n = false → X .nameError
  rule : ∀ {n m sm b}, K.D (.rule n m sm b) →
    (n == "EOI" || !hasBit m SILENT || L1.ruleScoped n m) = true → X .other

theorem anyExc (K : HKit) (g : Grammar) : K.Exc g fun _ => True :=
  ⟨trivial, fun _ _ => trivial, fun _ _ _ _ => trivial, fun _ _ => trivial⟩

variable {X : PyExc → Prop}

/-- only the state part of `Φ`: after a failure the generated code's list still holds what was
    appended before, so nothing is claimed of the pairs -/
def PostG (K : HKit) (X : PyExc → Prop) (c : PState) : RG → Prop
  | .done _ c' _ => K.Φ c c' []
  | .oof => True
  | .exc x => X x

theorem PostG.ite {c : PState} {p : Prop} [Decidable p] {a b : RG} (ha : p → K.PostG X c a)
    (hb : ¬p → K.PostG X c b) : K.PostG X c (if p then a else b) := ite_ind (P := K.PostG X c) ha hb

@[elab_as_elim]
theorem PostG.elim {d : PState} {r : RG} {motive : RG → Prop} (h : K.PostG X d r)
    (oof : motive .oof) (exc : ∀ k, X k → motive (.exc k))
    (done : ∀ m c' ps, K.Φ d c' [] → motive (.done m c' ps)) : motive r := by
  cases r with
  | oof => exact oof
  | exc k => exact exc k h
  | done m c' ps => exact done m c' ps h

theorem PostG.of_done {c c' : PState} {r : RG} {m : Bool} {ps : List Pair} (h : K.PostG X c r)
    (e : r = .done m c' ps) : K.Φ c c' [] := by
  subst e; exact h

def BalG (K : HKit) (X : PyExc → Prop) (rec : SemG) : Prop := ∀ e c ps, K.D e → K.PostG X c (rec e c ps)

theorem failTG_post (hi : X .indexError) {c0 c : PState} (h : K.Φ c0 c []) (ps : List Pair) :
    K.PostG X c0 (LG.failT c ps) := by
  unfold LG.failT
  cases hf : c.fail none false with
  | none => exact hi
  | some c' => exact K.trans h (K.fail (by intro _ h; cases h) hf)

theorem ruleG_post (hi : X .indexError) {rec : SemG} (hrec : K.BalG X rec) {name : String} (mod : Nat)
    {body : Expr} (hN : K.W name) (hE : K.D body) (c : PState) (ps : List Pair) :
    K.PostG X c (LG.ruleG rec name mod body c ps) := by
  unfold LG.ruleG
  refine (hrec body _ [] hE).elim trivial (fun _ hx => hx) fun matched c2 children a => ?_
  dsimp only []
  rw [LG.ruleExitG_eq, L1.ruleExit_eq]
  cases hp : c2.rstack.pop with
  | none => exact hi
  | some q => exact K.drop (K.scope (ch := []) mod matched hN a hp)

theorem withTagG_post {tag : Option String} (ht : ∀ t, tag = some t → K.T t) (c : PState)
    {body : PState → RG} (hbody : ∀ d, K.PostG X d (body d)) : K.PostG X c (LG.withTagG tag c body) := by
  unfold LG.withTagG
  cases tag with
  | none => exact hbody c
  | some t =>
    dsimp only []
    exact (hbody { c with tagStack := t :: c.tagStack }).elim trivial (fun _ hx => hx)
      fun m c' ps a => K.tag (ht t rfl) a

theorem callRuleG_post (hi : X .indexError) (hR : K.Rules g) {rec : SemG} (hrec : K.BalG X rec) (name : String)
    (hc : callable g name = false → X .nameError) (c : PState) (ps : List Pair) :
    K.PostG X c (LG.callRuleG g rec name c ps) := by
  unfold LG.callRuleG
  unfold callable at hc
  cases hl : g.lookup name with
  | none => rw [hl] at hc; exact hc rfl
  | some r =>
    rw [hl] at hc
    have hk := hR _ (Prim.lookup_mem hl)
    exact .ite (fun hb => hc (by dsimp only []; rw [hb]; rfl)) fun _ => ruleG_post hi hrec r.mod hk.1 hk.2 c ps

def TryG (K : HKit) (X : PyExc → Prop) (c : PState) : LG.TryG → Prop
  | .matched c' _ => K.Φ c c' []
  | .no c1 _ => K.Φ c c1 []
  | .stop (.done ..) => False
  | .stop .oof => True
  | .stop (.exc x) => X x

theorem TryG.stop {c c0 : PState} {r : RG} (h : K.TryG X c (.stop r)) : K.PostG X c0 r := by
  cases r with
  | done m c' ps => exact h.elim
  | oof => exact h
  | exc x => exact h

theorem tryTriviaG_post (hi : X .indexError) (hR : K.Rules g) {rec : SemG} (hrec : K.BalG X rec) (on : Bool) (name : String)
    (hc : on = true → callable g name = false → X .nameError) (c : PState) (ps : List Pair) :
    K.TryG X c (LG.tryTriviaG g rec on name c ps) := by
  unfold LG.tryTriviaG
  cases on with
  | false => exact K.refl c
  | true =>
    simp only [Bool.not_true, Bool.false_eq_true, ↓reduceIte]
    refine (callRuleG_post hi hR hrec name (hc rfl) c.checkpoint ps).elim trivial (fun _ hx => hx)
      fun m c' ps' a => ?_
    cases m with
    | true => exact K.ok_after a
    | false => exact K.restore_after a

theorem triviaLoopG_post (hi : X .indexError) (hR : K.Rules g) {rec : SemG} (hrec : K.BalG X rec) (hasWs hasCm : Bool)
    (hw : hasWs = true → callable g "WHITESPACE" = false → X .nameError)
    (hcm : hasCm = true → callable g "COMMENT" = false → X .nameError) (c0 : PState) :
    ∀ (k : Nat) (c : PState) (ps : List Pair), K.Φ c0 c [] →
      K.PostG X c0 (LG.triviaLoopG g rec hasWs hasCm k c ps) := by
  intro k
  induction k with
  | zero => intro c ps _; trivial
  | succ k ih =>
    intro c ps h
    dsimp only [LG.triviaLoopG]
    have h1 := tryTriviaG_post hi hR hrec hasWs "WHITESPACE" hw c ps
    cases hx : LG.tryTriviaG g rec hasWs "WHITESPACE" c ps with
    | matched c' ps' => rw [hx] at h1; exact ih c' _ (K.trans h h1)
    | stop r => rw [hx] at h1; exact h1.stop
    | no c1 ps1 =>
      rw [hx] at h1
      dsimp only []
      have h2 := tryTriviaG_post hi hR hrec hasCm "COMMENT" hcm c1 ps1
      cases hy : LG.tryTriviaG g rec hasCm "COMMENT" c1 ps1 with
      | matched c' ps' => rw [hy] at h2; exact ih c' _ (K.trans (K.trans h h1) h2)
      | stop r => rw [hy] at h2; exact h2.stop
      | no c2 ps2 => rw [hy] at h2; exact K.trans (K.trans h h1) h2

theorem parseTriviaG_post (E : K.Exc g X) (hR : K.Rules g) {rec : SemG} (hrec : K.BalG X rec) (k : Nat) (c : PState) (ps : List Pair) :
    K.PostG X c (LG.parseTriviaG g rec k c ps) := by
  unfold LG.parseTriviaG
  refine .ite (fun _ => K.refl c) fun _ => .ite (fun _ => K.refl c) fun _ => .ite (fun hs => ?_) fun _ => ?_
  · refine callRuleG_post E.index hR hrec "SKIP" (E.trivia "SKIP" (.head _) ?_) c ps
    cases hf : g.fusedSkip with
    | none => rw [hf] at hs; cases hs
    | some r => rw [Prim.fusedSkip_lookup hf]; rfl
  · exact (triviaLoopG_post E.index hR hrec (g.defines "WHITESPACE") (g.defines "COMMENT")
      (E.trivia "WHITESPACE" (.tail _ (.head _))) (E.trivia "COMMENT" (.tail _ (.tail _ (.head _))))
      c k { c with suppress := true } ps (K.suppress true)).elim trivial (fun _ hx => hx)
      fun m c' ps' a => K.trans a (K.suppress false)

theorem seqG_post (E : K.Exc g X) (hR : K.Rules g) {rec : SemG} (hrec : K.BalG X rec) (k : Nat) (c0 : PState) :
    ∀ (es : List Expr) (c : PState) (ps : List Pair), (∀ e ∈ es, K.D e) → K.Φ c0 c [] →
      K.PostG X c0 (LG.seqG g rec k es c ps) := by
  intro es
  induction es with
  | nil => intro c ps _ h; exact h
  | cons e rest ih =>
    intro c ps hE h
    dsimp only [LG.seqG]
    refine (hrec e c ps (hE e (List.mem_cons_self ..))).elim trivial (fun _ hx => hx) fun m c1 ps1 a => ?_
    cases m with
    | false => exact K.trans h a
    | true =>
      refine .ite (fun _ => K.trans h a) fun _ => ?_
      exact (parseTriviaG_post E hR hrec k c1 ps1).elim trivial (fun _ hx => hx) fun m2 c2 ps2 a2 =>
        ih c2 _ (fun x hx => hE x (List.mem_cons_of_mem _ hx)) (K.trans (K.trans h a) a2)

theorem choiceG_post {rec : SemG} (hrec : K.BalG X rec) (c0 : PState) :
    ∀ (es : List Expr) (c : PState) (ps : List Pair), (∀ e ∈ es, K.D e) → K.Φ c0 c [] →
      K.PostG X c0 (LG.choiceG rec es c ps) := by
  intro es
  induction es with
  | nil => intro c ps _ h; exact h
  | cons e rest ih =>
    intro c ps hE h
    dsimp only [LG.choiceG]
    refine (hrec e c.checkpoint [] (hE e (List.mem_cons_self ..))).elim trivial (fun _ hx => hx)
      fun m c1 tmp a => ?_
    cases m with
    | true => exact K.trans h (K.ok_after a)
    | false =>
      exact ih c1.restore ps (fun x hx => hE x (List.mem_cons_of_mem _ hx)) (K.trans h (K.restore_after a))

theorem repLoopG_post (E : K.Exc g X) (hR : K.Rules g) {rec : SemG} (hrec : K.BalG X rec) {e : Expr} (hE : K.D e) (kk : Nat) (c0 : PState) :
    ∀ (k : Nat) (first : Bool) (c : PState) (ps : List Pair), K.Φ c0 c [] →
      K.PostG X c0 (LG.repLoopG g rec e k kk first c ps) := by
  intro k
  induction k with
  | zero => intro first c ps _; trivial
  | succ k ih =>
    intro first c ps h
    dsimp only [LG.repLoopG]
    have hT : K.PostG X c.checkpoint
        (if first = true then RG.done true c.checkpoint [] else LG.parseTriviaG g rec kk c.checkpoint []) :=
      .ite (fun _ => K.refl _) fun _ => parseTriviaG_post E hR hrec kk _ _
    refine hT.elim trivial (fun _ hx => hx) fun m c1 tmp a1 => ?_
    dsimp only []
    refine (hrec e c1 tmp hE).elim trivial (fun _ hx => hx) fun m2 c2 tmp' a2 => ?_
    cases m2 with
    | true => exact ih false c2.ok _ (K.trans h (K.ok_after (K.trans a1 a2)))
    | false => exact K.trans h (K.restore_after (K.trans a1 a2))

theorem leafG (hi : X .indexError) (hM : K.Moves inp) {e : Expr} (he : e.isLeaf = true) (k : Nat)
    (rec : SemG) (c : PState) (ps : List Pair) : K.PostG X c (LG.step g inp k rec e c ps) := by
  rw [LG.step_act he]
  have hl : L1.Leaf inp c _ := .of_act (leafAct_ok (g := g) e c.pos c.ustack.items)
  generalize (leafAct g inp e c.pos c.ustack.items).run1 c = r at hl ⊢
  cases hl with
  | fail => rw [← LG.failT_eq]; exact failTG_post hi (K.refl c) ps
  | same => exact K.refl c
  | move us q hq st => exact K.trans (K.ustack st) (hM q hq)

theorem step_balG (E : K.Exc g X) (hR : K.Rules g) (hM : K.Moves inp) {rec : SemG} (k : Nat) (hrec : K.BalG X rec)
    (hdef : LG.IdentDef g rec) : K.BalG X (LG.step g inp k rec) := by
  intro x c ps hE
  cases x with
  | ident name tag =>
    exact withTagG_post (fun t ht => K.identTag (ht ▸ hE)) c
      fun d => callRuleG_post E.index hR hrec name (E.call hE) d ps
  | rule name mod sm body =>
    exact .ite (fun hb => E.rule hE hb) fun _ => hrec body c ps (K.sub hE .rule)
  | choice es => exact choiceG_post hrec c es c ps (fun y hy => K.sub hE (.choice hy)) (K.refl c)
  | opt e =>
    dsimp only [LG.step]
    refine (hrec e c.checkpoint [] (K.sub hE .opt)).elim trivial (fun _ hx => hx) fun m1 c1 ps1 a => ?_
    cases m1 with
    | true => exact K.ok_after a
    | false => exact K.restore_after a
  | rep e => exact repLoopG_post E hR hrec (K.sub hE .rep) k c k true c ps (K.refl c)
  | seq _ | rep1 _ | repExact _ _ | repMin _ _ | repMax _ _ | repMinMax _ _ _ =>
    exact seqG_post E hR hrec k c _ c ps (fun y hy => K.sub hE (.of_seqView rfl hy)) (K.refl c)
  | andP e =>
    dsimp only [LG.step]
    exact (hrec e c.checkpoint [] (K.sub hE .andP)).elim trivial (fun _ hx => hx)
      fun m1 c1 ps1 a => K.restore_after a
  | notP e =>
    dsimp only [LG.step]
    have a := hrec e { c.checkpoint with negDepth := c.checkpoint.negDepth + 1 } [] (K.sub hE .notP)
    cases he : rec e { c.checkpoint with negDepth := c.checkpoint.negDepth + 1 } [] with
    | oof => trivial
    | exc kx => rw [he] at a; exact a
    | done m1 c1 ps1 =>
      rw [he] at a
      have r := K.restore_after (K.trans (K.negDepth _) a)
      dsimp only []
      cases m1 with
      | false => exact K.trans r (K.negDepth _)
      | true =>
        simp only [↓reduceIte]
        cases hf : c1.restore.fail (L1.failedName e) true with
        | none => exact E.index
        | some c3 =>
          have hid : ∀ n t, e = .ident n t → (g.lookup n).isSome = true := by
            intro n t hnt; subst hnt; exact hdef n t _ _ _ _ _ he
          exact K.trans r (K.trans (K.fail (failedName_ok hR (K.sub hE .notP) hid) hf) (K.negDepth _))
  | group e tag =>
    exact withTagG_post (fun t ht => K.groupTag (ht ▸ hE)) c fun d => hrec e d ps (K.sub hE .group)
  | push e =>
    dsimp only [LG.step]
    refine (hrec e c ps (K.sub hE .push)).elim trivial (fun _ hx => hx) fun m1 c1 ps1 a => ?_
    cases m1 with
    | true => exact K.trans a (K.ustack (.push _))
    | false => exact a
  | _ => exact leafG E.index hM rfl k rec c ps

theorem run_balG (E : K.Exc g X) (hR : K.Rules g) (hM : K.Moves inp) : ∀ n, K.BalG X (LG.run g inp n)
  | 0 => fun _ _ _ _ => trivial
  | n + 1 => step_balG E hR hM n (run_balG E hR hM n) (LG.identDef_run n)

/-- the generated `parse()`: as `callRuleG`, but an unknown start rule is a `KeyError` -/
theorem parseG_post (E : K.Exc g X) (hk : X .keyError) (hR : K.Rules g) (hM : K.Moves inp)
    (fuel : Nat) (start : String) (k : Nat) :
    K.PostG X (.init k) (LG.parse g inp fuel start k) := by
  unfold LG.parse
  cases hl : g.lookup start with
  | none => exact hk
  | some r =>
    have h := hR _ (Prim.lookup_mem hl)
    exact .ite (fun _ => hk) fun _ => ruleG_post E.index (run_balG E hR hM fuel) r.mod h.1 h.2 _ []

end HKit

/-! ### the state-only kit: the expressions claimed for are given by the names of the rule
    objects embedded in them

    `embNames`, `namesOK` bear the namespace of their first user (`FailPos.Kit.rule`, and through
    it the statements of C13); they stand here because `RKit.toHKit` takes `D := namesOK N`. -/

namespace FailPos

mutual
/-- names of all `.rule` nodes (built-in rule objects embedded in a tree), nested ones included -/
def embNames : Expr → List String
  | .rule n _ _ b => n :: embNames b
  | .seq es => embNamesL es
  | .choice es => embNamesL es
  | .opt e => embNames e
  | .rep e => embNames e
  | .rep1 e => embNames e
  | .repExact e _ => embNames e
  | .repMin e _ => embNames e
  | .repMax e _ => embNames e
  | .repMinMax e _ _ => embNames e
  | .andP e => embNames e
  | .notP e => embNames e
  | .group e _ => embNames e
  | .push e => embNames e
  | _ => []
def embNamesL : List Expr → List String
  | [] => []
  | e :: es => embNames e ++ embNamesL es
end

theorem mem_embNamesL {n : String} : ∀ {es : List Expr}, n ∈ embNamesL es ↔ ∃ e ∈ es, n ∈ embNames e
  | [] => by simp [embNamesL]
  | e :: es => by simp [embNamesL, mem_embNamesL (es := es)]

def namesOK (N : String → Prop) (e : Expr) : Prop := ∀ n ∈ embNames e, N n

namespace namesOK
variable {N : String → Prop}
theorem seq {es : List Expr} (h : namesOK N (.seq es)) : ∀ e ∈ es, namesOK N e :=
  fun e he n hn => h n (mem_embNamesL.mpr ⟨e, he, hn⟩)
theorem choice {es : List Expr} (h : namesOK N (.choice es)) : ∀ e ∈ es, namesOK N e :=
  fun e he n hn => h n (mem_embNamesL.mpr ⟨e, he, hn⟩)
theorem rule {n : String} {m : Nat} {sm : Bool} {b : Expr} (h : namesOK N (.rule n m sm b)) :
    N n ∧ namesOK N b :=
  ⟨h n (List.mem_cons_self ..), fun x hx => h x (List.mem_cons_of_mem _ hx)⟩
theorem repExact {e : Expr} {k : Nat} (h : namesOK N (.repExact e k)) : namesOK N e := h
theorem repMin {e : Expr} {k : Nat} (h : namesOK N (.repMin e k)) : namesOK N e := h
theorem repMax {e : Expr} {k : Nat} (h : namesOK N (.repMax e k)) : namesOK N e := h
theorem repMinMax {e : Expr} {k l : Nat} (h : namesOK N (.repMinMax e k l)) : namesOK N e := h
theorem mk_rep {e : Expr} (h : namesOK N e) : namesOK N (.rep e) := h

theorem sub {x c : Expr} (h : namesOK N x) (s : L0.Sub x c) : namesOK N c := by
  cases s with
  | rule => exact h.rule.2
  | seq hc => exact h.seq _ hc
  | choice hc => exact h.choice _ hc
  | _ => exact h

theorem of_forall (h : ∀ n, N n) (e : Expr) : namesOK N e := fun _ _ => h _
end namesOK

end FailPos

open FailPos (namesOK)

/-- the state-only kit (R for relation): `F` between the state a call starts in and the state it
    ends in, and a predicate `N` on rule names (nested `.rule` nodes included: `namesOK`), with the
    closure properties of `HKit` that are left when the pairs are not looked at -/
structure RKit where
  F : PState → PState → Prop
  N : String → Prop
  refl : ∀ c, F c c
  trans : ∀ {a b c}, F a b → F b c → F a c
  ustack : ∀ {c : PState} {us : DStack Str}, L1.StackStep c.ustack us → F c { c with ustack := us }
  negDepth : ∀ {c : PState} (n : Nat), F c { c with negDepth := n }
  suppress : ∀ {c : PState} (b : Bool), F c { c with suppress := b }
  ok_after : ∀ {c c1 : PState}, F c.checkpoint c1 → F c c1.ok
  restore_after : ∀ {c c1 : PState}, F c.checkpoint c1 → F c c1.restore
  fail : ∀ {c c' : PState} {rn : Option String} {force : Bool}, (∀ n, rn = some n → N n) →
    c.fail rn force = some c' → F c c'
  scope : ∀ {c c2 : PState} {name : String} {x : String} {rs : DStack String} (mod : Nat)
    (matched : Bool), N name →
    F (L1.ruleEnter name mod { c with rstack := c.rstack.push name }) c2 →
    c2.rstack.pop = some (x, rs) → F c (L1.exitState name mod matched c2 rs)
  tag : ∀ {c c1 : PState} (t : String), F { c with tagStack := t :: c.tagStack } c1 →
    F c { c1 with tagStack := c1.tagStack.tail }

namespace RKit

def toHKit (K : RKit) : HKit where
  D := namesOK K.N
  W := K.N
  T := fun _ => True
  Φ := fun c c' _ => K.F c c'
  sub := namesOK.sub
  hdr := fun h => h.rule.1
  identTag := fun _ => trivial
  groupTag := fun _ => trivial
  refl := K.refl
  trans := K.trans
  drop := id
  ustack := K.ustack
  negDepth := K.negDepth
  suppress := K.suppress
  ok_after := K.ok_after
  restore_after := K.restore_after
  fail := K.fail
  scope := fun mod matched hN a hp => K.scope mod matched hN a hp
  tag := fun _ a => K.tag _ a

/-! The notions of `HKit` at `K.toHKit`, with no claim about exceptions; the lemmas of `HKit`
    apply to them as they are. -/

abbrev Moves (K : RKit) (inp : Input) : Prop := K.toHKit.Moves inp

abbrev Rules (K : RKit) (g : Grammar) : Prop := K.toHKit.Rules g

abbrev Bal (K : RKit) (rec : Sem1) : Prop := K.toHKit.Bal rec

abbrev BalG (K : RKit) (rec : SemG) : Prop := K.toHKit.BalG (fun _ => True) rec

variable {g : Grammar} {inp : Input} {K : RKit}

theorem run_bal (hR : K.Rules g) (hM : K.Moves inp) (n : Nat) : K.Bal (L1.run g inp n) :=
  HKit.run_bal hR hM n

theorem run_balG (hR : K.Rules g) (hM : K.Moves inp) (n : Nat) : K.BalG (LG.run g inp n) :=
  HKit.run_balG (K.toHKit.anyExc g) hR hM n

theorem parseG_post (hR : K.Rules g) (hM : K.Moves inp) (fuel : Nat) (start : String) (k : Nat) :
    K.toHKit.PostG (fun _ => True) (.init k) (LG.parse g inp fuel start k) :=
  HKit.parseG_post (K.toHKit.anyExc g) trivial hR hM fuel start k

/-! A kit that restricts no rule name claims every expression of every grammar: `Bal`, `BalG`
    without their side condition. -/

theorem rules_of_forall (h : ∀ n, K.N n) (g : Grammar) : K.Rules g :=
  fun _ _ => ⟨h _, .of_forall h _⟩

theorem bal_iff (hN : ∀ n, K.N n) {rec : Sem1} :
    K.Bal rec ↔ ∀ e c m c' ps, rec e c = .done m c' ps → K.F c c' := by
  constructor
  · intro h e c m c' ps hr
    exact (h e c (.of_forall hN e)).of_done hr
  · intro h e c _
    cases hr : rec e c with
    | done m c' ps => exact h e c m c' ps hr
    | oof => trivial
    | exc x => trivial

theorem balG_iff (hN : ∀ n, K.N n) {rec : SemG} :
    K.BalG rec ↔ ∀ e c ps0 m c' ps, rec e c ps0 = .done m c' ps → K.F c c' := by
  constructor
  · intro h e c ps0 m c' ps hr
    exact (h e c ps0 (.of_forall hN e)).of_done hr
  · intro h e c ps0 _
    cases hr : rec e c ps0 with
    | done m c' ps => exact h e c ps0 m c' ps hr
    | oof => trivial
    | exc x => trivial

end RKit
end Pest
