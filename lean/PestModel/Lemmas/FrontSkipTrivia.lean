/-
  Lemmas/FrontSkipTrivia.lean — `skip_trivia`, analysed once for both halves of the scanner proof.

  `Tr F tl`: `F` is `tl` after some trivia (`IsTrivia`, Front/AstTrivia.lean).  The three patterns
  `RE_WHITESPACE`, `RE_LINE_COMMENT`, `RE_BLOCK_COMMENT` match units of trivia and nothing else
  (block comments through the direct description `BB`), so what a run of `skip_trivia` passes over
  is trivia — except that the line comment pattern also matches a comment the end of the text cuts
  short: `TrL`, read as `TrE s.rest (skipTrivia s).rest` once the run has stopped (`skipTrivia_tre`).
  This is what the inversion uses.  The run stops where no pattern matches (`skipTrivia_stop`), and
  a text splits in at most one way into trivia and a tail that no unit of trivia starts
  (`trivia_unique`: what a text starts with determines the length of its first unit, `unitLen`).
  Hence the accept half's statement: on trivia followed by `tl` the run ends at `tl`
  (`skipTrivia_tr`; at the end of the text if `tl` is an unterminated comment, `skipTrivia_end`).
  Everything is in `TRT` except `IS.TrL`.  Trivia under `++` (`isTrivia_append`) is in
  Lemmas/FrontPrintText.lean, with the layout relation on its own.  Read after
  Lemmas/FrontScanLex.lean; then the two halves: Lemmas/FrontAccKit.lean, Lemmas/FrontInvScan.lean.
-/
import PestModel.Lemmas.FrontPrintText
import PestModel.Lemmas.FrontScanLex

namespace Pest
namespace Front
namespace TRT
open RT

theorem isTrivia_hd {q : Nat → Bool} (hq : ∀ c, tokc c = false → q c = true) {ws tl : Text}
    (hw : IsTrivia ws) (ht : Hd q tl) : Hd q (ws ++ tl) := by
  cases hw with
  | nil => simpa using ht
  | sp _ => exact hq 32 (by decide)
  | tab _ => exact hq 9 (by decide)
  | lf _ => exact hq 10 (by decide)
  | crlf _ => exact hq 13 (by decide)
  | line r _ _ _ _ => exact hq 47 (by decide)
  | block hc _ =>
    obtain ⟨body, rfl, _⟩ := hc
    exact hq 47 (by decide)

def Tr (F tl : Text) : Prop := ∃ ws, IsTrivia ws ∧ F = ws ++ tl

theorem Tr.refl (tl : Text) : Tr tl tl := ⟨[], .nil, rfl⟩
theorem Tr.mk {ws : Text} (h : IsTrivia ws) (tl : Text) : Tr (ws ++ tl) tl := ⟨ws, h, rfl⟩
theorem Tr.length_le {F tl : Text} (h : Tr F tl) : tl.length ≤ F.length := by
  obtain ⟨ws, _, rfl⟩ := h; simp
theorem Tr.trans {A B C : Text} (h1 : Tr A B) (h2 : Tr B C) : Tr A C := by
  obtain ⟨w1, hw1, rfl⟩ := h1
  obtain ⟨w2, hw2, rfl⟩ := h2
  exact ⟨w1 ++ w2, isTrivia_append hw1 hw2, by simp⟩
theorem Tr.hd {q : Nat → Bool} (hq : ∀ c, tokc c = false → q c = true) {F tl : Text}
    (h : Tr F tl) (ht : Hd q tl) : Hd q F := by
  obtain ⟨ws, hw, rfl⟩ := h; exact isTrivia_hd hq hw ht

/-! ### block comments, directly

`BB d r`: `r` is what follows an opening `/*` up to and including the `*/` that closes it, when
`d` further comments are open around it — the four alternatives of `RE_BLOCK_COMMENT`. -/

inductive BB : Nat → Text → Prop
  /-- `*/` closing the outermost comment -/
  | close : BB 0 [42, 47]
  /-- `*/` closing an inner comment -/
  | closeS {d : Nat} {r : Text} : BB d r → BB (d + 1) (42 :: 47 :: r)
  /-- `/*` opening an inner comment -/
  | opn {d : Nat} {r : Text} : BB (d + 1) r → BB d (47 :: 42 :: r)
  /-- any other character: not a `*` before `/`, not a `/` before `*` -/
  | chr {d : Nat} {r : Text} (c : Nat) : ¬ (c = 42 ∧ r.head? = some 47) →
      ¬ (c = 47 ∧ r.head? = some 42) → BB d r → BB d (c :: r)

theorem BB.plain {d : Nat} {r : Text} (c : Nat) (h1 : c ≠ 42) (h2 : c ≠ 47) (h : BB d r) :
    BB d (c :: r) :=
  .chr c (fun h' => h1 h'.1) (fun h' => h2 h'.1) h

theorem BB.ne_nil {d : Nat} {r : Text} (h : BB d r) : r ≠ [] := by
  cases h <;> simp

theorem blockBody_BB {d : Nat} {r : Text} (h : BB d r) :
    ∀ tl, blockBody d (r ++ tl) = some r.length := by
  induction h with
  | close => intro tl; simp [blockBody]
  | closeS _ ih => intro tl; simp [blockBody, ih tl]
  | opn _ ih => intro tl; simp [blockBody, ih tl]
  | @chr d r c h1 h2 hr ih =>
    intro tl
    obtain ⟨x, r', rfl⟩ : ∃ x r', r = x :: r' := by
      cases r with
      | nil => exact absurd rfl hr.ne_nil
      | cons x r' => exact ⟨x, r', rfl⟩
    have e := blockBody.eq_5 d c ((x :: r') ++ tl)
      (fun r1 hc he => h1 ⟨hc, by simp at he; simp [he.1]⟩)
      (fun r1 hc he => h2 ⟨hc, by simp at he; simp [he.1]⟩)
    rw [List.cons_append, e, ih tl]
    simp

theorem isBlock_of_BB {body : Text} (h : BB 0 body) : IsBlock (47 :: 42 :: body) :=
  ⟨body, rfl, blockBody_BB h⟩

theorem isBlock_flat (body : Text) (h : ∀ c ∈ body, c ≠ 42 ∧ c ≠ 47) :
    IsBlock (47 :: 42 :: (body ++ [42, 47])) := by
  apply isBlock_of_BB
  induction body with
  | nil => exact .close
  | cons c r ih =>
    have hc := h c (by simp)
    exact .plain c hc.1 hc.2 (ih (fun c' hc' => h c' (by simp [hc'])))

/-! ### what a run of `skip_trivia` passes over -/

theorem isTrivia_ws : ∀ t : Text, IsTrivia (t.take (wsLen t)) := by
  intro t
  fun_induction wsLen t with
  | case1 => exact .nil
  | case2 r ih => exact .crlf ih
  | case3 c r _ hc ih =>
    simp only [List.take_succ_cons]
    have : (c = 32 ∨ c = 9) ∨ c = 10 := by simpa using hc
    rcases this with (rfl | rfl) | rfl
    · exact .sp ih
    · exact .tab ih
    · exact .lf ih
  | case4 c r _ hc => exact .nil

theorem spanLen_drop (p : Nat → Bool) : ∀ t : Text,
    t.drop (spanLen p t) = [] ∨ ∃ c u, t.drop (spanLen p t) = c :: u ∧ p c = false := fun t => by
  rw [drop_spanLen]
  cases h : t.dropWhile p with
  | nil => exact .inl rfl
  | cons c u =>
    have := List.head_dropWhile_not p (l := t) (h ▸ List.cons_ne_nil c u)
    simp only [h, List.head_cons] at this
    exact .inr ⟨c, u, rfl, this⟩

/-- what `RE_LINE_COMMENT` matches: `//`, a text without line feed that does not start with `/`
    or `!`; behind it the text ends or a line feed follows -/
theorem mLineComment_inv {t : Text} {n : Nat} (h : mLineComment t = some n) :
    ∃ r, t.take n = 47 :: 47 :: r ∧ (∀ c ∈ r, c ≠ 10) ∧ r.head? ≠ some 47 ∧ r.head? ≠ some 33 ∧
      (t.drop n = [] ∨ ∃ u, t.drop n = 10 :: u) := by
  unfold mLineComment at h
  split at h
  · rename_i r
    split at h
    · rename_i c r'
      split at h
      · cases h
      · rename_i hc
        cases h
        have hc47 : c ≠ 47 := fun e => hc (by simp [e])
        have hc33 : c ≠ 33 := fun e => hc (by simp [e])
        refine ⟨(c :: r').take (spanLen (· != 10) (c :: r')), ?_, ?_, ?_, ?_, ?_⟩
        · have : 2 + spanLen (· != 10) (c :: r') = spanLen (· != 10) (c :: r') + 1 + 1 := by omega
          rw [this, List.take_succ_cons, List.take_succ_cons]
        · intro x hx
          have := spanLen_take (· != 10) (c :: r') x hx
          simpa using this
        · cases hsp : spanLen (· != 10) (c :: r') with
          | zero => simp
          | succ k => simp [hc47]
        · cases hsp : spanLen (· != 10) (c :: r') with
          | zero => simp
          | succ k => simp [hc33]
        · have : 2 + spanLen (· != 10) (c :: r') = spanLen (· != 10) (c :: r') + 1 + 1 := by omega
          rw [this, List.drop_succ_cons, List.drop_succ_cons]
          rcases spanLen_drop (· != 10) (c :: r') with h0 | ⟨x, u, h0, hx⟩
          · exact .inl h0
          · have : x = 10 := by simpa using hx
            subst this
            exact .inr ⟨u, h0⟩
    · cases h
      exact ⟨[], rfl, by simp, by simp, by simp, .inl rfl⟩
  · cases h

theorem bb_of_blockBody : ∀ (d : Nat) (t : Text) (k : Nat), blockBody d t = some k → BB d (t.take k) := by
  intro d t
  fun_induction blockBody d t with
  | case1 => intro k h; cases h
  | case2 r => intro k h; cases h; exact .close
  | case3 r d ih =>
    intro k h
    obtain ⟨k', hb, rfl⟩ := Option.map_eq_some_iff.1 h
    exact .closeS (ih k' hb)
  | case4 depth r ih =>
    intro k h
    obtain ⟨k', hb, rfl⟩ := Option.map_eq_some_iff.1 h
    exact .opn (ih k' hb)
  | case5 depth c r h1 h2 ih =>
    intro k h
    obtain ⟨k', hb, rfl⟩ := Option.map_eq_some_iff.1 h
    have hbb := ih k' hb
    have hne := hbb.ne_nil
    simp only [List.take_succ_cons] at *
    obtain ⟨x, r', rfl⟩ : ∃ x r', r = x :: r' := by
      cases r with
      | nil => simp at hne
      | cons x r' => exact ⟨x, r', rfl⟩
    obtain ⟨j, rfl⟩ : ∃ j, k' = j + 1 := by
      cases k' with
      | zero => simp at hne
      | succ j => exact ⟨j, rfl⟩
    refine .chr c ?_ ?_ hbb
    · rintro ⟨rfl, hh⟩
      simp only [List.take_succ_cons, List.head?_cons, Option.some.injEq] at hh
      subst hh
      exact h1 r' rfl rfl
    · rintro ⟨rfl, hh⟩
      simp only [List.take_succ_cons, List.head?_cons, Option.some.injEq] at hh
      subst hh
      exact h2 r' rfl rfl

theorem mBlockComment_inv {t : Text} {n : Nat} (h : mBlockComment t = some n) : IsBlock (t.take n) := by
  unfold mBlockComment at h
  split at h
  · rename_i r
    obtain ⟨k, hb, rfl⟩ := Option.map_eq_some_iff.1 h
    have e : (47 :: 42 :: r).take (k + 2) = 47 :: 42 :: r.take k := by
      simp [List.take_succ_cons]
    rw [e]
    exact isBlock_of_BB (bb_of_blockBody 0 r k hb)
  · cases h

def TrE (t tl : Text) : Prop := Tr t tl ∨ (tl = [] ∧ ∃ ws e, IsTrivia ws ∧ t = ws ++ e ∧ EndC e)

theorem isTrivia_lf_inv {w : Text} (h : IsTrivia (10 :: w)) : IsTrivia w := by
  generalize hx : 10 :: w = x at h
  cases h with
  | nil => cases hx
  | sp _ => cases hx
  | tab _ => cases hx
  | lf h' => cases hx; exact h'
  | crlf _ => cases hx
  | line r _ _ _ _ => cases hx
  | block hc _ =>
    obtain ⟨body, rfl, _⟩ := hc
    cases hx

theorem endC_not_lf {u : Text} : ¬ EndC (10 :: u) := by
  rintro (h | ⟨r, h, _⟩) <;> cases h

end TRT
namespace IS
open RT TRT

/-- trivia as the rounds of `skip_trivia` see it: a line comment stops before its line feed, or
    at the end of the text -/
inductive TrL : Text → Text → Prop
  | nil (tl : Text) : TrL tl tl
  | triv {ws t tl : Text} : IsTrivia ws → TrL t tl → TrL (ws ++ t) tl
  | line (r : Text) {t tl : Text} : (∀ c ∈ r, c ≠ 10) → r.head? ≠ some 47 → r.head? ≠ some 33 →
      (t = [] ∨ ∃ u, t = 10 :: u) → TrL t tl → TrL (47 :: 47 :: (r ++ t)) tl

theorem TrL.suffix {t tl : Text} (h : TrL t tl) : ∃ w, t = w ++ tl := by
  induction h with
  | nil tl => exact ⟨[], rfl⟩
  | @triv ws _ _ _ _ ih => obtain ⟨w, rfl⟩ := ih; exact ⟨ws ++ w, by simp⟩
  | @line r _ _ _ _ _ _ _ ih => obtain ⟨w, rfl⟩ := ih; exact ⟨47 :: 47 :: (r ++ w), by simp⟩

theorem TrL.trans {t m tl : Text} (h1 : TrL t m) (h2 : TrL m tl) : TrL t tl := by
  induction h1 with
  | nil _ => exact h2
  | triv hw _ ih => exact .triv hw (ih h2)
  | line r p1 p2 p3 p4 _ ih => exact .line r p1 p2 p3 p4 (ih h2)

/-- `hws`: where a round has left a line comment before its line feed (`line`, second case),
    that line feed is the first unit of what follows, unless the run stops there — and it does
    not stop before white space -/
theorem TrL.toTrE {t tl : Text} (h : TrL t tl) (hws : mWhitespace tl = none) : TrE t tl := by
  induction h with
  | nil tl => exact .inl (Tr.refl tl)
  | @triv ws t tl hw _ ih =>
    rcases ih hws with ⟨ws', hw', rfl⟩ | ⟨rfl, ws', e, hw', rfl, he⟩
    · exact .inl ⟨ws ++ ws', isTrivia_append hw hw', by simp⟩
    · exact .inr ⟨rfl, ws ++ ws', e, isTrivia_append hw hw', by simp, he⟩
  | @line r t tl h1 h2 h3 hnext hrest ih =>
    rcases hnext with rfl | ⟨u, rfl⟩
    · obtain ⟨w, hw⟩ := hrest.suffix
      have htl : tl = [] := by
        cases w with
        | nil => simpa using hw.symm
        | cons x w' => simp at hw
      subst htl
      exact .inr ⟨rfl, [], 47 :: 47 :: r, .nil, by simp, .inr ⟨r, rfl, h1, h2, h3⟩⟩
    · rcases ih hws with ⟨ws', hw', e1⟩ | ⟨rfl, ws', e, hw', e1, he⟩
      · cases ws' with
        | nil =>
          simp only [List.nil_append] at e1
          subst e1
          simp [mWhitespace, wsLen] at hws
        | cons x ws'' =>
          simp only [List.cons_append, List.cons.injEq] at e1
          obtain ⟨rfl, rfl⟩ := e1
          refine .inl ⟨47 :: 47 :: (r ++ 10 :: ws''), .line r h1 h2 h3 (isTrivia_lf_inv hw'), by simp⟩
      · cases ws' with
        | nil =>
          simp only [List.nil_append] at e1
          subst e1
          exact absurd he endC_not_lf
        | cons x ws'' =>
          simp only [List.cons_append, List.cons.injEq] at e1
          obtain ⟨rfl, rfl⟩ := e1
          exact .inr ⟨rfl, 47 :: 47 :: (r ++ 10 :: ws''), e, .line r h1 h2 h3 (isTrivia_lf_inv hw'),
            by simp, he⟩

end IS
namespace TRT
open RT IS

theorem skip_cases (m : Text → Option Nat) (s : St) :
    (skip m s).2.toks = s.toks ∧
      ((m s.rest = none ∧ (skip m s).2 = s) ∨
        ∃ n, m s.rest = some n ∧ (skip m s).2.rest = s.rest.drop n) := by
  unfold skip
  cases hm : m s.rest with
  | none => exact ⟨rfl, .inl ⟨rfl, rfl⟩⟩
  | some n => exact ⟨rfl, .inr ⟨n, rfl, rfl⟩⟩

theorem triviaRound_trl (s : St) :
    (triviaRound s).2.toks = s.toks ∧ TrL s.rest (triviaRound s).2.rest := by
  rw [triviaRound_snd]
  obtain ⟨t1, c1⟩ := skip_cases mWhitespace s
  generalize (skip mWhitespace s).2 = s1 at t1 c1 ⊢
  obtain ⟨t2, c2⟩ := skip_cases mLineComment s1
  generalize (skip mLineComment s1).2 = s2 at t2 c2 ⊢
  obtain ⟨t3, c3⟩ := skip_cases mBlockComment s2
  generalize (skip mBlockComment s2).2 = s3 at t3 c3 ⊢
  refine ⟨by rw [t3, t2, t1], ?_⟩
  have h3 : TrL s2.rest s3.rest := by
    rcases c3 with ⟨_, rfl⟩ | ⟨n, hm, hr⟩
    · exact .nil _
    · have hb := IsTrivia.block (mBlockComment_inv hm) .nil
      rw [List.append_nil] at hb
      have := TrL.triv hb (.nil (s2.rest.drop n))
      rwa [List.take_append_drop, ← hr] at this
  have h2 : TrL s1.rest s3.rest := by
    rcases c2 with ⟨_, rfl⟩ | ⟨n, hm, hr⟩
    · exact h3
    · obtain ⟨r, e1, p1, p2, p3, p4⟩ := mLineComment_inv hm
      rw [← hr] at p4
      have := TrL.line r p1 p2 p3 p4 h3
      have e : s1.rest = 47 :: 47 :: (r ++ s2.rest) := by
        rw [hr]
        have := List.take_append_drop n s1.rest
        rw [e1] at this
        simpa using this.symm
      rwa [← e] at this
  rcases c1 with ⟨_, rfl⟩ | ⟨n, hm, hr⟩
  · exact h2
  · have hn : n = wsLen s.rest := by
      unfold mWhitespace at hm
      simp only at hm
      split at hm
      · cases hm
      · cases hm; rfl
    have := TrL.triv (isTrivia_ws s.rest) (hr ▸ h2 : TrL (s.rest.drop n) s3.rest)
    rwa [← hn, List.take_append_drop] at this

theorem skipTriviaN_trl : ∀ (n : Nat) (s : St),
    (skipTriviaN n s).toks = s.toks ∧ TrL s.rest (skipTriviaN n s).rest
  | 0, s => ⟨rfl, .nil _⟩
  | n + 1, s => by
    obtain ⟨t1, h1⟩ := triviaRound_trl s
    rw [Front.skipTriviaN_succ]
    by_cases ha : (triviaRound s).1 = true
    · rw [if_pos ha]
      obtain ⟨t2, h2⟩ := skipTriviaN_trl n (triviaRound s).2
      exact ⟨by rw [t2, t1], h1.trans h2⟩
    · rw [if_neg ha]; exact ⟨t1, h1⟩

theorem skipTrivia_toks (s : St) : (skipTrivia s).toks = s.toks := (skipTriviaN_trl _ s).1

@[simp] theorem out_skipTrivia (s : St) : out (skipTrivia s) = out s := by
  simp [out, skipTrivia_toks]

theorem skip_fst_false {m : Text → Option Nat} {s : St} (h : (skip m s).1 = false) :
    m s.rest = none ∧ (skip m s).2 = s := by
  unfold skip at h ⊢
  cases hm : m s.rest with
  | none => exact ⟨rfl, rfl⟩
  | some n => rw [hm] at h; cases h

theorem skipTrivia_stop (s : St) : Stop (skipTrivia s).rest := by
  have h := skipTrivia_done s
  rw [triviaRound_fst] at h
  simp only [Bool.or_eq_false_iff] at h
  obtain ⟨⟨h1, h2⟩, h3⟩ := h
  obtain ⟨n1, e1⟩ := skip_fst_false h1
  rw [e1] at h2 h3
  obtain ⟨n2, e2⟩ := skip_fst_false h2
  rw [e2] at h3
  exact ⟨n1, n2, (skip_fst_false h3).1⟩

theorem skipTrivia_tre (s : St) : TrE s.rest (skipTrivia s).rest :=
  (skipTriviaN_trl _ s).2.toTrE (skipTrivia_stop s).1

theorem TrE.refl (t : Text) : TrE t t := .inl (Tr.refl t)

theorem TrE.tr {a b : Text} (h : TrE a b) (hne : b ≠ []) : Tr a b := by
  rcases h with h | ⟨h, _⟩
  · exact h
  · exact absurd h hne

theorem TrE.endc {a : Text} (h : TrE a []) : ∃ ws e, IsTrivia ws ∧ a = ws ++ e ∧ EndC e := by
  rcases h with ⟨ws, hws, rfl⟩ | ⟨_, h⟩
  · exact ⟨ws, [], hws, rfl, .inl rfl⟩
  · exact h

theorem TrE.trans {a b c : Text} (h1 : TrE a b) (h2 : TrE b c) : TrE a c := by
  rcases h1 with ⟨ws, hws, rfl⟩ | ⟨rfl, h1⟩
  · rcases h2 with ⟨ws', hws', rfl⟩ | ⟨rfl, ws', e, hws', rfl, he⟩
    · exact .inl ⟨ws ++ ws', isTrivia_append hws hws', by simp⟩
    · exact .inr ⟨rfl, ws ++ ws', e, isTrivia_append hws hws', by simp, he⟩
  · have hc : c = [] := by
      rcases h2 with ⟨ws', _, h⟩ | ⟨h, _⟩
      · cases ws' with
        | nil => simpa using h.symm
        | cons x w => simp at h
      · exact h
    subst hc
    exact .inr ⟨rfl, h1⟩

/-! ### where a run of `skip_trivia` ends -/

theorem mLineComment_of {r X : Text} (h1 : ∀ c ∈ r, c ≠ 10) (h2 : r.head? ≠ some 47)
    (h3 : r.head? ≠ some 33) (hX : X = [] ∨ ∃ u, X = 10 :: u) :
    mLineComment (47 :: 47 :: (r ++ X)) = some (2 + r.length) := by
  have hall : r.all (· != 10) = true := by
    simp only [List.all_eq_true]
    intro c hc
    simpa using h1 c hc
  have hspan : spanLen (· != 10) (r ++ X) = r.length := by
    rcases hX with rfl | ⟨u, rfl⟩
    · rw [List.append_nil]; exact spanLen_of_all _ r hall
    · exact spanLen_append _ r 10 u hall (by decide)
  cases r with
  | nil => rcases hX with rfl | ⟨u, rfl⟩ <;> rfl
  | cons d r' =>
    simp only [List.cons_append] at hspan
    simp [mLineComment, (by simpa using h2 : d ≠ 47), (by simpa using h3 : d ≠ 33), hspan]

/-- the length of the trivia unit a text starts with: a blank, tab or line feed, CR LF, a line
    comment with its line feed, a block comment -/
def unitLen : Text → Option Nat
  | 13 :: 10 :: _ => some 2
  | 47 :: 47 :: r => (mLineComment (47 :: 47 :: r)).map (· + 1)
  | 47 :: 42 :: r => mBlockComment (47 :: 42 :: r)
  | c :: _ => if c = 32 ∨ c = 9 ∨ c = 10 then some 1 else none
  | [] => none

/-- trivia is a sequence of units, and what a text starts with says how long its first unit is -/
theorem isTrivia_units {motive : Text → Prop} (nil : motive [])
    (unit : ∀ u w, (∀ x, unitLen (u ++ x) = some u.length) → IsTrivia w → motive w →
      motive (u ++ w)) {ws : Text} (h : IsTrivia ws) : motive ws := by
  induction h with
  | nil => exact nil
  | sp h ih => exact unit [32] _ (fun _ => rfl) h ih
  | tab h ih => exact unit [9] _ (fun _ => rfl) h ih
  | lf h ih => exact unit [10] _ (fun _ => rfl) h ih
  | crlf h ih => exact unit [13, 10] _ (fun _ => rfl) h ih
  | @line r t h1 h2 h3 h ih =>
    have e : ∀ x, (47 :: 47 :: (r ++ [10])) ++ x = 47 :: 47 :: (r ++ 10 :: x) := by simp
    rw [← e]
    refine unit _ t (fun x => ?_) h ih
    simp only [e, unitLen, mLineComment_of h1 h2 h3 (.inr ⟨x, rfl⟩), Option.map_some]
    simp; omega
  | @block c t hc h ih =>
    refine unit c t (fun x => ?_) h ih
    obtain ⟨body, rfl, hb⟩ := hc
    simp [unitLen, mBlockComment, hb x]

/-- no complete unit of trivia starts here: nothing matches (`NoUnit.of_stop`), or a line comment
    whose line feed is missing (`NoUnit.of_endC`) -/
def NoUnit (tl : Text) : Prop := ∀ n, unitLen tl = some n → tl.length < n

theorem NoUnit.not_unit {tl u y : Text} (hf : NoUnit tl) (hlen : ∀ x, unitLen (u ++ x) = some u.length)
    (e : tl = u ++ y) : False := by
  have := hf u.length (e ▸ hlen y)
  rw [e, List.length_append] at this
  omega

theorem trivia_unique {ws ws' tl tl' : Text} (hw : IsTrivia ws) (hw' : IsTrivia ws') (hf : NoUnit tl)
    (hf' : NoUnit tl') : ws ++ tl = ws' ++ tl' → tl = tl' := by
  intro e
  refine isTrivia_units (motive := fun ws => ∀ ws', IsTrivia ws' → ws ++ tl = ws' ++ tl' → tl = tl')
    (fun ws' hw' => ?_) (fun u w hlen _ ih ws' hw' => ?_) hw ws' hw' e
  · exact isTrivia_units (motive := fun ws' => [] ++ tl = ws' ++ tl' → tl = tl') id
      (fun u' w' hlen' _ _ e => (hf.not_unit hlen' (e.trans (List.append_assoc ..))).elim) hw'
  · refine isTrivia_units (motive := fun ws' => (u ++ w) ++ tl = ws' ++ tl' → tl = tl')
      (fun e => (hf'.not_unit hlen (e.symm.trans (List.append_assoc ..))).elim)
      (fun u' w' hlen' hw' _ e => ?_) hw'
    rw [List.append_assoc, List.append_assoc] at e
    have hl := hlen (w ++ tl)
    rw [e, hlen'] at hl
    obtain ⟨rfl, e'⟩ := List.append_inj e (Option.some.inj hl).symm
    exact ih w' hw' e'

theorem NoUnit.of_stop {tl : Text} (h : Stop tl) : NoUnit tl := by
  intro n hn
  obtain ⟨h1, h2, h3⟩ := h
  unfold unitLen at hn
  split at hn
  · simp [mWhitespace, wsLen] at h1
  · rw [h2] at hn; cases hn
  · rw [h3] at hn; cases hn
  · split at hn
    · rename_i hc
      rcases hc with rfl | rfl | rfl <;> simp [mWhitespace, wsLen] at h1
    · cases hn
  · cases hn

theorem stop_endC {e : Text} (hs : Stop e) (he : EndC e) : e = [] := by
  rcases he with rfl | ⟨r, rfl, h1, h2, h3⟩
  · rfl
  · have := hs.2.1
    rw [← List.append_nil r, mLineComment_of h1 h2 h3 (.inl rfl)] at this
    cases this

theorem NoUnit.of_endC {e : Text} (he : EndC e) : NoUnit e := by
  rcases he with rfl | ⟨r, rfl, h1, h2, h3⟩
  · exact fun _ h => nomatch h
  · intro n hn
    rw [← List.append_nil r] at hn
    simp only [unitLen, mLineComment_of h1 h2 h3 (.inl rfl), Option.map_some, Option.some.injEq] at hn
    simp only [List.length_cons]
    omega

theorem skipTrivia_unique {s : St} {tl : Text} (hs : Tr s.rest tl) (hf : NoUnit tl) :
    (skipTrivia s).rest = tl ∨ ((skipTrivia s).rest = [] ∧ EndC tl) := by
  obtain ⟨ws, hw, e⟩ := hs
  rcases skipTrivia_tre s with ⟨ws', hw', e'⟩ | ⟨hnil, ws', e0, hw', e', he⟩
  · exact .inl (trivia_unique hw hw' hf (.of_stop (skipTrivia_stop s)) (e ▸ e')).symm
  · cases trivia_unique hw hw' hf (.of_endC he) (e ▸ e')
    exact .inr ⟨hnil, he⟩

theorem skipTrivia_tr {s : St} {tl : Text} (hs : Tr s.rest tl) (ht : Stop tl) :
    (skipTrivia s).rest = tl ∧ out (skipTrivia s) = out s := by
  refine ⟨?_, out_skipTrivia s⟩
  rcases skipTrivia_unique hs (.of_stop ht) with h | ⟨h, he⟩
  · exact h
  · rw [h, stop_endC ht he]

theorem skipTrivia_end {s : St} {e : Text} (hs : Tr s.rest e) (he : EndC e) :
    (skipTrivia s).rest = [] ∧ out (skipTrivia s) = out s := by
  refine ⟨?_, out_skipTrivia s⟩
  rcases skipTrivia_unique hs (.of_endC he) with h | ⟨h, _⟩
  · have := skipTrivia_stop s
    rw [h] at this ⊢
    exact stop_endC this he
  · exact h

end TRT
end Front
end Pest
