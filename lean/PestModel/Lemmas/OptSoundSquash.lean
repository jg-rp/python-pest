/-
  Lemmas/OptSoundSquash.lean — `squash_choice`: the semantic lemma `SquashSem` and the builder.

  The regex of an `OptimizedChoice` over pairwise compatible alternatives is their ordered choice
  `firstMatch` (Lemmas/OptMatch.lean); a squashable `Choice` is that ordered choice of its flattened
  alternatives (`Sq.sem`; one alternative matches as the terminal it was made from, `alt_sem`), and
  `squash_choice` flattens only squashable ones (`squashChoice_root`).

  Rests on OptSoundSim (the statement `SquashSem`) and OptSoundPass (`bottomUp_TR`), beside
  OptSoundRun; used in OptSoundFusionWS (the fused `SKIP` is such a regex) and OptSoundFinal.
-/
import PestModel.Lemmas.OptSoundSim
import PestModel.Lemmas.OptSoundPass

namespace Pest
namespace OptS

open L0

variable (G : Grammar) (inp : Input)

/-- result of a pair-less terminal match -/
def resOf (s : S0) : Option Nat → R0
  | some p => .ok { s with pos := p } []
  | none => .fail

theorem resOf_ne_oof (s : S0) (o : Option Nat) : resOf s o ≠ .oof := by cases o <;> simp [resOf]

theorem choice_cons_sem {e : Expr} {rest : List Expr} {s : S0} {o1 o2 : Option Nat}
    (h1 : Big G inp (.expr e) s (resOf s o1)) (h2 : Big G inp (.choice rest) s (resOf s o2)) :
    Big G inp (.choice (e :: rest)) s (resOf s (o1.or o2)) := by
  cases o1 with
  | some p => exact .choiceStop h1 nofun
  | none => rw [Option.none_or]; exact .choiceNext h1 h2

/-- the terminal that `squash` reads as the alternative `a` (`Sq.str` … `Sq.uprop`) -/
def altExpr : Alt → Expr
  | .lit x false => .str x
  | .lit x true => .ci x
  | .range lo hi => .range lo hi
  | .uprop n => .uprop n

theorem alt_sem (a : Alt) (s : S0) :
    Big G inp (.expr (altExpr a)) s (resOf s (firstMatch G inp [a] s.pos)) := by
  have e : (leafAct G inp (altExpr a) s.pos s.stk).run0 s = resOf s (altMatch G inp a s.pos) := by
    cases a with
    | lit x ci => cases ci <;> dsimp only [altExpr, leafAct, altMatch] <;> split <;> rfl
    | range lo hi =>
      dsimp only [altExpr, leafAct, altMatch]
      cases inp[s.pos]? with
      | none => rfl
      | some c =>
        -- `L1.inRange lo hi c` is `lo ≤ c && c ≤ hi` by definition
        dsimp only []
        by_cases h : L1.inRange lo hi c = true
        · rw [if_pos h, if_pos (show (lo ≤ c && c ≤ hi) = true from h)]; rfl
        · rw [if_neg h, if_neg (show ¬(lo ≤ c && c ≤ hi) = true from h)]; rfl
    | uprop n =>
      dsimp only [altExpr, leafAct, altMatch]
      cases inp[s.pos]? with
      | none => rfl
      | some c => dsimp only []; split <;> rfl
  rw [firstMatch_single, ← e]
  exact .leaf (by cases a with | lit _ ci => cases ci <;> rfl | _ => rfl)

theorem ruleJob_sem {n : String} {m : Nat} {b : Expr} {s : S0} {o : Option Nat}
    (hs : hasBit m SILENT = true)
    (h : Big G inp (.expr b) { s with atomic := ruleAtomic n m s.atomic }
      (resOf { s with atomic := ruleAtomic n m s.atomic } o)) :
    Big G inp (.rule n m b) s (resOf s o) := by
  have e : wrapK n m s (resOf { s with atomic := ruleAtomic n m s.atomic } o) = resOf s o := by
    rw [wrapK_silent hs]
    cases o <;> rfl
  rw [← e]
  exact .rule h

theorem uprop_sem (n : String) (m : Nat) (sm : Bool) (hs : hasBit m SILENT = true) (s : S0) :
    Big G inp (.expr (.rule n m sm (.uprop n))) s (resOf s (firstMatch G inp [.uprop n] s.pos)) :=
  .ruleE (ruleJob_sem G inp hs (alt_sem G inp (.uprop n) _))

theorem optRes_eq_first {alts : List Alt} (hpw : alts.Pairwise (fun a b => compat G a b = true))
    (hok : ∀ a ∈ alts, AltOK a) (s : S0) :
    optRes inp G alts s = resOf s (firstMatch G inp alts s.pos) := by
  rw [optRes, optMatchOnce_eq_first G inp hpw hok]
  cases firstMatch G inp alts s.pos <;> rfl

theorem optChoice_sem {alts : List Alt} (hne : alts ≠ []) (hok : ∀ a ∈ alts, AltOK a)
    (hpw : alts.Pairwise (fun a b => compat G a b = true)) (s : S0) :
    Big G inp (.expr (.optChoice alts false)) s (resOf s (firstMatch G inp alts s.pos)) := by
  rw [← optRes_eq_first G inp hpw hok, ← optChoice_leaf inp G hne]
  exact .leaf rfl

theorem choice_cons_firstMatch {e : Expr} {rest : List Expr} {new1 new : List Alt}
    (h1 : new1.Pairwise (fun a b => compat G a b = true) → ∀ s : S0,
      Big G inp (.expr e) s (resOf s (firstMatch G inp new1 s.pos)))
    (h2 : new.Pairwise (fun a b => compat G a b = true) → ∀ s : S0,
      Big G inp (.choice rest) s (resOf s (firstMatch G inp new s.pos)))
    (hpw : (new1 ++ new).Pairwise (fun a b => compat G a b = true)) (s : S0) :
    Big G inp (.choice (e :: rest)) s (resOf s (firstMatch G inp (new1 ++ new) s.pos)) := by
  rw [List.pairwise_append] at hpw
  rw [firstMatch_append]
  exact choice_cons_sem G inp (h1 hpw.1 s) (h2 hpw.2.1 s)

theorem Sq.sem {es : List Expr} {new : List Alt} (h : Sq es new) :
    AllNL SqOK es → new.Pairwise (fun a b => compat G a b = true) → ∀ s : S0,
      Big G inp (.choice es) s (resOf s (firstMatch G inp new s.pos)) := by
  induction h with
  | nil => exact fun _ _ _ => .choiceNil
  | @str x _ _ _ ih =>
    exact fun hes => choice_cons_firstMatch G inp (new1 := [_]) (fun _ => alt_sem G inp (.lit x false)) (ih hes.2)
  | @ci x _ _ _ ih =>
    exact fun hes => choice_cons_firstMatch G inp (new1 := [_]) (fun _ => alt_sem G inp (.lit x true)) (ih hes.2)
  | @range lo hi _ _ _ ih =>
    exact fun hes => choice_cons_firstMatch G inp (new1 := [_]) (fun _ => alt_sem G inp (.range lo hi)) (ih hes.2)
  | @uprop n m sm pn _ _ _ ih =>
    intro hes
    obtain ⟨rfl, hsil⟩ := (hes.1.1 : SqOK (.rule n m sm (.uprop pn))).1 pn rfl
    exact choice_cons_firstMatch G inp (new1 := [_]) (fun _ => uprop_sem G inp pn m sm hsil) (ih hes.2)
  | @optChoice al st _ _ _ ih =>
    intro hes
    obtain ⟨rfl, hne, haok⟩ : SqOK (.optChoice al st) := hes.1
    exact choice_cons_firstMatch G inp (fun hpw => optChoice_sem G inp hne haok hpw) (ih hes.2)
  | choice _ _ ih1 ih =>
    exact fun hes => choice_cons_firstMatch G inp (fun hpw s => .choiceE (ih1 hes.1.2 hpw s)) (ih hes.2)
  | @ruleChoice n m sm es1 _ _ _ _ _ ih1 ih =>
    intro hes
    exact choice_cons_firstMatch G inp (fun hpw s =>
      .ruleE (ruleJob_sem G inp ((hes.1.1 : SqOK (.rule n m sm (.choice es1))).2 es1 rfl)
        (.choiceE (ih1 hes.1.2.2 hpw _))))
      (ih hes.2)

theorem accepts_congr {G' : Grammar} (hu : G'.usets = G.usets) : Opt.accepts G' = Opt.accepts G := by
  funext a ch
  rw [accepts_eq, accepts_eq]
  cases a with
  | uprop n => simp only [singleAcc, uprop_eq hu]
  | lit s ci =>
    cases s with
    | nil => cases ci <;> rfl
    | cons x t => cases t with
      | nil => cases ci <;> rfl
      | cons _ _ => cases ci <;> rfl
  | range _ _ => rfl

theorem compat_congr {G' : Grammar} (hu : G'.usets = G.usets) : compat G' = compat G := by
  funext a b
  unfold compat
  rw [accepts_congr G hu]

theorem squashSem : SquashSem := by
  intro G G' inp es' alts s hu hpat
  obtain ⟨k, hk, hne, hop, hall⟩ := hpat
  have hpw : alts.Pairwise (fun a b => compat G' a b = true) := by
    rw [compat_congr G hu]; exact op_pairwise G hop
  have hok := (squash_Sq hk).altOK hall
  rw [optRes_eq_first G' inp hpw hok]
  exact big_conv.1 (.choiceE ((squash_Sq hk).sem G' inp hall hpw s))

theorem SqOK_of_NodeOK {sg : String → Option (String × Nat)} (x : Expr) (h : NodeOK sg x) : SqOK x := by
  cases x with
  | rule n m sm b =>
    simp only [NodeOK] at h
    obtain ⟨_, _, _, _, _, hsil, heoi, hup, _⟩ := h
    have hs : b ≠ .eoiB → hasBit m SILENT = true := by
      intro hb
      apply hsil
      intro hn
      exact hb (heoi hn)
    refine ⟨fun pn hb => ⟨hup pn hb, hs (by rw [hb]; simp)⟩, fun es hb => hs (by rw [hb]; simp)⟩
  | choice es => exact h
  | optChoice alts star => exact h
  | range a b => exact h
  | _ => trivial

theorem Sq.ne_nil {es : List Expr} {new : List Alt} (h : Sq es new) :
    AllNL SqOK es → es ≠ [] → new ≠ [] := by
  induction h with
  | nil => exact fun _ h => absurd rfl h
  | str _ _ | ci _ _ | range _ _ | uprop _ _ => exact fun _ _ => List.cons_ne_nil _ _
  | optChoice _ _ =>
    exact fun hes _ h => (hes.1 : SqOK (.optChoice _ _)).2.1 (List.append_eq_nil_iff.1 h).1
  | choice _ _ ih1 _ => exact fun hes _ h => ih1 hes.1.2 hes.1.1 (List.append_eq_nil_iff.1 h).1
  | ruleChoice _ _ ih1 _ => exact fun hes _ h => ih1 hes.1.2.2 hes.1.2.1 (List.append_eq_nil_iff.1 h).1

theorem op_congr {G' : Grammar} (hu : G'.usets = G.usets) (alts : List Alt) :
    Opt.isOrderPreserving G' alts = Opt.isOrderPreserving G alts := by
  rw [Bool.eq_iff_iff, op_iff, op_iff, compat_congr G hu]

variable {F : Feat} {sg : String → Option (String × Nat)}

theorem squashChoice_term (g : Grammar) {x : Expr} (ht : isTerm x = true) : Opt.squashChoice g x = x := by
  cases x <;> first | rfl | exact absurd ht Bool.false_ne_true

theorem squashChoice_root {g : Grammar} (hu : G.usets = g.usets) (hF : F.squash = true)
    (hsig : ∀ n, sigOf G n = sg n)
    (hG : ∀ n r, G.lookup n = some r → hasBit r.mod ATOMIC = false → AllN (NodeOK sg) r.body)
    {a : Bool} {e x : Expr} (he : AllN (NodeOK sg) e) (h : Cong1 a (TR F G a) e x) :
    TR F G a e (Opt.squashChoice g x) := by
  by_cases hx : Opt.squashChoice g x = x
  · rw [hx]; exact TR.of_cong1 h
  · cases h with
    | @choice es es' hl hh =>
      simp only [Opt.squashChoice] at hx ⊢
      cases hsq : Opt.squash 1000 es' [] with
      | none => rw [hsq] at hx; exact absurd rfl hx
      | some alts =>
        rw [hsq] at hx
        dsimp only at hx ⊢
        by_cases hop : Opt.isOrderPreserving g alts = true
        · rw [if_pos hop]
          have hx : AllN (NodeOK sg) (.choice es') := (TR.choice hl hh : TR F G a _ _).allN hsig hG he
          have hall : AllNL SqOK es' := AllNL.imp2 (fun y hy => SqOK_of_NodeOK y hy.root) es' hx.2
          have hne : es' ≠ [] := hx.1
          exact .squash hF hl hh ⟨1000, hsq, (squash_Sq hsq).ne_nil hall hne, by rw [op_congr g hu]; exact hop, hall⟩
        · rw [if_neg hop] at hx; exact absurd rfl hx
    | term ht => exact absurd (squashChoice_term g ht) hx
    | _ => exact absurd rfl hx

theorem squashChoice_TR {g : Grammar} (hu : G.usets = g.usets) (hF : F.squash = true) (hinv : Inv F sg G)
    (a : Bool) (e : Expr) (he : AllN (NodeOK sg) e) :
    TR F G a e (Opt.mapBottomUp (Opt.squashChoice g) e) :=
  bottomUp_TR _ a (fun _ _ he h => squashChoice_root G hu hF hinv.sig hinv.lookup_nodes he h) e he

end OptS
end Pest
