/-
  Lemmas/FailPos.lean — invariants of the furthest-failure record (property C13, state part).

  Two invariants of `PState` are preserved by every node of the interpreter model L1 and of
  the generated-code model LG, whatever the verdict of the call:
    `Bounded inp k c`  the position, every saved position and the furthest-failure position
                       lie between the start position `k` and `len(input)` (or the failure
                       position is still the sentinel `-1`);
    `Known g c`        every name on the rule stack (current items and the delta log
                       `popped`), every key of `furthest_expected` / `furthest_unexpected`
                       and every entry of `furthest_stack` is the name of a rule of the
                       grammar or of a rule object embedded in one of its trees (built-ins).
  Both are instances of an abstract `Kit` (an invariant `I` on states and a predicate `N` on rule
  names with the closure properties the argument needs); "`I` at the start implies `I` at the
  end" is a relation the traversal of Lemmas/Kit.lean handles (`Kit.toRKit`).
-/
import PestModel.Lemmas.Frame
import PestModel.Lemmas.Kit

namespace Pest
namespace FailPos

/-- `c'` differs from `c` only in components neither invariant looks at (user stack, atomic
    depth, tag stack, negative-predicate depth, suppress flag) -/
structure Core (c c' : PState) : Prop where
  pos : c'.pos = c.pos
  ph : c'.posHist = c.posHist
  rs : c'.rstack = c.rstack
  fp : c'.fpos = c.fpos
  fe : c'.fexp = c.fexp
  fu : c'.funexp = c.funexp
  fs : c'.fstack = c.fstack

theorem Core.trans {a b c : PState} (h1 : Core a b) (h2 : Core b c) : Core a c :=
  ⟨h2.pos.trans h1.pos, h2.ph.trans h1.ph, h2.rs.trans h1.rs, h2.fp.trans h1.fp,
   h2.fe.trans h1.fe, h2.fu.trans h1.fu, h2.fs.trans h1.fs⟩

theorem Core.of_eq {c c' : PState} (pos : c'.pos = c.pos := by rfl)
    (ph : c'.posHist = c.posHist := by rfl) (rs : c'.rstack = c.rstack := by rfl)
    (fp : c'.fpos = c.fpos := by rfl) (fe : c'.fexp = c.fexp := by rfl)
    (fu : c'.funexp = c.funexp := by rfl) (fs : c'.fstack = c.fstack := by rfl) : Core c c' :=
  ⟨pos, ph, rs, fp, fe, fu, fs⟩

/-- an invariant `I` of states, with the closure properties under which every call keeps it:
    the third kit of Lemmas/Kit.lean, turned into an `RKit` with `F c c' := I c → I c'`
    (`Kit.toRKit`); `rule` is `RKit.Rules` for this `N`, kept as a field -/
structure Kit (g : Grammar) (inp : Input) where
  I : PState → Prop
  N : String → Prop
  core : ∀ {c c' : PState}, I c → Core c c' → I c'
  setPos : ∀ {c : PState} (q : Nat), I c → (c.pos ≤ inp.size → c.pos ≤ q ∧ q ≤ inp.size) →
    I { c with pos := q }
  checkpoint : ∀ {c : PState}, I c → I c.checkpoint
  ok : ∀ {c : PState}, I c → I c.ok
  restore : ∀ {c : PState}, I c → I c.restore
  push : ∀ {c : PState} (name : String), I c → N name → I { c with rstack := c.rstack.push name }
  pop : ∀ {c : PState} {x : String} {rs : DStack String}, I c → c.rstack.pop = some (x, rs) →
    I { c with rstack := rs }
  fail : ∀ {c c' : PState} {rn : Option String} {force : Bool}, I c → (∀ n, rn = some n → N n) →
    c.fail rn force = some c' → I c'
  rule : ∀ r ∈ g.rules, N r.name ∧ namesOK N r.body


section generic
variable {g : Grammar} {inp : Input} (K : Kit g inp)

theorem Kit.scope {c c2 : PState} {name : String} (mod : Nat) (matched : Bool) {x : String}
    {rs : DStack String} (hN : K.N name)
    (f : K.I (L1.ruleEnter name mod { c with rstack := c.rstack.push name }) → K.I c2)
    (hp : c2.rstack.pop = some (x, rs)) (hI : K.I c) : K.I (L1.exitState name mod matched c2 rs) := by
  have h1 : K.I (L1.ruleEnter name mod { c with rstack := c.rstack.push name }) := by
    rw [L1.ruleEnter_eq]; exact K.core (K.push name hI hN) .of_eq
  have h2 : K.I ({ c2 with adepth := if L1.ruleScoped name mod then c2.adepth.restore else c2.adepth } : PState) :=
    K.core (f h1) .of_eq
  exact K.core (K.pop h2 hp) .of_eq

def Kit.toRKit : RKit where
  F := fun c c' => K.I c → K.I c'
  N := K.N
  refl := fun _ h => h
  trans := fun f1 f2 h => f2 (f1 h)
  ustack := fun _ h => K.core h .of_eq
  negDepth := fun _ h => K.core h .of_eq
  suppress := fun _ h => K.core h .of_eq
  ok_after := fun f h => K.ok (f (K.checkpoint h))
  restore_after := fun f h => K.restore (f (K.checkpoint h))
  fail := fun hn hf h => K.fail h hn hf
  scope := fun mod matched hN f hp h => K.scope mod matched hN f hp h
  tag := fun _ f h => K.core (f (K.core h .of_eq)) .of_eq

theorem Kit.toRKit_moves : K.toRKit.Moves inp := fun q hq h => K.setPos q h hq

theorem run_inv (n : Nat) {e : Expr} {c c' : PState} {m : Bool} {ps : List Pair}
    (hE : namesOK K.N e) (h : L1.run g inp n e c = .done m c' ps) (hI : K.I c) : K.I c' :=
  (RKit.run_bal (K := K.toRKit) K.rule K.toRKit_moves n e c hE).of_done h hI

theorem runG_inv (n : Nat) {e : Expr} {c c' : PState} {m : Bool} {ps0 ps : List Pair}
    (hE : namesOK K.N e) (h : LG.run g inp n e c ps0 = .done m c' ps) (hI : K.I c) : K.I c' :=
  (RKit.run_balG (K := K.toRKit) K.rule K.toRKit_moves n e c ps0 hE).of_done h hI

theorem parse_inv {fuel : Nat} {start : String} {k : Nat} {m : Bool} {c' : PState} {ps : List Pair}
    (hI : K.I (.init k)) (h : L1.parse g inp fuel start k = .done m c' ps) : K.I c' :=
  (HKit.parse_post (K := K.toRKit.toHKit) K.rule K.toRKit_moves fuel start k).of_done h hI

theorem parseG_inv {fuel : Nat} {start : String} {k : Nat} {m : Bool} {c' : PState} {ps : List Pair}
    (hI : K.I (.init k)) (h : LG.parse g inp fuel start k = .done m c' ps) : K.I c' :=
  (RKit.parseG_post (K := K.toRKit) K.rule K.toRKit_moves fuel start k).of_done h hI

end generic

structure Bounded (inp : Input) (k : Nat) (c : PState) : Prop where
  lo : k ≤ c.pos
  hi : c.pos ≤ inp.size
  hist : ∀ p ∈ c.posHist, k ≤ p ∧ p ≤ inp.size
  fp : c.fpos = -1 ∨ ((k : Int) ≤ c.fpos ∧ c.fpos ≤ (inp.size : Int))

theorem bounded_init (inp : Input) (k : Nat) (hk : k ≤ inp.size) : Bounded inp k (PState.init k) :=
  ⟨Nat.le_refl _, hk, by intro p hp; simp [PState.init] at hp, Or.inl rfl⟩

theorem fail_fpos {c c' : PState} {rn : Option String} {force : Bool}
    (h : c.fail rn force = some c') : c'.fpos = c.fpos ∨ c'.fpos = (c.pos : Int) := by
  obtain ⟨_, _, _, rfl⟩ := fail_eq h
  dsimp only []
  by_cases hs : ((c.negDepth > 0 && !force) || c.suppress) = true
  · rw [if_pos hs]; exact Or.inl rfl
  · rw [if_neg hs]
    by_cases hgt : ((c.failPos none : Nat) : Int) > c.fpos
    · rw [if_pos hgt]; exact Or.inr rfl
    · rw [if_neg hgt]; exact Or.inl rfl

theorem bounded_fail {inp : Input} {k : Nat} {c c' : PState} {rn : Option String} {force : Bool}
    (hb : Bounded inp k c) (h : c.fail rn force = some c') : Bounded inp k c' := by
  obtain ⟨h0, h1, _⟩ := fail_same h
  refine ⟨by rw [h0]; exact hb.lo, by rw [h0]; exact hb.hi, by rw [h1]; exact hb.hist, ?_⟩
  rcases fail_fpos h with hf | hf
  · rw [hf]; exact hb.fp
  · rw [hf]; exact Or.inr ⟨by have := hb.lo; omega, by have := hb.hi; omega⟩

theorem bounded_restore {inp : Input} {k : Nat} {c : PState} (h : Bounded inp k c) :
    Bounded inp k c.restore := by
  have hp : k ≤ c.posHist.headD c.pos ∧ c.posHist.headD c.pos ≤ inp.size := by
    cases hh : c.posHist with
    | nil => exact ⟨h.lo, h.hi⟩
    | cons x xs => exact h.hist x (by rw [hh]; exact List.mem_cons_self ..)
  exact ⟨hp.1, hp.2, fun p hp' => h.hist p (List.mem_of_mem_tail hp'), h.fp⟩

def boundedKit (g : Grammar) (inp : Input) (k : Nat) : Kit g inp where
  I := Bounded inp k
  N := fun _ => True
  core := fun h cc => ⟨by rw [cc.pos]; exact h.lo, by rw [cc.pos]; exact h.hi,
    by rw [cc.ph]; exact h.hist, by rw [cc.fp]; exact h.fp⟩
  setPos := fun _ h hq => ⟨Nat.le_trans h.lo (hq h.hi).1, (hq h.hi).2, h.hist, h.fp⟩
  checkpoint := fun {c} h => ⟨h.lo, h.hi, by
    intro p hp
    simp only [PState.checkpoint, List.mem_cons] at hp
    rcases hp with rfl | hp
    · exact ⟨h.lo, h.hi⟩
    · exact h.hist p hp, h.fp⟩
  ok := fun h => ⟨h.lo, h.hi, fun p hp => h.hist p (List.mem_of_mem_tail hp), h.fp⟩
  restore := bounded_restore
  push := fun _ h _ => ⟨h.lo, h.hi, h.hist, h.fp⟩
  pop := fun h _ => ⟨h.lo, h.hi, h.hist, h.fp⟩
  fail := fun h _ hf => bounded_fail h hf
  rule := fun _ _ => ⟨trivial, fun _ _ => trivial⟩


/-- the names a failure record may mention: the rules of the table and the rule objects
    embedded in their trees (built-ins) -/
def knownNames (g : Grammar) : List String :=
  g.rules.map (·.name) ++ g.rules.flatMap (fun r => embNames r.body)

def namesIn (g : Grammar) (e : Expr) : Prop := namesOK (· ∈ knownNames g) e

instance (g : Grammar) (e : Expr) : Decidable (namesIn g e) := by
  unfold namesIn namesOK; infer_instance

theorem rule_name_known {g : Grammar} {r : Rule} (h : r ∈ g.rules) : r.name ∈ knownNames g :=
  List.mem_append_left _ (List.mem_map.mpr ⟨r, h, rfl⟩)

theorem rule_body_namesIn {g : Grammar} {r : Rule} (h : r ∈ g.rules) : namesIn g r.body :=
  fun _ hn => List.mem_append_right _ (List.mem_flatMap.mpr ⟨r, h, hn⟩)

structure DAll {α : Type} (P : α → Prop) (d : DStack α) : Prop where
  items : ∀ x ∈ d.items, P x
  popped : ∀ x ∈ d.popped, P x

namespace DAll
variable {α : Type} {P : α → Prop} {d : DStack α}

theorem snapshot (h : DAll P d) : DAll P d.snapshot := ⟨h.items, h.popped⟩

theorem push (h : DAll P d) {x : α} (hx : P x) : DAll P (d.push x) :=
  ⟨by intro y hy; simp only [DStack.push, List.mem_cons] at hy
      rcases hy with rfl | hy
      · exact hx
      · exact h.items y hy, h.popped⟩

theorem pop (h : DAll P d) {x : α} {d' : DStack α} (hp : d.pop = some (x, d')) : DAll P d' := by
  rcases d with ⟨items, popped, lengths⟩
  cases items with
  | nil => simp [DStack.pop] at hp
  | cons y rest =>
    have hy : P y := h.items y (List.mem_cons_self ..)
    have hrest : ∀ z ∈ rest, P z := fun z hz => h.items z (List.mem_cons_of_mem _ hz)
    cases lengths with
    | nil =>
      simp only [DStack.pop, Option.some.injEq, Prod.mk.injEq] at hp
      obtain ⟨_, rfl⟩ := hp
      exact ⟨hrest, h.popped⟩
    | cons q ls =>
      obtain ⟨ic, rc⟩ := q
      by_cases hq : rest.length + 1 = rc
      · simp only [DStack.pop, List.length_cons, hq, ↓reduceIte, Option.some.injEq, Prod.mk.injEq] at hp
        obtain ⟨_, rfl⟩ := hp
        refine ⟨hrest, ?_⟩
        intro z hz
        simp only [List.mem_cons] at hz
        rcases hz with rfl | hz
        · exact hy
        · exact h.popped z hz
      · simp only [DStack.pop, List.length_cons, hq, ↓reduceIte, Option.some.injEq, Prod.mk.injEq] at hp
        obtain ⟨_, rfl⟩ := hp
        exact ⟨hrest, h.popped⟩

theorem restore (h : DAll P d) : DAll P d.restore := by
  unfold DStack.restore
  cases hl : d.lengths with
  | nil => exact ⟨by intro x hx; simp at hx, h.popped⟩
  | cons q ls =>
    obtain ⟨ic, rc⟩ := q
    dsimp only []
    refine ⟨?_, fun x hx => h.popped x (List.mem_of_mem_drop hx)⟩
    intro x hx
    rcases List.mem_append.mp hx with hx | hx
    · exact h.popped x (List.mem_of_mem_take (List.mem_reverse.mp hx))
    · exact h.items x (List.mem_of_mem_drop hx)

theorem dropSnap (h : DAll P d) : DAll P d.dropSnap := by
  unfold DStack.dropSnap
  cases hl : d.lengths with
  | nil => exact h
  | cons q ls =>
    obtain ⟨ic, rc⟩ := q
    dsimp only []
    cases ls with
    | nil => exact ⟨h.items, fun x hx => h.popped x (List.mem_of_mem_drop hx)⟩
    | cons q' ls' =>
      obtain ⟨oc, orc⟩ := q'
      dsimp only []
      split
      · refine ⟨h.items, ?_⟩
        intro x hx
        rcases List.mem_append.mp hx with hx | hx
        · exact h.popped x (List.mem_of_mem_take (List.mem_of_mem_take hx))
        · exact h.popped x (List.mem_of_mem_drop hx)
      · exact ⟨h.items, fun x hx => h.popped x (List.mem_of_mem_drop hx)⟩

end DAll

structure Known (g : Grammar) (c : PState) : Prop where
  rs : DAll (· ∈ knownNames g) c.rstack
  fexp : ∀ p ∈ c.fexp, p.1 ∈ knownNames g
  funexp : ∀ p ∈ c.funexp, p.1 ∈ knownNames g
  fstack : ∀ n ∈ c.fstack, n ∈ knownNames g

/-- what `Known` says of the failure record a caller sees (`furthest_expected` and
    `furthest_unexpected` are read together) -/
theorem Known.failure_names {g : Grammar} {c : PState} (hk : Known g c) :
    (∀ p ∈ c.fexp ++ c.funexp, p.1 ∈ knownNames g) ∧ (∀ n ∈ c.fstack, n ∈ knownNames g) :=
  ⟨fun p hp => (List.mem_append.mp hp).elim (hk.fexp p) (hk.funexp p), hk.fstack⟩

theorem known_init (g : Grammar) (k : Nat) : Known g (PState.init k) :=
  ⟨⟨by intro x hx; simp [PState.init, DStack.empty] at hx, by intro x hx; simp [PState.init, DStack.empty] at hx⟩,
   by intro x hx; simp [PState.init] at hx, by intro x hx; simp [PState.init] at hx,
   by intro x hx; simp [PState.init] at hx⟩

theorem mem_addLabel {P : String → Prop} {n : String} (hn : P n) :
    ∀ {l : List (String × Nat)}, (∀ p ∈ l, P p.1) → ∀ p ∈ PState.addLabel l n, P p.1
  | [], _, p, hp => by
    simp only [PState.addLabel, List.mem_singleton] at hp; subst hp; exact hn
  | (k', cnt) :: r, hl, p, hp => by
    simp only [PState.addLabel] at hp
    have hhead : P k' := hl (k', cnt) (List.mem_cons_self ..)
    have htail : ∀ p ∈ r, P p.1 := fun p hp => hl p (List.mem_cons_of_mem _ hp)
    by_cases hk : k' = n
    · simp only [hk, ↓reduceIte, List.mem_cons] at hp
      rcases hp with rfl | hp
      · exact hn
      · exact htail p hp
    · simp only [hk, ↓reduceIte, List.mem_cons] at hp
      rcases hp with rfl | hp
      · exact hhead
      · exact mem_addLabel hn htail p hp

theorem known_failRecord {g : Grammar} {c : PState} (h : Known g c) {name : String}
    (hn : name ∈ knownNames g) (p : Nat) : Known g (c.failRecord name p) := by
  have hone : ∀ q ∈ [(name, 1)], q.1 ∈ knownNames g := by
    intro q hq; rw [List.mem_singleton.mp hq]; exact hn
  have hnil : ∀ q ∈ ([] : List (String × Nat)), q.1 ∈ knownNames g := by intro q hq; cases hq
  unfold PState.failRecord
  dsimp only []
  by_cases h1 : (p : Int) > c.fpos
  · rw [if_pos h1]
    refine ⟨h.rs, ?_, ?_, fun n hn' => h.rs.items n (List.mem_reverse.mp hn')⟩
    · by_cases h3 : (c.negDepth % 2 == 1) = true
      · simp only [h3, ↓reduceIte]; exact hnil
      · simp only [h3, Bool.false_eq_true, ↓reduceIte]; exact hone
    · by_cases h3 : (c.negDepth % 2 == 1) = true
      · simp only [h3, ↓reduceIte]; exact hone
      · simp only [h3, Bool.false_eq_true, ↓reduceIte]; exact hnil
  · rw [if_neg h1]
    by_cases h2 : (p : Int) = c.fpos
    · rw [if_pos h2]
      by_cases h3 : (c.negDepth % 2 == 1) = true
      · rw [if_pos h3]; exact ⟨h.rs, h.fexp, mem_addLabel hn h.funexp, h.fstack⟩
      · rw [if_neg h3]; exact ⟨h.rs, mem_addLabel hn h.fexp, h.funexp, h.fstack⟩
    · rw [if_neg h2]; exact h

theorem known_fail {g : Grammar} {c c' : PState} {rn : Option String} {force : Bool} (h : Known g c)
    (hrn : ∀ n, rn = some n → n ∈ knownNames g) (hf : c.fail rn force = some c') : Known g c' := by
  unfold PState.fail at hf
  by_cases hs : ((c.negDepth > 0 && !force) || c.suppress) = true
  · simp only [hs, ↓reduceIte, Option.some.injEq] at hf; subst hf; exact h
  · simp only [hs] at hf
    cases hn : c.failName rn with
    | none => simp [hn] at hf
    | some nm =>
      simp [hn] at hf
      subst hf
      refine known_failRecord h ?_ _
      have hhead : ∀ x, c.rstack.items.head? = some x → x ∈ knownNames g :=
        fun x hx => h.rs.items x (List.mem_of_mem_head? hx)
      unfold PState.failName at hn
      cases rn with
      | none => exact hhead nm hn
      | some n =>
        dsimp only [] at hn
        by_cases he : n.isEmpty = true
        · simp only [he, ↓reduceIte] at hn; exact hhead nm hn
        · simp only [he, Bool.false_eq_true, ↓reduceIte, Option.some.injEq] at hn
          subst hn; exact hrn n rfl

def knownKit (g : Grammar) (inp : Input) : Kit g inp where
  I := Known g
  N := (· ∈ knownNames g)
  core := fun h cc => ⟨by rw [cc.rs]; exact h.rs, by rw [cc.fe]; exact h.fexp,
    by rw [cc.fu]; exact h.funexp, by rw [cc.fs]; exact h.fstack⟩
  setPos := fun _ h _ => ⟨h.rs, h.fexp, h.funexp, h.fstack⟩
  checkpoint := fun h => ⟨h.rs.snapshot, h.fexp, h.funexp, h.fstack⟩
  ok := fun h => ⟨h.rs.dropSnap, h.fexp, h.funexp, h.fstack⟩
  restore := fun h => ⟨h.rs.restore, h.fexp, h.funexp, h.fstack⟩
  push := fun _ h hn => ⟨h.rs.push hn, h.fexp, h.funexp, h.fstack⟩
  pop := fun h hp => ⟨h.rs.pop hp, h.fexp, h.funexp, h.fstack⟩
  fail := fun h hrn hf => known_fail h hrn hf
  rule := fun _ hr => ⟨rule_name_known hr, rule_body_namesIn hr⟩

end FailPos
end Pest
