/-
  Lemmas/OptSoundFusionWS.lean — the WHITESPACE case of `_optimize_skip_rule`:
  `SKIP = OptimizedChoiceRepeat(squash(WHITESPACE.expression))`.

  `(WHITESPACE)*` as `parse_trivia` runs it (one silent, atomic rule application per iteration)
  is the regex `(?:…)*` — provided no alternative matches the empty string (otherwise the
  un-optimized loop never ends while the regex stops: finding `nullable-trivia-diverges`).

  After OptSoundMain (`WF`, `ext`, the statement `FusionWS` to be proved) and OptSoundSquash (the
  regex); the COMMENT case, which needs neither, is in OptSoundFusion.
-/
import PestModel.Lemmas.OptSoundMain
import PestModel.Lemmas.OptSoundSquash

namespace Pest
namespace OptS

open L0

variable (G : Grammar) (inp : Input)

theorem altMatch_bounds {a : Alt} {pos p : Nat} (h : altMatch G inp a pos = some p)
    (hne : ∀ s ci, a = .lit s ci → s ≠ []) : pos < p ∧ p ≤ inp.size := by
  cases a with
  | lit s ci =>
    have hs := hne s ci rfl
    have hl : 0 < s.length := by cases s with
      | nil => exact absurd rfl hs
      | cons _ _ => simp
    cases ci with
    | false =>
      simp only [altMatch] at h
      split at h
      · rename_i hm
        simp only [Option.some.injEq] at h; subst h
        have := Prim.startsWithAt_le hm
        omega
      · simp at h
    | true =>
      simp only [altMatch] at h
      split at h
      · rename_i hm
        simp only [Option.some.injEq] at h; subst h
        have := Prim.startsWithAtCI_le hm
        omega
      · simp at h
  | range lo hi =>
    simp only [altMatch] at h
    cases hi' : inp[pos]? with
    | none => rw [hi'] at h; simp at h
    | some c =>
      rw [hi'] at h
      obtain ⟨hlt, _⟩ := Array.getElem?_eq_some_iff.1 hi'
      simp only [] at h
      split at h
      · simp only [Option.some.injEq] at h; omega
      · simp at h
  | uprop n =>
    simp only [altMatch] at h
    cases hi' : inp[pos]? with
    | none => rw [hi'] at h; simp at h
    | some c =>
      rw [hi'] at h
      obtain ⟨hlt, _⟩ := Array.getElem?_eq_some_iff.1 hi'
      simp only [] at h
      split at h
      · simp only [Option.some.injEq] at h; omega
      · simp at h

theorem firstMatch_bounds {alts : List Alt} (hne : ∀ s ci, Alt.lit s ci ∈ alts → s ≠ []) {pos p : Nat}
    (h : firstMatch G inp alts pos = some p) : pos < p ∧ p ≤ inp.size := by
  unfold firstMatch at h
  obtain ⟨a, ha, hm⟩ := List.exists_of_findSome?_eq_some h
  exact altMatch_bounds G inp hm (fun s ci e => hne s ci (e ▸ ha))

def starPos (alts : List Alt) (pos : Nat) : Nat := L1.optMatchStar G inp alts (inp.size + 1 - pos) pos

section star

variable {G inp} {alts : List Alt} (hpw : alts.Pairwise (fun a b => compat G a b = true))
  (hok : ∀ a ∈ alts, AltOK a)
include hpw hok

theorem star_succ (b pos : Nat) :
    L1.optMatchStar G inp alts (b + 1) pos =
      (match firstMatch G inp alts pos with
       | some p => if p > pos then L1.optMatchStar G inp alts b p else pos
       | none => pos) := by
  rw [L1.optMatchStar, optMatchOnce_eq_first G inp hpw hok]
  cases firstMatch G inp alts pos <;> rfl

/-- every match consumes, so `inp.size + 1 - pos` rounds are enough: one more changes nothing -/
theorem star_fuel (hne : ∀ s ci, Alt.lit s ci ∈ alts → s ≠ []) : ∀ (b pos : Nat), inp.size + 1 - pos ≤ b →
    L1.optMatchStar G inp alts (b + 1) pos = L1.optMatchStar G inp alts b pos := by
  intro b
  induction b with
  | zero =>
    intro pos hb
    rw [star_succ hpw hok]
    cases hf : firstMatch G inp alts pos with
    | none => rfl
    | some p => have := firstMatch_bounds G inp hne hf; omega
  | succ b ih =>
    intro pos hb
    rw [star_succ hpw hok (b + 1), star_succ hpw hok b]
    cases hf : firstMatch G inp alts pos with
    | none => rfl
    | some p =>
      have := firstMatch_bounds G inp hne hf
      simp only [this.1, ↓reduceIte]
      exact ih p (by omega)

theorem star_stable (hne : ∀ s ci, Alt.lit s ci ∈ alts → s ≠ []) (pos b : Nat)
    (hb : inp.size + 1 - pos ≤ b) : L1.optMatchStar G inp alts b pos = starPos G inp alts pos := by
  obtain ⟨d, rfl⟩ := Nat.exists_eq_add_of_le hb
  induction d with
  | zero => rfl
  | succ d ih => rw [← Nat.add_assoc, star_fuel hpw hok hne _ pos (Nat.le_add_right _ _), ih (Nat.le_add_right _ _)]

theorem starPos_none {pos : Nat} (hf : firstMatch G inp alts pos = none) :
    starPos G inp alts pos = pos := by
  unfold starPos
  cases inp.size + 1 - pos with
  | zero => rfl
  | succ b => rw [star_succ hpw hok, hf]

theorem starPos_some (hne : ∀ s ci, Alt.lit s ci ∈ alts → s ≠ []) {pos p : Nat}
    (hf : firstMatch G inp alts pos = some p) : starPos G inp alts pos = starPos G inp alts p := by
  have hb := firstMatch_bounds G inp hne hf
  rw [starPos, ← star_fuel hpw hok hne _ pos (Nat.le_refl _), star_succ hpw hok, hf]
  simp only [hb.1, ↓reduceIte]
  exact star_stable hpw hok hne p _ (by omega)

end star

/-! ### the loop of `parse_trivia` over a silent `WHITESPACE` -/

section ws

variable {g : Grammar} {w : Rule} {alts : List Alt}

/-- what the body of `WHITESPACE` answers, from every state -/
def BodyW (g : Grammar) (inp : Input) (w : Rule) (alts : List Alt) : Prop :=
  ∀ st : S0, Big g inp (.expr w.body) st (resOf st (firstMatch g inp alts st.pos))

theorem attemptW (hwn : L1.isTriviaName w.name = true) (hws : hasBit w.mod SILENT = true) {st : S0}
    (hst : st.atomic = true) {o : Option Nat} (h : Big g inp (.expr w.body) st (resOf st o)) :
    Big g inp (.attempt (some w)) { st with atomic := false } (resOf { st with atomic := false } o) := by
  have hra : ruleAtomic w.name w.mod false = true := by simp [ruleAtomic, hwn]
  refine .attemptSome (ruleJob_sem g inp hws ?_)
  show Big g inp (.expr w.body) ⟨st.pos, st.stk, ruleAtomic w.name w.mod false⟩
    (resOf ⟨st.pos, st.stk, ruleAtomic w.name w.mod false⟩ o)
  rw [hra, S0.eta_of hst]
  exact h

/-- every match consumes, so the loop of `parse_trivia` ends, and it ends where the fused regex does -/
theorem loopW (hwn : L1.isTriviaName w.name = true) (hws : hasBit w.mod SILENT = true)
    (hbody : BodyW g inp w alts)
    (hpw : alts.Pairwise (fun a b => compat g a b = true)) (hok : ∀ a ∈ alts, AltOK a)
    (hne : ∀ s ci, Alt.lit s ci ∈ alts → s ≠ []) :
    ∀ (d : Nat) (st : S0), st.atomic = true → inp.size + 1 - st.pos ≤ d →
      Big g inp (.loop (some w) none []) { st with atomic := false }
        (.ok { st with atomic := false, pos := starPos g inp alts st.pos } []) := by
  intro d
  induction d with
  | zero =>
    intro st hst hd
    have h1 := attemptW inp hwn hws hst (hbody st)
    cases hf : firstMatch g inp alts st.pos with
    | none => rw [hf] at h1; rw [starPos_none hpw hok hf]; exact .loopDone h1 .attemptNone
    | some p => have := firstMatch_bounds g inp hne hf; omega
  | succ d ih =>
    intro st hst hd
    have h1 := attemptW inp hwn hws hst (hbody st)
    cases hf : firstMatch g inp alts st.pos with
    | none => rw [hf] at h1; rw [starPos_none hpw hok hf]; exact .loopDone h1 .attemptNone
    | some p =>
      have hb := firstMatch_bounds g inp hne hf
      rw [hf] at h1
      rw [starPos_some hpw hok hne hf]
      exact .loopWs h1 (ih { st with pos := p } hst (by simp only []; omega))

theorem optStar_run (g0 : Grammar) (hu : g0.usets = g.usets)
    (hpw : alts.Pairwise (fun a b => compat g a b = true)) (hok : ∀ a ∈ alts, AltOK a)
    (m : Nat) (st : S0) :
    run g0 inp (m + 1) (.optChoice alts true) st = .ok { st with pos := starPos g inp alts st.pos } [] := by
  refine (step_leaf rfl m _ st).trans ?_
  dsimp only [leafAct, L1.optMatch]
  by_cases he : alts.isEmpty = true
  · simp only [he, ↓reduceIte]
    have : alts = [] := by simpa using he
    subst this
    rw [starPos_none hpw hok rfl]
    rfl
  · simp only [he, Bool.false_eq_true, ↓reduceIte]
    rw [optMatchStar_eq hu]
    rfl

end ws

theorem fusionWS {g : Grammar} (hwf : WF g)
    (hprog : ∀ wr es alts, g.lookup "COMMENT" = none → g.lookup "WHITESPACE" = some wr →
      wr.body = .choice es → Opt.squash 1000 es [] = some alts → ∀ s ci, Alt.lit s ci ∈ alts → s ≠ []) :
    FusionWS g := by
  intro hns wr es alts hc hw hs hb hq ho
  have hwn : L1.isTriviaName wr.name = true := by
    rw [Prim.lookup_name hw]; decide
  have hnode : AllN (NodeOK (sigOf g)) (.choice es) := hb ▸ hwf.nodes wr (Prim.lookup_mem hw)
  have hall : AllNL SqOK es := AllNL.imp2 (fun y hy => SqOK_of_NodeOK y hy.root) es hnode.2
  have hpw := op_pairwise g ho
  have hok := (squash_Sq hq).altOK hall
  have hne := hprog wr es alts hc hw hb hq
  have hbody : ∀ inp, BodyW g inp wr alts :=
    fun inp st => hb ▸ .choiceE ((squash_Sq hq).sem g inp hall hpw st)
  have hg0 := fused_ext g (.optChoice alts true) hns
  -- the trivia loop of `g` answers the closed form the fused leaf computes
  have hloop : ∀ inp (st : S0), st.atomic = true → Big g inp .skip { st with atomic := false }
      (.ok { st with atomic := false, pos := starPos g inp alts st.pos } []) := by
    intro inp st hst
    refine .skipLoop rfl hwf.noFused (by rw [hw, hc]; rfl) ?_
    rw [hw, hc]
    exact loopW inp hwn hs (hbody inp) hpw hok hne _ st hst (Nat.le_refl _)
  have hleaf : ∀ inp m' (st : S0), st.atomic = true →
      skip (ext g (.optChoice alts true)) (run (ext g (.optChoice alts true)) inp (m' + 1)) (m' + 1)
        { st with atomic := false } = .ok { st with atomic := false, pos := starPos g inp alts st.pos } [] := by
    intro inp m' st hst
    rw [skip_fused_any hg0 _ _ hst]
    dsimp only [skipRule]
    rw [optStar_run (g := g) inp (ext g (.optChoice alts true)) rfl hpw hok m' _]
    rfl
  constructor
  · intro inp n _
    refine skipSim_of_unatomic inp fun st hst hp hne' => ?_
    have := SkipC.det ⟨n, rfl, hne'⟩ (big_skip.1 (hloop inp st hst))
    rw [this]
    exact Evt.shift ⟨0, fun m' _ => hleaf inp m' st hst⟩
  · intro inp m _
    refine skipSim_of_unatomic inp fun st hst hp hne' => ?_
    cases m with
    | zero => exact absurd (by rw [skip_fused_any hg0 _ _ hst]; rfl) hne'
    | succ m' => rw [hleaf inp m' st hst]; exact (hloop inp st hst).evDiag

end OptS
end Pest
