/-
  Lemmas/Stack.lean — the delta-encoded `DStack` refines the full-copy `RStack`.

  `snapsAux`/`snapsOf` read off, by iterated `restore`, what every pending snapshot would
  restore to; `abs d = ⟨d.items, snapsOf d⟩`.  `InvAux` is the representation invariant
  (it only talks about lengths).  Both are determined by the innermost frame and by
  `d.restore` (`restore_items_snaps`, `inv_cons_iff`), so every operation is described by what
  `restore` sees after it: `push`, `pop` and `clear` leave `restore` alone, `dropSnap` turns it
  into a double `restore`.  From that: the invariant is preserved (`inv_apply`) and `abs`
  commutes with every operation (`abs_apply`).
-/
import PestModel.Stack

namespace Pest
namespace DStack
variable {α : Type}

/-- What the pending snapshots would restore to, innermost first. -/
def snapsAux : List (Nat × Nat) → List α → List α → List (List α)
  | [], _, _ => []
  | (ic, rc) :: ls, items, popped =>
    let items' := (popped.take (ic - rc)).reverse ++ items.drop (items.length - rc)
    items' :: snapsAux ls items' (popped.drop (ic - rc))

def snapsOf (d : DStack α) : List (List α) := snapsAux d.lengths d.items d.popped

def abs (d : DStack α) : RStack α := ⟨d.items, snapsOf d⟩

theorem abs_eq {d d' : DStack α} (h1 : d.items = d'.items) (h2 : snapsOf d = snapsOf d') :
    abs d = abs d' := by simp [abs, h1, h2]

/-- representation invariant, on (lengths, |items|, |popped|) -/
def InvAux : List (Nat × Nat) → Nat → Nat → Prop
  | [], _, p => p = 0
  | (ic, rc) :: ls, n, p => rc ≤ ic ∧ rc ≤ n ∧ ic - rc ≤ p ∧ InvAux ls ic (p - (ic - rc))

def Inv (d : DStack α) : Prop := InvAux d.lengths d.items.length d.popped.length

@[elab_as_elim]
theorem frameCases {motive : DStack α → Prop} (nil : ∀ i p, motive ⟨i, p, []⟩)
    (cons : ∀ i p ic rc ls, motive ⟨i, p, (ic, rc) :: ls⟩) : ∀ d, motive d
  | ⟨i, p, []⟩ => nil i p
  | ⟨i, p, (ic, rc) :: ls⟩ => cons i p ic rc ls

theorem inv_empty : Inv (empty : DStack α) := rfl

theorem inv_nil_iff {i p : List α} : Inv ⟨i, p, []⟩ ↔ p = [] := List.length_eq_zero_iff

theorem take_append_add {A : List α} {k : Nat} (hA : A.length = k) (P : List α) (m : Nat) :
    (A ++ P).take (k + m) = A ++ P.take m := hA ▸ List.take_length_add_append ..

theorem drop_append_add {A : List α} {k : Nat} (hA : A.length = k) (P : List α) (m : Nat) :
    (A ++ P).drop (k + m) = P.drop m := hA ▸ List.drop_length_add_append ..

theorem drop_length_sub_append (X : List α) {B : List α} {rc : Nat} (h : rc ≤ B.length) :
    (X ++ B).drop ((X ++ B).length - rc) = B.drop (B.length - rc) := by
  rw [List.length_append, Nat.add_sub_assoc h, List.drop_length_add_append]

theorem drop_length_sub_cons (x : α) {i : List α} {rc : Nat} (h : rc ≤ i.length) :
    (x :: i).drop ((x :: i).length - rc) = i.drop (i.length - rc) :=
  drop_length_sub_append [x] h

theorem length_drop_length_sub {i : List α} {rc : Nat} (h : rc ≤ i.length) :
    (i.drop (i.length - rc)).length = rc := by
  rw [List.length_drop, Nat.sub_sub_self h]

theorem restore_nil (d : DStack α) (h : d.lengths = []) :
    d.restore = ⟨[], d.popped, []⟩ := by
  cases d; cases h; rfl

theorem restore_cons (d : DStack α) (ic rc : Nat) (ls) (h : d.lengths = (ic, rc) :: ls) :
    d.restore = ⟨(d.popped.take (ic - rc)).reverse ++ d.items.drop (d.items.length - rc),
                 d.popped.drop (ic - rc), ls⟩ := by
  cases d; cases h; rfl

theorem restore_lengths (d : DStack α) : d.restore.lengths = d.lengths.tail := by
  cases d using frameCases <;> rfl

theorem push_lengths (d : DStack α) (x : α) : (d.push x).lengths = d.lengths := rfl
theorem push_items (d : DStack α) (x : α) : (d.push x).items = x :: d.items := rfl
theorem snapshot_items (d : DStack α) : d.snapshot.items = d.items := rfl

theorem snapsAux_length (ls : List (Nat × Nat)) (i p : List α) : (snapsAux ls i p).length = ls.length := by
  induction ls generalizing i p with
  | nil => rfl
  | cons q ls ih => obtain ⟨ic, rc⟩ := q; simp [snapsAux, ih]

theorem snapsOf_length (d : DStack α) : (snapsOf d).length = d.lengths.length :=
  snapsAux_length _ _ _

theorem restore_items_snaps (d : DStack α) (hne : d.lengths ≠ []) :
    snapsOf d = d.restore.items :: snapsOf d.restore := by
  cases d using frameCases with
  | nil => exact absurd rfl hne
  | cons => rfl

theorem restore_items (d : DStack α) : d.restore.items = (snapsOf d).headD [] := by
  cases d using frameCases <;> rfl

theorem snapsOf_congr {d d' : DStack α} (hr : d'.restore = d.restore)
    (hl : d'.lengths.length = d.lengths.length) : snapsOf d' = snapsOf d := by
  cases d using frameCases <;> cases d' using frameCases
  · rfl
  · cases hl
  · cases hl
  · exact congrArg (fun r => r.items :: snapsOf r) hr

theorem inv_cons_iff {i p : List α} {ic rc : Nat} {ls : List (Nat × Nat)} :
    Inv ⟨i, p, (ic, rc) :: ls⟩ ↔
      rc ≤ ic ∧ rc ≤ i.length ∧ ic - rc ≤ p.length ∧ Inv (restore ⟨i, p, (ic, rc) :: ls⟩) := by
  refine and_congr_right fun h1 => and_congr_right fun h2 => and_congr_right fun h3 => ?_
  have e : ((p.take (ic - rc)).reverse ++ i.drop (i.length - rc)).length = ic := by
    rw [List.length_append, List.length_reverse, List.length_take, length_drop_length_sub h2,
      Nat.min_eq_left h3, Nat.sub_add_cancel h1]
  show InvAux ls ic (p.length - (ic - rc)) ↔
    InvAux ls ((p.take (ic - rc)).reverse ++ i.drop (i.length - rc)).length (p.drop (ic - rc)).length
  rw [e, List.length_drop]

theorem abs_restore (d : DStack α) : abs d.restore = (abs d).restore := by
  cases d using frameCases <;> rfl

theorem inv_restore (d : DStack α) (h : Inv d) : Inv d.restore := by
  cases d using frameCases with
  | nil => exact h
  | cons => exact (inv_cons_iff.1 h).2.2.2

theorem snapshot_restore (d : DStack α) : d.snapshot.restore = d := by
  cases d
  simp only [snapshot, restore, Nat.sub_self, List.take_zero, List.reverse_nil, List.drop_zero,
    List.nil_append]

theorem snapsOf_snapshot (d : DStack α) : snapsOf d.snapshot = d.items :: snapsOf d := by
  rw [restore_items_snaps d.snapshot (List.cons_ne_nil _ _), snapshot_restore]

theorem abs_snapshot (d : DStack α) : abs d.snapshot = (abs d).snapshot :=
  congrArg (RStack.mk d.items) (snapsOf_snapshot d)

theorem inv_snapshot (d : DStack α) (h : Inv d) : Inv d.snapshot := by
  cases d with
  | mk i p ls =>
    refine inv_cons_iff.2 ⟨Nat.le_refl _, Nat.le_refl _, ?_, (snapshot_restore ⟨i, p, ls⟩).symm ▸ h⟩
    rw [Nat.sub_self]
    exact Nat.zero_le _

/-- `d'` holds the saved snapshots of `d`: as many, and `restore` leads to the same stack
    (`KeepsFrames.snapsOf`).  "Frame" is said of a saved snapshot in this file only; `Frame c c'` of
    Lemmas/Frame.lean is about whole parser states. -/
structure KeepsFrames (d d' : DStack α) : Prop where
  len : d'.lengths.length = d.lengths.length
  restore : d'.restore = d.restore
  inv : Inv d'

theorem KeepsFrames.snapsOf {d d' : DStack α} (k : KeepsFrames d d') : snapsOf d' = snapsOf d :=
  snapsOf_congr k.restore k.len

theorem keepsFrames_cons {d : DStack α} {i p : List α} {ic rc : Nat} {ls : List (Nat × Nat)}
    (hl : ls.length + 1 = d.lengths.length) (h4 : Inv d.restore) (h1 : rc ≤ ic)
    (h2 : rc ≤ i.length) (h3 : ic - rc ≤ p.length)
    (hr : restore ⟨i, p, (ic, rc) :: ls⟩ = d.restore) : KeepsFrames d ⟨i, p, (ic, rc) :: ls⟩ :=
  ⟨hl, hr, inv_cons_iff.2 ⟨h1, h2, h3, hr ▸ h4⟩⟩

theorem push_keeps (d : DStack α) (x : α) (h : Inv d) : KeepsFrames d (d.push x) := by
  cases d using frameCases with
  | nil => exact ⟨rfl, rfl, h⟩
  | cons i p ic rc ls =>
    obtain ⟨h1, h2, h3, h4⟩ := inv_cons_iff.1 h
    exact keepsFrames_cons rfl h4 h1 (Nat.le_succ_of_le h2) h3
      (by simp only [restore, drop_length_sub_cons x h2])

theorem inv_push (d : DStack α) (x : α) (h : Inv d) : Inv (d.push x) := (push_keeps d x h).inv

theorem snapsOf_push (d : DStack α) (x : α) (h : Inv d) : snapsOf (d.push x) = snapsOf d :=
  (push_keeps d x h).snapsOf

theorem abs_push (d : DStack α) (x : α) (h : Inv d) : abs (d.push x) = (abs d).push x :=
  congrArg (RStack.mk (x :: d.items)) (snapsOf_push d x h)

theorem pop_nil (d : DStack α) (h : d.items = []) : d.pop = none := by
  cases d; cases h; rfl

theorem pop_cons_of_eq (x : α) (rest p : List α) (ic : Nat) (ls : List (Nat × Nat)) :
    pop ⟨x :: rest, p, (ic, rest.length + 1) :: ls⟩
      = some (x, ⟨rest, x :: p, (ic, rest.length) :: ls⟩) :=
  if_pos rfl

theorem pop_cons_of_ne (x : α) (rest p : List α) {ic rc : Nat} (ls : List (Nat × Nat))
    (hc : rest.length + 1 ≠ rc) :
    pop ⟨x :: rest, p, (ic, rc) :: ls⟩ = some (x, ⟨rest, p, (ic, rc) :: ls⟩) :=
  if_neg hc

theorem pop_cons (x : α) (rest p : List α) (l : List (Nat × Nat)) :
    ∃ d', pop ⟨x :: rest, p, l⟩ = some (x, d') ∧ d'.items = rest := by
  match l with
  | [] => exact ⟨_, rfl, rfl⟩
  | (ic, rc) :: ls =>
    simp only [pop]
    split <;> exact ⟨_, rfl, rfl⟩

theorem items_of_pop_none {d : DStack α} (h : d.pop = none) : d.items = [] := by
  cases d with
  | mk i p l =>
    cases i with
    | nil => rfl
    | cons x rest =>
      obtain ⟨d', e, _⟩ := pop_cons x rest p l
      rw [e] at h
      cases h

theorem pop_items {d d' : DStack α} {x : α} (hp : d.pop = some (x, d')) : d.items = x :: d'.items := by
  cases d with
  | mk i p l =>
    cases i with
    | nil => cases hp
    | cons y rest =>
      obtain ⟨d'', e, hi⟩ := pop_cons y rest p l
      rw [e] at hp
      cases hp
      exact congrArg (x :: ·) hi.symm

theorem pop_keeps (d : DStack α) (h : Inv d) {x : α} {d' : DStack α} (hp : d.pop = some (x, d')) :
    KeepsFrames d d' := by
  cases d with
  | mk i p l =>
    cases i with
    | nil => cases hp
    | cons y rest =>
      match l with
      | [] => cases hp; exact ⟨rfl, rfl, h⟩
      | (ic, rc) :: ls =>
        obtain ⟨h1, h2, h3, h4⟩ := inv_cons_iff.1 h
        by_cases hc : rest.length + 1 = rc
        · -- popped below the low-water mark: recorded
          subst hc
          rw [pop_cons_of_eq] at hp
          cases hp
          have e : ic - rest.length = ic - (rest.length + 1) + 1 :=
            (Nat.sub_add_cancel (Nat.sub_pos_of_lt h1)).symm
          refine keepsFrames_cons rfl h4 (Nat.le_of_succ_le h1) (Nat.le_refl _) ?_ ?_
          · rw [e]; exact Nat.succ_le_succ h3
          · simp only [restore, e, List.length_cons, List.take_succ_cons, List.reverse_cons,
              List.drop_succ_cons, Nat.sub_self, List.drop_zero, List.append_assoc,
              List.cons_append, List.nil_append]
        · rw [pop_cons_of_ne _ _ _ _ hc] at hp
          cases hp
          have h2' : rc ≤ rest.length := Nat.le_of_lt_succ (Nat.lt_of_le_of_ne h2 (Ne.symm hc))
          exact keepsFrames_cons rfl h4 h1 h2' h3
            (by simp only [restore, drop_length_sub_cons x h2'])

theorem inv_pop (d : DStack α) (h : Inv d) {x : α} {d' : DStack α} (hp : d.pop = some (x, d')) :
    Inv d' :=
  (pop_keeps d h hp).inv

theorem snapsOf_pop (d : DStack α) (h : Inv d) {x : α} {d' : DStack α} (hp : d.pop = some (x, d')) :
    snapsOf d' = snapsOf d ∧ d'.items = d.items.tail :=
  ⟨(pop_keeps d h hp).snapsOf, by rw [pop_items hp, List.tail_cons]⟩

theorem abs_pop (d : DStack α) (h : Inv d) :
    (d.pop).map (fun r => (r.1, abs r.2)) = (abs d).pop := by
  cases hp : d.pop with
  | none => simp only [Option.map_none, abs, RStack.pop, items_of_pop_none hp]
  | some r => simp only [Option.map_some, abs, RStack.pop, pop_items hp, (pop_keeps d h hp).snapsOf]

theorem clear_items (d : DStack α) : d.clear.items = [] := by
  cases d using frameCases with
  | nil i p => cases i <;> rfl
  | cons i p ic rc ls => cases i <;> rfl

/-- recording the bottom `rc` items as popped, most recent first, keeps the frames -/
theorem spill_keeps {i p : List α} {ic rc : Nat} {ls : List (Nat × Nat)}
    (h : Inv ⟨i, p, (ic, rc) :: ls⟩) :
    KeepsFrames ⟨i, p, (ic, rc) :: ls⟩
      ⟨[], (i.drop (i.length - rc)).reverse ++ p, (ic, 0) :: ls⟩ := by
  obtain ⟨h1, h2, h3, h4⟩ := inv_cons_iff.1 h
  have hB : (i.drop (i.length - rc)).reverse.length = rc := by
    rw [List.length_reverse, length_drop_length_sub h2]
  refine keepsFrames_cons rfl h4 (Nat.zero_le _) (Nat.zero_le _) ?_ ?_
  · rw [List.length_append, hB]
    exact Nat.sub_le_iff_le_add'.1 h3
  · obtain ⟨k, rfl⟩ := Nat.exists_eq_add_of_le h1
    simp only [restore, Nat.sub_zero, Nat.add_sub_cancel_left, take_append_add hB,
      drop_append_add hB, List.reverse_append, List.reverse_reverse, List.length_nil,
      List.drop_nil, List.append_nil]

theorem clear_keeps (d : DStack α) (h : Inv d) : KeepsFrames d d.clear := by
  cases d with
  | mk i p l =>
    cases i with
    | nil => exact ⟨rfl, rfl, h⟩
    | cons x rest =>
      match l with
      | [] => cases inv_nil_iff.1 h; exact ⟨rfl, rfl, rfl⟩
      | (ic, rc) :: ls => exact spill_keeps h

theorem inv_clear (d : DStack α) (h : Inv d) : Inv d.clear := (clear_keeps d h).inv

theorem snapsOf_clear (d : DStack α) (h : Inv d) :
    snapsOf d.clear = snapsOf d ∧ d.clear.items = [] :=
  ⟨(clear_keeps d h).snapsOf, clear_items d⟩

theorem abs_clear (d : DStack α) (h : Inv d) : abs d.clear = (abs d).clear := by
  simp only [abs, RStack.clear, clear_items, (clear_keeps d h).snapsOf]

theorem dropSnap_items (d : DStack α) : d.dropSnap.items = d.items := by
  cases d using frameCases with
  | nil => rfl
  | cons i p ic rc ls =>
    match ls with
    | [] => rfl
    | (oc, orc) :: ls' =>
      simp only [dropSnap]
      split <;> rfl

theorem snapsOf_restore (d : DStack α) : snapsOf d.restore = (snapsOf d).tail := by
  cases d using frameCases <;> rfl

/-- list core of the `rc < orc` case: the `k` most recent of the inner entries `A` are kept. -/
theorem dropSnap_lists (A P B : List α) {k : Nat} (m : Nat) (hk : k ≤ A.length) :
    ((A.take k ++ P).take (k + m)).reverse ++ B
      = (P.take m).reverse ++ (A.reverse ++ B).drop (A.length - k) ∧
    (A.take k ++ P).drop (k + m) = P.drop m := by
  have hk' : (A.take k).length = k := by rw [List.length_take, Nat.min_eq_left hk]
  have hr : A.length - k ≤ A.reverse.length := by rw [List.length_reverse]; exact Nat.sub_le ..
  rw [take_append_add hk', drop_append_add hk', List.drop_append_of_le_length hr, List.drop_reverse,
    Nat.sub_sub_self hk, List.reverse_append, List.append_assoc]
  exact ⟨rfl, rfl⟩

theorem dropSnap_keeps (d : DStack α) (h : Inv d) : KeepsFrames d.restore d.dropSnap := by
  cases d using frameCases with
  | nil i p => exact ⟨rfl, rfl, h⟩
  | cons i p ic rc ls =>
    obtain ⟨h1, h2, h3, h4⟩ := inv_cons_iff.1 h
    match ls with
    | [] => exact ⟨rfl, rfl, h4⟩
    | (oc, orc) :: ls' =>
      have hA : (p.take (ic - rc)).length = ic - rc := by rw [List.length_take, Nat.min_eq_left h3]
      have hB := length_drop_length_sub h2
      have hAB : ((p.take (ic - rc)).reverse ++ i.drop (i.length - rc)).length = ic := by
        rw [List.length_append, List.length_reverse, hA, hB, Nat.sub_add_cancel h1]
      have h4' : Inv ⟨(p.take (ic - rc)).reverse ++ i.drop (i.length - rc), p.drop (ic - rc),
          (oc, orc) :: ls'⟩ := h4
      obtain ⟨g1, g2, g3, g4⟩ := inv_cons_iff.1 h4'
      rw [hAB] at g2
      by_cases hc : rc < orc
      · -- the outer snapshot needs some of the entries the inner one recorded
        have hk : orc - rc ≤ ic - rc := Nat.sub_le_sub_right g2 rc
        have e1 : oc - rc = (orc - rc) + (oc - orc) := by
          rw [Nat.add_comm, Nat.sub_add_sub_cancel g1 (Nat.le_of_lt hc)]
        have e2 : ic - orc = (ic - rc) - (orc - rc) :=
          (Nat.sub_sub_sub_cancel_right (Nat.le_of_lt hc)).symm
        rw [← hA] at hk e2
        obtain ⟨l1, l2⟩ := dropSnap_lists (p.take (ic - rc)) (p.drop (ic - rc))
          (i.drop (i.length - rc)) (oc - orc) hk
        simp only [dropSnap, if_pos hc]
        refine keepsFrames_cons rfl g4 (Nat.le_trans (Nat.le_of_lt hc) g1) h2 ?_ ?_
        · rw [List.length_append, List.length_take, Nat.min_eq_left hk, e1]
          exact Nat.add_le_add_left g3 _
        · simp only [restore, hAB, e1, e2, l1, l2]
      · have hle : orc ≤ rc := Nat.le_of_not_lt hc
        have e1 := drop_length_sub_append (p.take (ic - rc)).reverse (hB.symm ▸ hle)
        have e2 := drop_length_sub_append (i.take (i.length - rc)) (hB.symm ▸ hle)
        rw [List.take_append_drop] at e2
        simp only [dropSnap, if_neg hc]
        exact keepsFrames_cons rfl g4 g1 (Nat.le_trans hle h2) g3 (by simp only [restore, e1, e2])

theorem inv_dropSnap (d : DStack α) (h : Inv d) : Inv d.dropSnap := (dropSnap_keeps d h).inv

theorem snapsOf_dropSnap (d : DStack α) (h : Inv d) : snapsOf d.dropSnap = (snapsOf d).tail :=
  (dropSnap_keeps d h).snapsOf.trans (snapsOf_restore d)

theorem abs_dropSnap (d : DStack α) (h : Inv d) : abs d.dropSnap = (abs d).dropSnap := by
  simp only [abs, RStack.dropSnap, dropSnap_items, snapsOf_dropSnap d h]

/-! #### the asserts of `restore` / slice bounds of `drop_snapshot` hold under the invariant -/

theorem inv_restoreAsserts (d : DStack α) (h : Inv d) : d.restoreAsserts = true := by
  cases d using frameCases with
  | nil i p => cases inv_nil_iff.1 h; rfl
  | cons i p ic rc ls => exact decide_eq_true (inv_cons_iff.1 h).2.2.1

theorem inv_dropAsserts (d : DStack α) (h : Inv d) : d.dropAsserts = true := by
  cases d using frameCases with
  | nil => rfl
  | cons i p ic rc ls =>
    have h3 : ic - rc ≤ p.length := h.2.2.1
    match ls with
    | [] => exact (Bool.and_true _).trans (decide_eq_true h3)
    | (oc, orc) :: ls' =>
      have g2 : orc ≤ ic := h.2.2.2.2.1
      exact Bool.and_eq_true_iff.2 ⟨decide_eq_true h3, decide_eq_true (Nat.sub_le_sub_right g2 rc)⟩

theorem inv_apply (d : DStack α) (op : StackOp α) (h : Inv d) : Inv (d.apply op) := by
  cases op with
  | push x => exact inv_push d x h
  | pop =>
    simp only [apply]
    cases hp : d.pop with
    | none => exact h
    | some r => exact inv_pop d h hp
  | clear => exact inv_clear d h
  | snapshot => exact inv_snapshot d h
  | restore => exact inv_restore d h
  | dropSnap => exact inv_dropSnap d h

theorem abs_apply (d : DStack α) (op : StackOp α) (h : Inv d) :
    abs (d.apply op) = (abs d).apply op := by
  cases op with
  | push x => exact abs_push d x h
  | pop =>
    simp only [apply, RStack.apply, ← abs_pop d h]
    cases d.pop <;> rfl
  | clear => exact abs_clear d h
  | snapshot => exact abs_snapshot d
  | restore => exact abs_restore d
  | dropSnap => exact abs_dropSnap d h

end DStack
end Pest
