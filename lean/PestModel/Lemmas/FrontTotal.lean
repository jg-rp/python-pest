/-
  Lemmas/FrontTotal.lean — `Front.load` (scanner + grammar parser) is total, and
  `PestGrammarError._error_context` (Front/ErrorContext.lean) finds a line and a column that
  exist (`grammarErrorContext_eq`: it is `error_context` of LineCol.lean up to the column's base, so
  every fact about the one is a fact about the other; `gec_cases`: what it returns, for every index);
  helper lemmas for Props/C11.lean.
-/
import PestModel.Front.ErrorContext
import PestModel.Lemmas.LineCol
import PestModel.Lemmas.FrontTotalScan
import PestModel.Lemmas.FrontTotalParse

namespace Pest
namespace Front
open LineCol

theorem load_sat (builtins : List String) (text : Text) :
    match load builtins text with
    | .ok _ => True
    | .error e => e.start ≤ text.length
    | .exc _ => False
    | .oof => False := by
  have hscan := scan_sat text
  unfold load
  cases hs : scan text with
  | err k st v => rw [hs] at hscan; exact hscan
  | exc n => rw [hs] at hscan; exact hscan
  | oof => rw [hs] at hscan; exact hscan
  | ok toks =>
    rw [hs] at hscan
    have hp := parseTokens_top builtins text.length hscan
    dsimp only
    cases hr : parseTokens builtins ⟨.eoi, [], text.length⟩ toks with
    | ok g rest => trivial
    | err k t => exact (hp.err hr).1
    | exc n => exact hp.exc hr
    | oof => exact hp.ne_oof hr

theorem gecLines_eq {t : LineCol.Text} {b : Bool}
    (he : endsOnNewLine t (splitlines true t) = some b) : gecLines t = some (ecLines t b) := by
  unfold gecLines ecLines
  simp only [he, Option.bind_eq_bind, Option.bind_some, Option.pure_def]

/-- a guarded look-up of a neighbouring line does not raise -/
theorem guarded_getElem? {α β} {c : Prop} [Decidable c] {ls : List α} {k : Nat}
    (h : c → k < ls.length) (r : Option β) : (if c then ls[k]?.bind fun _ => r else r) = r := by
  split
  · rw [List.getElem?_eq_getElem (h ‹_›)]; rfl
  · rfl

/-- `PestGrammarError._error_context` is `pest.exceptions.error_context` (LineCol.lean) with the
    column 0-based: the two Python functions run the same loop, and the neighbouring lines the
    former also subscripts are there whenever it looks for them -/
theorem grammarErrorContext_eq (t : LineCol.Text) (index : Nat) :
    grammarErrorContext t index =
      (errorContext t index).map fun r => (r.2.1, r.2.2 - 1, r.1) := by
  obtain ⟨b, hb, hne⟩ := endsOnNewLine_total t
  cases hf : findLine (index : Int) (ecLines t b) 0 0 with
  | mk found cum =>
    have hlt := findLine_target_lt (ecLines_pos t hne) hf
    have hl := List.getElem?_eq_getElem hlt
    rw [errorContext_exit hb rfl hf rfl hl]
    unfold grammarErrorContext
    simp only [gecLines_eq hb, Option.bind_eq_bind, Option.bind_some, hf, hl, Option.pure_def]
    generalize found.getD ((ecLines t b).length - 1) = target at hlt
    rw [guarded_getElem? (k := target + 1) (fun _ => by omega),
      guarded_getElem? (k := target - 1) (fun _ => by omega), Option.map_some,
      Int.add_sub_cancel]

theorem gec_exit {t : LineCol.Text} {index : Nat} {b : Bool} {found : Option Nat} {cum : Nat}
    {l : LineCol.Text} (he : endsOnNewLine t (splitlines true t) = some b)
    (hf : findLine (index : Int) (ecLines t b) 0 0 = (found, cum))
    (hl : (ecLines t b)[found.getD ((ecLines t b).length - 1)]? = some l) :
    grammarErrorContext t index = some (found.getD ((ecLines t b).length - 1) + 1,
      (index : Int) - ((cum : Int) - (l.length : Int)), rstrip l) := by
  rw [grammarErrorContext_eq, errorContext_exit he rfl hf rfl hl, Option.map_some,
    Int.add_sub_cancel]

/-- **the reported position exists**: for `0 ≤ index ≤ len(text)` the reported line is one of
    the lines the function works on, the column lies within it, and it reaches the length of
    the line only when `index` is the end of the text; beyond the text the last line is
    reported -/
theorem gec_cases (t : LineCol.Text) (index : Nat) :
    ∃ lines line col cur l, gecLines t = some lines ∧
      grammarErrorContext t index = some (line, col, cur) ∧ 1 ≤ line ∧ line ≤ lines.length ∧
      lines[line - 1]? = some l ∧ cur = rstrip l ∧
      (index ≤ t.length → 0 ≤ col ∧ col ≤ l.length ∧ (col = l.length → index = t.length)) := by
  obtain ⟨b, hb, hne⟩ := endsOnNewLine_total t
  have hpos := ecLines_pos t hne
  have hflat := ecLines_flatten t b
  rcases findLine_exit index (ecLines t b) 0 0 (by omega) with
    ⟨j, l, c₀, hl, hf, h1, h2⟩ | ⟨hf, h⟩
  · rw [Nat.zero_add] at hf
    have hj := (List.getElem?_eq_some_iff.mp hl).1
    exact ⟨_, j + 1, _, _, l, gecLines_eq hb, gec_exit hb hf hl, Nat.succ_pos _, hj, hl, rfl,
      fun _ => by omega⟩
  · rw [Nat.zero_add, hflat] at hf h
    have hlt : (ecLines t b).length - 1 < (ecLines t b).length := by omega
    have hl := List.getElem?_eq_getElem hlt
    generalize (ecLines t b)[(ecLines t b).length - 1] = l at hl
    have hle := (List.sublist_flatten_of_mem (List.mem_of_getElem? hl)).length_le
    rw [hflat] at hle
    exact ⟨_, (ecLines t b).length - 1 + 1, _, _, l, gecLines_eq hb, gec_exit hb hf hl,
      Nat.succ_pos _, hlt, hl, rfl, fun _ => by omega⟩

end Front
end Pest
