/-
  Lemmas/Thread.lean — closed forms of the helpers of L1 that every proof by "preserved by
  `step`" has to open (rule entry and exit, `withTag`), and the helpers of LG as the L1 ones with
  the caller's list threaded through.  The nodes without sub-expressions are the leaf table of
  Lemmas/LeafAct.lean carried out on a `ParserState` (`LeafAct.run1`: `L1.step_leaf_eq`,
  `LG.step_act`); `L1.Leaf` is the three-way view of that (fail, same state, moved) for users that
  do not care which node it was.
-/
import PestModel.Gen
import PestModel.Lemmas.Stack
import PestModel.Lemmas.LeafAct

namespace Pest

def R1.thread (ps : List Pair) : R1 → RG
  | .done m c out => .done m c (ps ++ out)
  | .oof => .oof
  | .exc k => .exc k

@[simp] theorem R1.thread_done_nil (ps : List Pair) (m : Bool) (c : PState) :
    (R1.done m c []).thread ps = .done m c ps := by
  simp only [R1.thread, List.append_nil]

def R1.mapState (f : PState → PState) : R1 → R1
  | .done m c ps => .done m (f c) ps
  | r => r

theorem R1.mapState_eq_done {f : PState → PState} {r : R1} {m : Bool} {c : PState} {ps : List Pair}
    (h : r.mapState f = .done m c ps) : ∃ c1, r = .done m c1 ps ∧ c = f c1 := by
  cases r with
  | done m' c' o => cases h; exact ⟨c', rfl, rfl⟩
  | oof => cases h
  | exc k => cases h

def RG.mapState (f : PState → PState) : RG → RG
  | .done m c ps => .done m (f c) ps
  | r => r

theorem RG.mapState_eq_done {f : PState → PState} {r : RG} {m : Bool} {c : PState} {ps : List Pair}
    (h : r.mapState f = .done m c ps) : ∃ c1, r = .done m c1 ps ∧ c = f c1 := by
  cases r with
  | done m' c' o => cases h; exact ⟨c', rfl, rfl⟩
  | oof => cases h
  | exc k => cases h

/-- entering `with state.tag(t):` -/
def PState.pushTag (c : PState) : Option String → PState
  | none => c
  | some t => { c with tagStack := t :: c.tagStack }

/-- leaving `with state.tag(t):` -/
def PState.popTag (tag : Option String) (c : PState) : PState :=
  match tag with
  | none => c
  | some _ => { c with tagStack := c.tagStack.tail }

namespace L1

variable {g : Grammar} {inp : Input}

def enterDepth (name : String) (mod : Nat) (a : SnapInt) : SnapInt :=
  if hasBit mod ATOMIC || hasBit mod COMPOUND || isTriviaName name then a.snapshot.add 1
  else if hasBit mod NONATOMIC then a.snapshot.zero
  else a

theorem ruleEnter_eq (name : String) (mod : Nat) (c : PState) :
    ruleEnter name mod c = { c with adepth := enterDepth name mod c.adepth } := by
  unfold ruleEnter enterDepth
  by_cases hA : (hasBit mod ATOMIC || hasBit mod COMPOUND || isTriviaName name) = true
  · rw [if_pos hA, if_pos hA]
  · rw [if_neg hA, if_neg hA]
    by_cases hN : hasBit mod NONATOMIC = true
    · rw [if_pos hN, if_pos hN]
    · rw [if_neg hN, if_neg hN]

end L1

theorem visibleList_nil : visibleList [] = [] := by simp [visibleList]

theorem visibleList_cons (n : String) (m s e : Nat) (ch : List Pair) (t : Option String) (rest : List Pair) :
    visibleList (.mk n m s e ch t :: rest) =
      (if hasBit m COMPOUND || hasBit m NONATOMIC then [.mk n m s e ch t] else visibleList ch)
        ++ visibleList rest := by
  simp [visibleList, Pair.visible]

namespace L1

/-- the state a rule leaves behind once its name is popped off the rule stack (`rs` is what is
    left of it): the `with` block is left, and a matched non-silent rule has consumed the pending
    tag -/
def exitState (name : String) (mod : Nat) (matched : Bool) (c2 : PState) (rs : DStack String) : PState :=
  { c2 with
    adepth := if ruleScoped name mod then c2.adepth.restore else c2.adepth
    rstack := rs
    tagStack := if matched && !hasBit mod SILENT then c2.tagStack.tail else c2.tagStack }

def exitPairs (name : String) (mod start : Nat) (matched : Bool) (c2 : PState) (children : List Pair) :
    List Pair :=
  if !matched then []
  else if hasBit mod SILENT then children
  else [.mk name mod start c2.pos (if hasBit mod ATOMIC then visibleList children else children)
          c2.tagStack.head?]

theorem ruleExit_eq (name : String) (mod start : Nat) (matched : Bool) (c2 : PState)
    (children : List Pair) :
    ruleExit name mod start matched c2 children =
      match c2.rstack.pop with
      | none => .exc .indexError
      | some (_, rs) =>
        .done matched (exitState name mod matched c2 rs) (exitPairs name mod start matched c2 children) := by
  unfold ruleExit exitState exitPairs
  have hc3 : (if ruleScoped name mod = true then ({ c2 with adepth := c2.adepth.restore } : PState) else c2)
      = { c2 with adepth := if ruleScoped name mod = true then c2.adepth.restore else c2.adepth } := by
    by_cases h : ruleScoped name mod = true
    · rw [if_pos h, if_pos h]
    · rw [if_neg h, if_neg h]
  rw [hc3]
  dsimp only []
  cases c2.rstack.pop with
  | none => rfl
  | some q =>
    cases matched with
    | false => rfl
    | true =>
      by_cases hS : hasBit mod SILENT = true
      · simp only [hS]; rfl
      · simp only [hS]
        cases c2.tagStack <;> rfl

theorem withTag_eq (tag : Option String) (c : PState) (body : PState → R1) :
    withTag tag c body = (body (c.pushTag tag)).mapState (PState.popTag tag) := by
  cases tag with
  | none => simp only [withTag, PState.pushTag]; cases body c <;> rfl
  | some t => simp only [withTag, PState.pushTag]; cases body _ <;> rfl

/-- what one terminal may do to the user stack: nothing, one push, one pop, or `clear()` (the
    generated POP_ALL); the unit in which a kit's relation has to be closed under stack changes
    (`HKit.ustack`) -/
inductive StackStep (u : DStack Str) : DStack Str → Prop
  | same : StackStep u u
  | push (x : Str) : StackStep u (u.push x)
  | pop {x : Str} {us : DStack Str} : u.pop = some (x, us) → StackStep u us
  | clear : StackStep u u.clear

/-- the results of the nodes without sub-expressions (POP_ALL apart, which loops), for a user
    that does not care which node it was: POP's second look at the stack finds what PEEK saw, so
    no exception is among them (`Leaf.of_act`) -/
inductive Leaf (inp : Input) (c : PState) : R1 → Prop
  | fail : Leaf inp c (failT c)
  | same (m : Bool) : Leaf inp c (.done m c [])
  | move (us : DStack Str) (q : Nat) : (c.pos ≤ inp.size → c.pos ≤ q ∧ q ≤ inp.size) →
      StackStep c.ustack us → Leaf inp c (.done true { c with ustack := us, pos := q } [])

/-- how the interpreter carries out the decision of a terminal (POP_ALL apart, which loops) -/
def _root_.Pest.LeafAct.run1 (c : PState) : LeafAct → R1
  | .fail => failT c
  | .no => .done false c []
  | .ok q .keep => .done true { c with pos := q } []
  | .ok q (.push x) => .done true { c with ustack := c.ustack.push x, pos := q } []
  | .ok q .pop =>
    match c.ustack.pop with
    | some (_, us) => .done true { c with ustack := us, pos := q } []
    | none => .exc .indexError
  | .ok q .clear => .done true { c with ustack := c.ustack.clear, pos := q } []

theorem _root_.Pest.LeafAct.run1_ite (c : PState) (p : Prop) [Decidable p] (a b : LeafAct) :
    (if p then a else b).run1 c = if p then a.run1 c else b.run1 c := apply_ite ..

theorem step_leaf_eq {e : Expr} (he : e.isLeaf = true) (hp : e ≠ .popAll) (k : Nat) (rec : Sem1)
    (c : PState) : step g inp k rec e c = (leafAct g inp e c.pos c.ustack.items).run1 c := by
  cases e with
  | str x => dsimp only [step, leafAct]; rw [LeafAct.run1_ite] <;> rfl
  | ci x => dsimp only [step, leafAct]; rw [LeafAct.run1_ite] <;> rfl
  | anyB => dsimp only [step, leafAct]; rw [LeafAct.run1_ite] <;> rfl
  | range a b =>
    dsimp only [step, leafAct]
    cases inp[c.pos]? with
    | none => rfl
    | some x => dsimp only []; rw [LeafAct.run1_ite] <;> rfl
  | uprop n =>
    dsimp only [step, leafAct]
    cases inp[c.pos]? with
    | none => rfl
    | some x => dsimp only []; rw [LeafAct.run1_ite] <;> rfl
  | peek | pop =>
    dsimp only [step, leafAct, DStack.peek]
    cases c.ustack.items.head? with
    | none => rfl
    | some x => dsimp only []; rw [LeafAct.run1_ite] <;> rfl
  | drop =>
    dsimp only [step, leafAct]
    cases hi : c.ustack.items with
    | nil => rw [show c.ustack.pop = none by simp only [DStack.pop, hi]]; rfl
    | cons t r =>
      cases hpop : c.ustack.pop with
      | none => rw [DStack.items_of_pop_none hpop] at hi; cases hi
      | some q => dsimp only [LeafAct.run1]; rw [hpop]
  | peekAll | peekSlice =>
    dsimp only [step, leafAct]
    cases matchAll inp _ c.pos <;> rfl
  | optChoice alts star => dsimp only [step, leafAct]; cases optMatch g inp alts star c.pos <;> rfl
  | soiB => dsimp only [step, leafAct]; cases c.pos == 0 <;> rfl
  | eoiB => dsimp only [step, leafAct]; cases c.pos == inp.size <;> rfl
  | pushLit | skipUntil => rfl
  | popAll => exact absurd rfl hp
  | _ => cases he

theorem Leaf.of_act {c : PState} {act : LeafAct} (h : act.OK inp c.pos c.ustack.items) :
    Leaf inp c (act.run1 c) := by
  cases act with
  | fail => exact .fail
  | no => exact .same false
  | ok q op =>
    cases op with
    | keep => exact .move c.ustack q h.1 .same
    | push x => exact .move _ q h.1 (.push x)
    | clear => exact .move _ q h.1 .clear
    | pop =>
      dsimp only [LeafAct.run1]
      cases hp : c.ustack.pop with
      | none => exact absurd (DStack.items_of_pop_none hp) (h.2 rfl)
      | some x => exact .move _ q h.1 (.pop hp)

theorem step_leaf {e : Expr} (he : e.isLeaf = true) (hp : e ≠ .popAll) (k : Nat) (rec : Sem1)
    (c : PState) : Leaf inp c (step g inp k rec e c) := by
  rw [step_leaf_eq he hp]
  exact .of_act (leafAct_ok e _ _)

end L1

namespace LG

variable {g : Grammar} {inp : Input}

theorem failT_eq (c : PState) (ps : List Pair) : failT c ps = (L1.failT c).thread ps := by
  unfold failT L1.failT
  cases c.fail none false with
  | none => rfl
  | some c' => exact (R1.thread_done_nil ps false c').symm

theorem ruleExitG_eq (name : String) (mod start : Nat) (matched : Bool) (c2 : PState)
    (children ps : List Pair) :
    ruleExitG name mod start matched c2 children ps =
      (L1.ruleExit name mod start matched c2 children).thread ps := by
  unfold ruleExitG L1.ruleExit
  generalize (if L1.ruleScoped name mod = true then ({ c2 with adepth := c2.adepth.restore } : PState) else c2) = c3
  dsimp only []
  cases c3.rstack.pop with
  | none => rfl
  | some q =>
    cases matched with
    | false => exact (R1.thread_done_nil ps false _).symm
    | true =>
      by_cases hS : hasBit mod SILENT = true
      · simp only [hS]; rfl
      · simp only [hS]; rfl

theorem withTagG_eq (tag : Option String) (c : PState) (body : PState → RG) :
    withTagG tag c body = (body (c.pushTag tag)).mapState (PState.popTag tag) := by
  cases tag with
  | none => simp only [withTagG, PState.pushTag]; cases body c <;> rfl
  | some t => simp only [withTagG, PState.pushTag]; cases body _ <;> rfl

theorem thread_ite {ps : List Pair} {p : Prop} [Decidable p] {a b : R1} {x y : RG}
    (ha : x = a.thread ps) (hb : y = b.thread ps) :
    (if p then x else y) = (if p then a else b).thread ps :=
  ite_ind₂ (P := fun (x : RG) (a : R1) => x = a.thread ps) (fun _ => ha) fun _ => hb

/-- POP_ALL is apart: the interpreter pops one by one under a checkpoint, the generated code
    matches all and calls `clear()` -/
theorem step_leaf {e : Expr} (he : e.isLeaf = true) (hp : e ≠ .popAll) (k : Nat) (rG : SemG)
    (r1 : Sem1) (c : PState) (ps : List Pair) :
    step g inp k rG e c ps = (L1.step g inp k r1 e c).thread ps := by
  have done : ∀ (m : Bool) (d : PState), RG.done m d ps = (R1.done m d []).thread ps :=
    fun m d => (R1.thread_done_nil ps m d).symm
  have fail := failT_eq c ps
  cases e with
  | str s => exact thread_ite (done _ _) fail
  | ci s => exact thread_ite (done _ _) fail
  | range a b =>
    dsimp only [step, L1.step]
    cases inp[c.pos]? with
    | none => exact fail
    | some x => exact thread_ite (done _ _) fail
  | pushLit s => exact done _ _
  | peekSlice a b =>
    dsimp only [step, L1.step, matchAllG]
    cases L1.matchAll inp (pySlice c.ustack.items.reverse a b) c.pos with
    | none => exact fail
    | some p => exact done _ _
  | peek =>
    dsimp only [step, L1.step]
    cases c.ustack.peek with
    | none => exact done _ _
    | some v => exact thread_ite (done _ _) fail
  | peekAll =>
    dsimp only [step, L1.step, matchAllG]
    cases L1.matchAll inp c.ustack.items c.pos with
    | none => exact fail
    | some p => exact done _ _
  | pop =>
    dsimp only [step, L1.step]
    cases c.ustack.peek with
    | none => exact done _ _
    | some v =>
      refine thread_ite ?_ fail
      cases c.ustack.pop with
      | none => rfl
      | some q => exact done _ _
  | popAll => exact absurd rfl hp
  | drop =>
    dsimp only [step, L1.step]
    cases c.ustack.pop with
    | none => exact fail
    | some q => exact done _ _
  | anyB => exact thread_ite (done _ _) (done _ _)
  | soiB => exact done _ _
  | eoiB => exact done _ _
  | uprop n =>
    dsimp only [step, L1.step]
    cases inp[c.pos]? with
    | none => exact done _ _
    | some x => exact thread_ite (done _ _) (done _ _)
  | skipUntil subs => exact done _ _
  | optChoice alts star =>
    dsimp only [step, L1.step]
    cases L1.optMatch g inp alts star c.pos with
    | none => exact done _ _
    | some p => exact done _ _
  | _ => cases he

theorem step_act {e : Expr} (he : e.isLeaf = true) (k : Nat) (rec : SemG) (c : PState) (ps : List Pair) :
    step g inp k rec e c ps = ((leafAct g inp e c.pos c.ustack.items).run1 c).thread ps := by
  by_cases hp : e = .popAll
  · subst hp
    dsimp only [step, leafAct, matchAllG]
    cases L1.matchAll inp c.ustack.items c.pos with
    | none => exact failT_eq c ps
    | some p => exact (R1.thread_done_nil ps true _).symm
  · rw [step_leaf he hp k rec (fun _ _ => .oof) c ps, L1.step_leaf_eq he hp]

end LG
end Pest
