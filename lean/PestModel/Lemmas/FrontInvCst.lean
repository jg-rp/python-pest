/-
  Lemmas/FrontInvCst.lean — the *concrete* syntax tree of a grammar text: the shape the scanner
  (Front/Scan.lean) accepts, with every lexeme as the scanner emits it.  It is the pivot of the
  exactness proof of Props/C10Exact.lean:

      scanner  ⟷  C-tree + layout            (Lemmas/FrontInvScan.lean: inversion;
                                               Lemmas/FrontAccScan.lean: its converse)
      parser   ⟷  `abs : C-tree → Option AST` (Lemmas/FrontCstParse.lean: the parser on the
                                               tokens of a C-tree succeeds iff `abs` is defined,
                                               and then returns `den` of it)

  The C-tree differs from the source-level AST (Front/Ast.lean) exactly where the scanner is
  more liberal than the grammar parser, or keeps the spelling:
    * `{ … }` holds any sequence of commas and numbers          (`CPost.braces`)
    * `PUSH_LITERAL( )` may lack its string                     (`CNode.pushLit none`)
    * numbers, integers and character literals are lexemes      (`Text`, not `Nat`/`Int`)
  `abs` checks what the parser checks (shape of the bounds, `int()` and the u32 limit, the
  decoded range ends and their order) and computes the AST.
-/
import PestModel.Front.AstText2
import PestModel.Lemmas.FrontScanBase

namespace Pest
namespace Front

/-- a postfix operator as scanned: `{` (`,` | number)* `}` is not checked by the scanner;
    `none` = a comma, `some w` = the number lexeme `w` -/
inductive CPost
  | opt | rep | rep1 | braces (items : List (Option Text))
deriving Repr

mutual
inductive CNode
  | str (s : Text)                      -- value of the STRING token (decoded)
  | ci (s : Text)
  | range (a b : Text)                  -- the two CHAR lexemes, quotes included
  | ident (name : Text)
  | pushLit (s : Option Text)
  | push (bar : Bool) (e : CExpr)
  | slice (a b : Option Text)           -- the INTEGER lexemes
  | paren (bar : Bool) (e : CExpr)
inductive CTerm
  | mk (tag : Option Text) (pre : List Bool) (node : CNode) (post : List CPost)
inductive CExpr
  | one (t : CTerm)
  | cons (t : CTerm) (bar : Bool) (rest : CExpr)
end

structure CRule where
  docs : List Text
  name : Text
  mod : Option Nat
  bar : Bool
  body : CExpr

structure CGrammar where
  gdocs : List Text
  rules : List CRule
  trailing : List Text

/-! ### tokens -/

def itemKV' : Option Text → KV
  | none => (.comma, [44])
  | some w => (.number, w)

def CPost.kv : CPost → List KV
  | .opt => [(.optionOp, [63])]
  | .rep => [(.repeatOp, [42])]
  | .rep1 => [(.repeatOnceOp, [43])]
  | .braces items => (.lbrace, [123]) :: (items.map itemKV' ++ [(.rbrace, [125])])

def optKV (k : TK) : Option Text → List KV
  | none => []
  | some w => [(k, w)]

mutual
def CNode.kv : CNode → List KV
  | .str s => [(.string, s)]
  | .ci s => [(.stringCI, s)]
  | .range a b => [(.char, a), (.rangeOp, [46, 46]), (.char, b)]
  | .ident name => [(keywordKind name, name)]
  | .pushLit s => [(.pushLiteral, sPUSH_LITERAL), (.lparen, [40])] ++ optKV .string s ++ [(.rparen, [41])]
  | .push bar e => [(.push, sPUSH), (.lparen, [40])] ++ barKV bar ++ e.kv ++ [(.rparen, [41])]
  | .slice a b =>
    [(.peek, sPEEK), (.lbracket, [91])] ++ optKV .integer a ++ [(.rangeOp, [46, 46])] ++ optKV .integer b ++
      [(.rbracket, [93])]
  | .paren bar e => [(.lparen, [40])] ++ barKV bar ++ e.kv ++ [(.rparen, [41])]
def CTerm.kv : CTerm → List KV
  | .mk tag pre node post => tagKV tag ++ pre.map preKV ++ node.kv ++ (post.map CPost.kv).flatten
def CExpr.kv : CExpr → List KV
  | .one t => t.kv
  | .cons t bar rest => t.kv ++ [opKV bar] ++ rest.kv
end

/-- the tokens of a rule without its doc comments -/
def CRule.headKV (r : CRule) : List KV :=
  [(.identifier, r.name), (.assignOp, [61])] ++ modKV r.mod ++ [(.lbrace, [123])] ++ barKV r.bar ++
    r.body.kv ++ [(.rbrace, [125])]

def CRule.kv (r : CRule) : List KV := (r.docs.map (docKV .ruleDoc sRDOC)).flatten ++ r.headKV

def CGrammar.kv (g : CGrammar) : List KV :=
  (g.gdocs.map (docKV .grammarDoc sGDOC)).flatten ++ (g.rules.map CRule.kv).flatten ++
    (g.trailing.map (docKV .ruleDoc sRDOC)).flatten

/-! ### abstraction: what the grammar parser checks and computes -/

/-- `parse_number` on a NUMBER lexeme: defined iff it has at most ten significant digits and the
    value fits u32 -/
def absNum (w : Text) : Option Nat :=
  if (stripZeros w).length > 10 then none
  else match pyInt (stripZeros w) with
    | some (some v) => if v > MAX_REPEAT then none else some v.toNat
    | _ => none

/-- `parse_int` on an INTEGER lexeme: defined iff `int()` accepts the sign and the significant
    digits -/
def absInt (w : Text) : Option Int :=
  match pyInt (intLiteral w) with
  | some (some v) => some v
  | _ => none

/-- the end of a range: the CHAR lexeme without its quotes decodes to one code point -/
def absChar (w : Text) : Option Nat :=
  match Unescape.unescape (stripQuotes w) with
  | .ok [a] => some a
  | _ => none

def CPost.abs : CPost → Option Post
  | .opt => some .opt
  | .rep => some .rep
  | .rep1 => some .rep1
  | .braces [some a] => (absNum a).map .exact
  | .braces [some a, none] => (absNum a).map .min
  | .braces [none, some a] => (absNum a).map .max
  | .braces [some a, none, some b] =>
    match absNum a, absNum b with
    | some m, some n => some (.minmax m n)
    | _, _ => none
  | .braces _ => none

def absPosts : List CPost → Option (List Post)
  | [] => some []
  | p :: ps =>
    match p.abs, absPosts ps with
    | some p', some ps' => some (p' :: ps')
    | _, _ => none

def absOptInt : Option Text → Option (Option Int)
  | none => some none
  | some w => (absInt w).map some

mutual
def CNode.abs : CNode → Option SNode
  | .str s => some (.str s)
  | .ci s => some (.ci s)
  | .range a b =>
    match absChar a, absChar b with
    | some x, some y => if x > y then none else some (.range x y)
    | _, _ => none
  | .ident name => some (.ident name)
  | .pushLit (some s) => some (.pushLit s)
  | .pushLit none => none
  | .push bar e =>
    match e.abs with
    | some e' => some (.push bar e')
    | none => none
  | .slice a b =>
    match absOptInt a, absOptInt b with
    | some x, some y => some (.slice x y)
    | _, _ => none
  | .paren bar e =>
    match e.abs with
    | some e' => some (.paren bar e')
    | none => none
def CTerm.abs : CTerm → Option STerm
  | .mk tag pre node post =>
    match node.abs, absPosts post with
    | some n, some p => some (.mk tag pre n p)
    | _, _ => none
def CExpr.abs : CExpr → Option SExpr
  | .one t =>
    match t.abs with
    | some t' => some (.one t')
    | none => none
  | .cons t bar rest =>
    match t.abs, rest.abs with
    | some t', some r' => some (.cons t' bar r')
    | _, _ => none
end

def CRule.abs (r : CRule) : Option SRule :=
  match r.body.abs with
  | some e => some ⟨r.docs, r.name, r.mod, r.bar, e⟩
  | none => none

def absRules : List CRule → Option (List SRule)
  | [] => some []
  | r :: rs =>
    match r.abs, absRules rs with
    | some r', some rs' => some (r' :: rs')
    | _, _ => none

def CGrammar.abs (g : CGrammar) : Option SGrammar :=
  match absRules g.rules with
  | some rs => some ⟨g.gdocs, rs, g.trailing⟩
  | none => none

/-! ### what the scanner guarantees about the lexemes -/

/-- the shape of an INTEGER lexeme: `[0-9]+|-0*[1-9][0-9]*` -/
def IsIntTok (w : Text) : Prop :=
  IsDigits w ∨ ∃ zs d ds, w = 45 :: (zs ++ d :: ds) ∧ (∀ z ∈ zs, z = 48) ∧ 49 ≤ d ∧ d ≤ 57 ∧
    ∀ c ∈ ds, isDigit c = true

def CPost.Valid : CPost → Prop
  | .braces items => ∀ w, some w ∈ items → IsDigits w
  | _ => True

mutual
def CNode.Valid : CNode → Prop
  | .range a b => IsCharLit a ∧ IsCharLit b
  | .ident name => IsIdent name
  | .push _ e => e.Valid
  | .paren _ e => e.Valid
  | .slice a b => (∀ w, a = some w → IsIntTok w) ∧ (∀ w, b = some w → IsIntTok w)
  | _ => True
def CTerm.Valid : CTerm → Prop
  | .mk tag _ node post =>
    (match tag with | some t => IsTagName t | none => True) ∧ node.Valid ∧ ∀ p ∈ post, p.Valid
def CExpr.Valid : CExpr → Prop
  | .one t => t.Valid
  | .cons t _ rest => t.Valid ∧ rest.Valid
end

def CRule.Valid (r : CRule) : Prop :=
  (∀ l ∈ r.docs, NoLF l) ∧ IsIdent r.name ∧
    (match r.mod with | some c => c = 95 ∨ c = 64 ∨ c = 36 ∨ c = 33 | none => True) ∧ r.body.Valid

def CGrammar.Valid (g : CGrammar) : Prop :=
  (∀ l ∈ g.gdocs, NoLF l) ∧ (∀ r ∈ g.rules, r.Valid) ∧ (∀ l ∈ g.trailing, NoLF l)

/-! ### the layout of a C-tree: as `GrammarText'`, with the lexemes verbatim -/

/-- how an emitted token (kind, value) is spelled: strings by any body that denotes the value,
    everything else verbatim -/
def SpellsA : KV → Text → Prop
  | (.string, s), w => ∃ body, w = 34 :: (body ++ [34]) ∧ StrBody body s
  | (.stringCI, s), w =>
    ∃ ws body, IsTrivia ws ∧ w = 94 :: (ws ++ 34 :: (body ++ [34])) ∧ StrBody body s
  | (_, v), w => w = v

/-- `t` is the tokens `kvs` as spelled (`SpellsA`), each followed by some trivia, and then `tl` -/
inductive ScA : List KV → Text → Text → Prop
  | nil (tl : Text) : ScA [] tl tl
  | cons (kv : KV) {kvs : List KV} {w ws t tl : Text} : SpellsA kv w → IsTrivia ws → ScA kvs t tl →
      ScA (kv :: kvs) (w ++ (ws ++ t)) tl

def CRulesText : List CRule → Text → Text → Prop
  | [], t, tl => t = tl
  | r :: rs, t, tl => ∃ t1 t2, DocsText' sRDOC r.docs t t1 ∧ ScA r.headKV t1 t2 ∧ CRulesText rs t2 tl

def CGrammarText (g : CGrammar) (t : Text) : Prop :=
  ∃ lead t0 t1 t2 e, IsTrivia lead ∧ t = lead ++ t0 ∧ DocsText' sGDOC g.gdocs t0 t1 ∧
    CRulesText g.rules t1 t2 ∧ DocsText' sRDOC g.trailing t2 e ∧ EndC e

end Front
end Pest
