/-
  Lemmas/OptSoundSim.lean — the simulation theorems for `TR`.

  `GR F G G'`: the rule tables `G` and `G'` define the same names with the same modifiers and
  every body of `G'` is a `TR`-rewrite of the corresponding body of `G`.
  `fwd`: whatever `G` answers for `e`, `G'` answers for `e'` (`TR a e e'`);  `rev`: the converse.
  Both go by `TR.sim_induct`: the congruence steps of `TR` are one case, a `CongA` step that
  `cong_sim` (OptSoundBase) answers; the four rewrites proper are argued in each direction.
  The two "terminal matcher" rewrites enter through their semantic statements `SquashSem`,
  `SkipSem` (proved in OptSoundSquash / OptSoundSkip), needed only when `F` switches them on.

  Rests on OptSoundTR and knows nothing of the passes (OptSoundPass, its sibling); OptSoundRun
  joins the two and threads `EquivG`, the conclusion of `fwd` and `rev` together, through the
  pass list.
-/
import PestModel.Lemmas.OptSoundTR

namespace Pest
namespace OptS

open L0

variable (inp : Input)

theorem ruleApply_same {rec : Sem0} (hap : AP rec) {n : String} {m : Nat} (hs : hasBit m SILENT = true)
    (b : Expr) (s : S0) (ha : ruleAtomic n m s.atomic = s.atomic) : ruleApply rec n m b s = rec b s := by
  rw [ruleApply_silent rec hs, ha, S0.eta_of rfl]
  cases h : rec b s with
  | ok s' ps => rw [reflag, ← hap _ _ _ _ h]
  | _ => rfl

theorem Tgt.group_elim {G : Grammar} {x : Expr} {t : Option String} {s : S0} {r : R0}
    (h : Tgt inp G (.group x t) s r) : Tgt inp G x s r := by
  obtain ⟨N, hN⟩ := h
  exact ⟨N, fun n hn => hN (n + 1) (by omega)⟩

theorem Tgt.group_intro {G : Grammar} {x : Expr} {t : Option String} {s : S0} {r : R0}
    (h : Tgt inp G x s r) : Tgt inp G (.group x t) s r := by
  apply Tgt.of_step
  exact h

theorem Tgt.rule_same {G : Grammar} {n : String} {m : Nat} {sm : Bool} {b : Expr} {s : S0} {r : R0}
    (hs : hasBit m SILENT = true) (ha : ruleAtomic n m s.atomic = s.atomic)
    (h : Tgt inp G b s r) : Tgt inp G (.rule n m sm b) s r := by
  apply Tgt.of_step
  refine h.mono fun k hk => ?_
  show ruleApply (run G inp k) n m b s = r
  rw [ruleApply_same (run_AP G inp k) hs b s ha, hk]

theorem Tgt.ident_same {G : Grammar} {n : String} {t : Option String} {rl : Rule} {s : S0} {r : R0}
    (hl : G.lookup n = some rl) (hs : hasBit rl.mod SILENT = true)
    (ha : ruleAtomic rl.name rl.mod s.atomic = s.atomic)
    (h : Tgt inp G rl.body s r) : Tgt inp G (.ident n t) s r := by
  apply Tgt.of_step
  refine h.mono fun k hk => ?_
  show callRule G (run G inp k) n s = r
  unfold callRule
  rw [hl]
  simp only []
  rw [ruleApply_same (run_AP G inp k) hs _ s ha, hk]

/-- what `OptimizedChoice.parse` answers -/
def optRes (G : Grammar) (alts : List Alt) (s : S0) : R0 :=
  match L1.optMatchOnce G inp alts s.pos with
  | some p => .ok { s with pos := p } []
  | none => .fail

theorem optRes_ne_oof (G : Grammar) (alts : List Alt) (s : S0) : optRes inp G alts s ≠ .oof := by
  unfold optRes; split <;> simp

theorem optChoice_leaf (G : Grammar) {alts : List Alt} (hne : alts ≠ []) (s : S0) :
    (leafAct G inp (.optChoice alts false) s.pos s.stk).run0 s = optRes inp G alts s := by
  have : alts.isEmpty = false := by cases alts <;> simp_all
  dsimp only [leafAct, L1.optMatch, optRes]
  rw [this]
  cases L1.optMatchOnce G inp alts s.pos <;> rfl

theorem optChoice_run (G : Grammar) {alts : List Alt} (hne : alts ≠ []) (n : Nat) (s : S0) :
    run G inp (n + 1) (.optChoice alts false) s = optRes inp G alts s :=
  (step_leaf rfl n _ s).trans (optChoice_leaf inp G hne s)

def SquashSem : Prop :=
  ∀ (G G' : Grammar) (inp : Input) (es' : List Expr) (alts : List Alt) (s : S0),
    G'.usets = G.usets → SqPat G es' alts → Conv G' inp (.choice es') s (optRes inp G' alts s)

def SkipSem (G : Grammar) : Prop :=
  ∀ (inp : Input) (a : Bool) (e : Expr) (subs : List Str) (s : S0), SkipPat G a e subs → s.atomic = a →
    s.pos ≤ inp.size → Conv G inp e s (.ok { s with pos := L1.skipUntilPos inp subs s.pos } [])

def GR (F : Feat) (G G' : Grammar) : Prop :=
  G'.usets = G.usets ∧
  ∀ name, match G.lookup name, G'.lookup name with
    | none, none => True
    | some r, some r' => r'.name = r.name ∧ r'.mod = r.mod ∧
        ∀ b, TR F G (ruleAtomic r.name r.mod b) r.body r'.body
    | _, _ => False

variable {F : Feat} {G G' : Grammar}

theorem GR.relA (h : GR F G G') {Q : Bool → Expr → Expr → Prop} (f : ∀ a e e', TR F G a e e' → Q a e e')
    (a : Bool) (name : String) : RuleRelA Q a (G.lookup name) (G'.lookup name) := by
  have := h.2 name
  revert this
  cases G.lookup name with
  | none => cases G'.lookup name with
    | none => exact id
    | some _ => exact id
  | some r => cases G'.lookup name with
    | none => exact id
    | some r' => exact fun this => ⟨this.1.symm, this.2.1.symm, f _ _ _ (this.2.2 a)⟩

theorem GR.skipRel (h : GR F G G') {Q : Bool → Expr → Expr → Prop} (f : ∀ a e e', TR F G a e e' → Q a e e') :
    SkipRel G G' Q :=
  ⟨fusedSkip_relA (h.relA f _ _), h.relA f _ _, h.relA f _ _⟩

/-- `TR` as the two simulations read it.  All steps but the four rewrites proper relate a node to one
    of the same kind, or a bounded repetition to its unrolling (one list to `seqView`), child by
    child: for any `Q` that contains `TR` and relates the rule tables that is a `CongA` step.  In
    `unroll1g` the first child matches only up to a `group` node, which `hgrp` takes off. -/
theorem TR.sim_induct {Q P : Bool → Expr → Expr → Prop}
    (hQ : ∀ a e e', TR F G a e e' → Q a e e') (hid : ∀ a n, RuleRelA Q a (G.lookup n) (G'.lookup n))
    (hgrp : ∀ {a e x'}, TR F G a e (.group x' none) → P a e (.group x' none) → Q a e x')
    (cong : ∀ {a e e'}, CongA G G' Q a e e' → P a e e')
    (inlB : ∀ {a n m sm b b'}, plainSilent m → L1.isTriviaName n = false → TR F G a b b' → P a b b' →
      P a (.rule n m sm b) b')
    (inlS : ∀ {a n r b'}, G.lookup n = some r → hasBit r.mod SILENT = true → ruleAtomic r.name r.mod a = a →
      TR F G a r.body b' → P a r.body b' → P a (.ident n none) b')
    (squash : ∀ {a es es' alts}, F.squash = true → es.length = es'.length →
      (∀ i (h1 : i < es.length) (h2 : i < es'.length), TR F G a es[i] es'[i]) → SqPat G es' alts →
      P a (.choice es) (.optChoice alts false))
    (skip : ∀ {a e subs}, F.skip = true → SkipPat G a e subs → P a e (.skipUntil subs))
    {a : Bool} {e e' : Expr} (h : TR F G a e e') : P a e e' := by
  induction h with
  | term ht => exact cong (.leaf (isTerm_eq_isLeaf ▸ ht))
  | @ident nm t => exact cong (.ident (hid _ nm))
  | rule => exact cong (.rule (hQ _ _ _ (TR.refl F G _ _)))
  | ruleC hra h1 _ => exact cong (.rule (by rw [hra]; exact hQ _ _ _ h1))
  | seq hl hh _ => exact cong (.seqlike rfl rfl (ListRel2.of_index _ _ hl fun i h1 h2 => hQ _ _ _ (hh i h1 h2)))
  | choice hl hh _ => exact cong (.choice (ListRel2.of_index _ _ hl fun i h1 h2 => hQ _ _ _ (hh i h1 h2)))
  | opt h1 _ => exact cong (.opt (hQ _ _ _ h1))
  | rep h1 _ => exact cong (.rep (hQ _ _ _ h1))
  | rep1 h1 _ => exact cong (.seqlike rfl rfl (.cons (hQ _ _ _ h1) (.cons (hQ _ _ _ (.rep h1)) .nil)))
  | repExact h1 _ => exact cong (.seqlike rfl rfl (ListRel2.replicate (hQ _ _ _ h1) _))
  | repMin h1 _ =>
    exact cong (.seqlike rfl rfl ((ListRel2.replicate (hQ _ _ _ h1) _).append (.cons (hQ _ _ _ (.rep h1)) .nil)))
  | repMax h1 _ => exact cong (.seqlike rfl rfl (ListRel2.replicate (hQ _ _ _ (.opt h1)) _))
  | repMinMax h1 _ =>
    exact cong (.seqlike rfl rfl
      ((ListRel2.replicate (hQ _ _ _ h1) _).append (ListRel2.replicate (hQ _ _ _ (.opt h1)) _)))
  | andP h1 _ => exact cong (.andP (hQ _ _ _ h1))
  | notP h1 _ => exact cong (.notP (hQ _ _ _ h1))
  | group h1 _ => exact cong (.group (hQ _ _ _ h1))
  | push h1 _ => exact cong (.push (hQ _ _ _ h1))
  | unroll1 h1 _ => exact cong (.seqlike rfl rfl (.cons (hQ _ _ _ h1) (.cons (hQ _ _ _ (.rep h1)) .nil)))
  | unroll1g h1 ih1 => exact cong (.seqlike rfl rfl (.cons (hgrp h1 ih1) (.cons (hQ _ _ _ (.rep h1)) .nil)))
  | unrollExact h1 _ => exact cong (.seqlike rfl rfl (ListRel2.replicate (hQ _ _ _ h1) _))
  | unrollMin h1 _ =>
    exact cong (.seqlike rfl rfl ((ListRel2.replicate (hQ _ _ _ h1) _).append (.cons (hQ _ _ _ (.rep h1)) .nil)))
  | unrollMax h1 _ => exact cong (.seqlike rfl rfl (ListRel2.replicate (hQ _ _ _ (.opt h1)) _))
  | unrollMinMax h1 _ =>
    exact cong (.seqlike rfl rfl
      ((ListRel2.replicate (hQ _ _ _ h1) _).append (ListRel2.replicate (hQ _ _ _ (.opt h1)) _)))
  | inlB hm hn h1 ih1 => exact inlB hm hn h1 ih1
  | inlS hl hs hra h1 ih1 => exact inlS hl hs hra h1 ih1
  | squash hF hl hh hpat _ => exact squash hF hl hh hpat
  | skip hF hpat => exact skip hF hpat

theorem fwd (hgr : GR F G G') (hsq : F.squash = true → SquashSem) (hsk : F.skip = true → SkipSem G) :
    ∀ n a e e', TR F G a e e' → SimAt inp G' (run G inp n) a e e' := by
  intro n
  induction n with
  | zero => intro a e e' _ s _ _ hne; exact absurd rfl hne
  | succ n ih =>
    have hap := run_AP G inp n
    have hskip : SkipSim G inp G' (run G inp n) n := skip_simO G inp G' n (hgr.skipRel ih)
    have hc : ∀ {a e e'}, CongA G G' (SimAt inp G' (run G inp n)) a e e' →
        SimAt inp G' (run G inp (n + 1)) a e e' :=
      fun h s ha hp hne => cong_sim G inp G' n hskip hgr.1 h s ha hp hne
    refine fun _ _ _ => TR.sim_induct (G' := G') (Q := SimAt inp G' (run G inp n))
      (P := SimAt inp G' (run G inp (n + 1))) ih (hgr.relA ih) ?_ hc ?_ ?_ ?_ ?_
    · exact fun h1 _ s ha hp hne => Tgt.group_elim inp (ih _ _ _ h1 s ha hp hne)
    · intro a nm m sm b b' hm hn h1 _ s ha hp hne
      have e1 : run G inp (n + 1) (.rule nm m sm b) s = run G inp n b s := by
        show ruleApply (run G inp n) nm m b s = _
        exact ruleApply_same hap hm.1 b s (ruleAtomic_id hm.2 hn _)
      rw [e1] at hne ⊢
      exact ih _ _ _ h1 s ha hp hne
    · intro a nm r b' hl hs hra h1 _ s ha hp hne
      have e1 : run G inp (n + 1) (.ident nm none) s = run G inp n r.body s := by
        show callRule G (run G inp n) nm s = _
        unfold callRule
        rw [hl]
        simp only []
        exact ruleApply_same hap hs _ s (by rw [ha]; exact hra)
      rw [e1] at hne ⊢
      exact ih _ _ _ h1 s ha hp hne
    · intro a es es' alts hF hl hh hpat s ha hp hne
      have t1 := hc (.choice (ListRel2.of_index _ _ hl fun i h1 h2 => ih _ _ _ (hh i h1 h2))) s ha hp hne
      have c1 := Tgt.conv inp G' t1 hne
      have c2 := hsq hF G G' inp es' alts s hgr.1 hpat
      rw [Conv.det G' inp c1 c2]
      obtain ⟨k, _, hne', _, _⟩ := hpat
      exact Evt.shift ⟨0, fun m' _ => optChoice_run inp G' hne' m' s⟩
    · intro a e subs hF hpat s ha hp hne
      have c1 : Conv G inp e s (run G inp (n + 1) e s) := ⟨n + 1, rfl, hne⟩
      have c2 := hsk hF inp a e subs s hpat ha hp
      rw [Conv.det G inp c1 c2]
      exact Evt.shift ⟨0, fun _ _ => rfl⟩

mutual
/-- the shapes `squash` accepts (a little more: any embedded rule node over such a shape) -/
def SqT : Expr → Prop
  | .str _ | .ci _ | .range _ _ | .optChoice _ _ | .uprop _ => True
  | .rule _ _ _ b => SqT b
  | .choice es => SqTL es
  | _ => False
def SqTL : List Expr → Prop
  | [] => True
  | e :: es => SqT e ∧ SqTL es
end

theorem SqTL.index : ∀ {es : List Expr}, SqTL es → ∀ i (h : i < es.length), SqT es[i]
  | [], _, i, h => by simp at h
  | e :: es, hh, i, h => by
    cases i with
    | zero => exact hh.1
    | succ i => simpa using SqTL.index hh.2 i (by simpa using h)

theorem SqTL.append : ∀ {es es' : List Expr}, SqTL es → SqTL es' → SqTL (es ++ es')
  | [], _, _, h => h
  | _ :: _, _, h1, h2 => ⟨h1.1, SqTL.append h1.2 h2⟩

theorem Sq.sqTL {es : List Expr} {new : List Alt} (h : Sq es new) : SqTL es := by
  induction h with
  | nil => trivial
  | str _ ih | ci _ ih | range _ ih | uprop _ ih | optChoice _ ih => exact ⟨trivial, ih⟩
  | choice _ _ ih1 ih | ruleChoice _ _ ih1 ih => exact ⟨ih1, ih⟩

theorem term_conv (G : Grammar) (e : Expr) (s : S0) (ht : isTerm e = true) : ∃ r, Conv G inp e s r :=
  ⟨_, 1, rfl, step_leaf_ne_oof (isTerm_isLeaf ht) 0 _ s⟩

theorem rule_total (G : Grammar) {n : String} {m : Nat} {sm : Bool} {b : Expr} {s : S0} {r : R0}
    (h : Conv G inp b { s with atomic := ruleAtomic n m s.atomic } r) :
    ∃ r', Conv G inp (.rule n m sm b) s r' :=
  ⟨_, conv_rule.2 (ruleC_iff.2 ⟨r, h, rfl⟩)⟩

theorem choiceC_total (G : Grammar) (s : S0) : ∀ (es : List Expr),
    (∀ e ∈ es, ∃ r, Conv G inp e s r) → ∃ r, ChoiceC G inp es s r
  | [], _ => ⟨.fail, choiceC_nil.2 rfl⟩
  | e :: rest, h => by
    obtain ⟨r1, h1⟩ := h e List.mem_cons_self
    obtain ⟨r2, h2⟩ := choiceC_total G s rest fun x hx => h x (List.mem_cons_of_mem _ hx)
    cases r1 with
    | fail => exact ⟨r2, choiceC_cons.2 ⟨_, h1, h2⟩⟩
    | oof => exact absurd rfl h1.ne
    | ok s' ps => exact ⟨_, choiceC_cons.2 ⟨_, h1, rfl⟩⟩
    | stuck => exact ⟨_, choiceC_cons.2 ⟨_, h1, rfl⟩⟩

theorem choice_total (G : Grammar) (s : S0) (es : List Expr)
    (h : ∀ i (h : i < es.length), ∃ r, Conv G inp es[i] s r) : ∃ r, Conv G inp (.choice es) s r := by
  obtain ⟨r, hr⟩ := choiceC_total inp G s es fun e he => by
    obtain ⟨i, hi, rfl⟩ := List.getElem_of_mem he
    exact h i hi
  exact ⟨r, conv_choice.2 hr⟩

/-- the trees `squash` accepts terminate (they contain no references) -/
theorem sqT_conv (G : Grammar) : ∀ (e : Expr), SqT e → ∀ s : S0, ∃ r, Conv G inp e s r := by
  intro e
  induction e using Expr.children_ind with
  | _ e ih =>
    intro h s
    cases e with
    | str _ | ci _ | range _ _ | optChoice _ _ | uprop _ => exact term_conv inp G _ s rfl
    | rule n m sm b =>
      obtain ⟨r, hr⟩ := ih b (List.mem_singleton.2 rfl) h { s with atomic := ruleAtomic n m s.atomic }
      exact rule_total inp G hr
    | choice es =>
      exact choice_total inp G s es fun i hi => ih _ (List.getElem_mem hi) (SqTL.index h i hi) s
    | _ => exact h.elim

theorem sqTL_conv (G : Grammar) : ∀ (es : List Expr), SqTL es → ∀ (s : S0) (i : Nat) (h : i < es.length),
    ∃ r, Conv G inp es[i] s r :=
  fun es hh s i h => sqT_conv inp G es[i] (SqTL.index hh i h) s

theorem sq_term {a : Bool} {e e' : Expr} (h : TR F G a e e') :
    SqT e' → ∀ s : S0, s.atomic = a → ∃ r, Conv G inp e s r := by
  induction h with
  | term ht => intro _ s _; exact term_conv inp G _ s ht
  | @rule n m sm b =>
    intro hs s ha
    exact sqT_conv inp G _ hs s
  | @ruleC n m sm b b' hra h1 ih =>
    intro hs s ha
    obtain ⟨r, hr⟩ := ih hs { s with atomic := ruleAtomic n m s.atomic } (by show ruleAtomic n m s.atomic = _; rw [ha, hra])
    exact rule_total inp G hr
  | @choice es es' hl hh ih =>
    intro hs s ha
    exact choice_total inp G s es fun i hi => ih i hi (by omega) (SqTL.index hs i (by omega)) s ha
  | @inlB n m sm b b' hm hn h1 ih =>
    intro hs s ha
    obtain ⟨r, hr⟩ := ih hs s ha
    exact ⟨r, Tgt.conv inp G (Tgt.rule_same inp hm.1 (ruleAtomic_id hm.2 hn _) (Tgt.of_conv inp G hr)) hr.ne⟩
  | @inlS n r b' hl hsil hra h1 ih =>
    intro hs s ha
    obtain ⟨r', hr⟩ := ih hs s ha
    exact ⟨r', Tgt.conv inp G (Tgt.ident_same inp hl hsil (by rw [ha]; exact hra) (Tgt.of_conv inp G hr)) hr.ne⟩
  | @squash es es' alts hF hl hh hpat ih =>
    intro _ s ha
    obtain ⟨k, hk, _, _, _⟩ := hpat
    have hs := (squash_Sq hk).sqTL
    exact choice_total inp G s es fun i hi => ih i hi (by omega) (SqTL.index hs i (by omega)) s ha
  -- every other rewrite makes a node that `squash` does not accept
  | _ => intro h; exact absurd h id

theorem rev (hgr : GR F G G') (hsq : F.squash = true → SquashSem) (hsk : F.skip = true → SkipSem G) :
    ∀ n a e e', TR F G a e e' → SimAt inp G (run G' inp n) a e' e := by
  intro n
  induction n with
  | zero => intro a e e' _ s _ _ hne; exact absurd rfl hne
  | succ n ih =>
    have hskip : SkipSim G' inp G (run G' inp n) n :=
      skip_simO G' inp G n (hgr.skipRel ih).flip
    have hc : ∀ {a e e'}, CongA G' G (SimAt inp G (run G' inp n)) a e' e →
        SimAt inp G (run G' inp (n + 1)) a e' e :=
      fun h s ha hp hne => cong_sim G' inp G n hskip hgr.1.symm h s ha hp hne
    refine fun _ _ _ => TR.sim_induct (G' := G') (Q := fun a e e' => SimAt inp G (run G' inp n) a e' e)
      (P := fun a e e' => SimAt inp G (run G' inp (n + 1)) a e' e) ih (hgr.relA ih) ?_
      (fun h => hc h.flip) ?_ ?_ ?_ ?_
    -- `run (n+1) (group x') = run n x'`
    · exact fun _ ih1 => ih1
    · intro a nm m sm b b' hm hn _ ih1 s ha hp hne
      exact Tgt.rule_same inp hm.1 (ruleAtomic_id hm.2 hn _) (ih1 s ha hp hne)
    · intro a nm r b' hl hs hra _ ih1 s ha hp hne
      exact Tgt.ident_same inp hl hs (by rw [ha]; exact hra) (ih1 s ha hp hne)
    · intro a es es' alts hF hl hh hpat s ha hp hne
      have hpat' := hpat
      obtain ⟨k, hk, hne', _, _⟩ := hpat'
      rw [optChoice_run inp G' hne' n s]
      -- the source terminates …
      obtain ⟨r, hr⟩ := choice_total inp G s es fun i hi =>
        sq_term inp (hh i hi (by omega)) (SqTL.index (squash_Sq hk).sqTL i (by omega)) s ha
      -- … so the forward simulation applies, and the target is deterministic
      obtain ⟨n1, hn1, hr1⟩ := hr
      have t := fwd inp hgr hsq hsk n1 a _ _ (TR.squash hF hl hh hpat) s ha hp (by rw [hn1]; exact hr1)
      rw [hn1] at t
      have c1 := Tgt.conv inp G' t hr1
      have c2 : Conv G' inp (.optChoice alts false) s (optRes inp G' alts s) :=
        ⟨1, optChoice_run inp G' hne' 0 s, optRes_ne_oof inp G' alts s⟩
      rw [← Conv.det G' inp c1 c2]
      exact Tgt.of_run inp G hn1 hr1
    · intro a e subs hF hpat s ha hp hne
      exact Tgt.of_conv inp G (hsk hF inp a e subs s hpat ha hp)

def EquivG (G G' : Grammar) : Prop :=
  ∀ (inp : Input) (e : Expr) (s : S0) (r : R0), s.pos ≤ inp.size → (Conv G inp e s r ↔ Conv G' inp e s r)

theorem EquivG.refl (G : Grammar) : EquivG G G := fun _ _ _ _ _ => Iff.rfl
theorem EquivG.symm {G G' : Grammar} (h : EquivG G G') : EquivG G' G :=
  fun i e s r hp => (h i e s r hp).symm
theorem EquivG.trans {G G' G'' : Grammar} (h : EquivG G G') (h' : EquivG G' G'') : EquivG G G'' :=
  fun i e s r hp => (h i e s r hp).trans (h' i e s r hp)

theorem equivG_of_GR (hgr : GR F G G') (hsq : F.squash = true → SquashSem) (hsk : F.skip = true → SkipSem G) :
    EquivG G G' := by
  intro inp e s r hp
  constructor
  · rintro ⟨n, hn, hr⟩
    have := fwd inp hgr hsq hsk n s.atomic e e (TR.refl F G e _) s rfl hp (by rw [hn]; exact hr)
    rw [hn] at this
    exact Tgt.conv inp G' this hr
  · rintro ⟨n, hn, hr⟩
    have := rev inp hgr hsq hsk n s.atomic e e (TR.refl F G e _) s rfl hp (by rw [hn]; exact hr)
    rw [hn] at this
    exact Tgt.conv inp G this hr

end OptS
end Pest
