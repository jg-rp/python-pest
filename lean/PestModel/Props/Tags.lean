/-
  Props/Tags.lean — the pending-tag stack is part of a checkpoint.

  `ParserState.checkpoint()` saves a copy of `tag_stack` on `_tag_history`, `ok()` forgets the
  copy, `restore()` reinstates it.  A tag (`#t = e`) is consumed by the first non-silent rule
  that finishes under it; when that happens inside an attempt that is abandoned later — a
  choice alternative, an optional, a repetition item, a predicate, an implicit-trivia attempt —
  the pair that took the tag is thrown away, and the tag has to come back with the position and
  the stacks.  This file says that it does, for the interpreter model L1 and for the
  generated-code model LG.

  Every node, matched or not, with every fuel, from any start state, leaves `tagHist` as it was
  (balanced) and the pending tags a *suffix* of those pending at the start (`interp_tag_frame`,
  `gen_tag_frame`): a node only consumes from the top, whatever `with state.tag(t)` pushes it
  removes again, `Rule.parse` pops at most one tag per pair.  Headline
  (`choice_alternative_sees_same_tags`): every alternative of a choice is run from a checkpoint
  whose pending tags are those the choice started with, however many earlier alternatives
  consumed tags before failing; the `…_keeps_tags` theorems say the same of the other restoring
  nodes.
  What is *not* true (and not claimed): that a failing node leaves the tags as they were.  A
  sequence whose first element consumed the tag and whose second element fails returns
  `matched = False` with the tag gone; it is the enclosing restoring node that brings it back.
  On success, too, only "suffix" holds: `#t = x` pops `t` when `x` finishes, and
  `if self.tag_stack: self.tag_stack.pop()` at the end of `with state.tag(t)` then pops one
  more pending tag if there is one.
-/
import PestModel.Lemmas.TagHist

namespace Pest
namespace Tags

variable (g : Grammar) (inp : Input)

theorem checkpoint_saves_tags (c : PState) :
    c.checkpoint.tagStack = c.tagStack ∧ c.checkpoint.tagHist = c.tagStack :: c.tagHist :=
  ⟨rfl, rfl⟩

/-- **`restore` reinstates the tags of the checkpoint, `ok` keeps the current ones**, from any
    state `c1` whose tag history is that of `c.checkpoint` (which is the case after any run
    from `c.checkpoint`, by `interp_tag_frame`). -/
theorem restore_restores_tags {c c1 : PState} (h : c1.tagHist = c.tagStack :: c.tagHist) :
    (c1.restore.tagStack = c.tagStack ∧ c1.restore.tagHist = c.tagHist) ∧
    (c1.ok.tagHist = c.tagHist ∧ c1.ok.tagStack = c1.tagStack) :=
  ⟨restore_tags_of_hist h, (ok_tags_of_hist h).2, (ok_tags_of_hist h).1⟩

theorem restore_restores_tags' {c c1 : PState} (h : c1.tagHist = c.checkpoint.tagHist) :
    c1.restore.tagStack = c.tagStack ∧ c1.restore.tagHist = c.tagHist :=
  restore_tags_of_hist h

theorem checkpoint_restore_tags (c : PState) :
    c.checkpoint.restore.tagStack = c.tagStack ∧ c.checkpoint.restore.tagHist = c.tagHist :=
  restore_tags_of_hist rfl

/-- `fail()` touches neither field -/
theorem fail_keeps_tags {c c' : PState} {rn : Option String} {force : Bool} {pa : Option Nat}
    (h : c.fail rn force pa = some c') : c'.tagStack = c.tagStack ∧ c'.tagHist = c.tagHist :=
  fail_tags h

/-- **Tag frame, interpreter model.**  Every run of every expression from every state, whether
    it matched or not: the tag history is balanced, the pending tags are a suffix of those
    pending at the start.  No hypothesis on the grammar or the state. -/
theorem interp_tag_frame (n : Nat) (e : Expr) (c c' : PState) (m : Bool) (ps : List Pair)
    (h : L1.run g inp n e c = .done m c' ps) :
    c'.tagHist = c.tagHist ∧ c'.tagStack <:+ c.tagStack :=
  let f := L1.run_tf g inp n e c m c' ps h
  ⟨f.hist, f.suf⟩

/-- **Tag frame, generated-code model.**  Proved directly on LG (not through C01), so it needs
    neither `SkipTotal` nor well-formed stacks. -/
theorem gen_tag_frame (n : Nat) (e : Expr) (c c' : PState) (ps0 : List Pair) (m : Bool)
    (ps : List Pair) (h : LG.run g inp n e c ps0 = .done m c' ps) :
    c'.tagHist = c.tagHist ∧ c'.tagStack <:+ c.tagStack :=
  let f := LG.run_tf g inp n e c ps0 m c' ps h
  ⟨f.hist, f.suf⟩

theorem interp_pending_subset (n : Nat) (e : Expr) (c c' : PState) (m : Bool) (ps : List Pair)
    (h : L1.run g inp n e c = .done m c' ps) : ∀ t ∈ c'.tagStack, t ∈ c.tagStack :=
  fun _ ht => (interp_tag_frame g inp n e c c' m ps h).2.subset ht

/-- `Parser.parse` starts with both fields empty and ends with both fields empty -/
theorem interp_parse_tags_empty (fuel : Nat) (start : String) (k : Nat) (c : PState) (m : Bool)
    (ps : List Pair) (h : L1.parse g inp fuel start k = .done m c ps) :
    c.tagStack = [] ∧ c.tagHist = [] := by
  have f : TagFrame (.init k) c :=
    (HKit.parse_post (tagKit_rules g) (tagKit_moves inp) fuel start k).of_done h
  exact ⟨List.suffix_nil.mp f.suf, f.hist⟩

theorem gen_parse_tags_empty (fuel : Nat) (start : String) (k : Nat) (c : PState) (m : Bool)
    (ps : List Pair) (h : LG.parse g inp fuel start k = .done m c ps) :
    c.tagStack = [] ∧ c.tagHist = [] := by
  have f : TagFrame (.init k) c :=
    (RKit.parseG_post (tagKit_rules g) (tagKit_moves inp) fuel start k).of_done h
  exact ⟨List.suffix_nil.mp f.suf, f.hist⟩

theorem choiceParse_append_of_fail (rec : Sem1) :
    ∀ (pre rest : List Expr) (c c1 : PState) (ps1 : List Pair),
      L1.choiceParse rec pre c = .done false c1 ps1 →
      L1.choiceParse rec (pre ++ rest) c = L1.choiceParse rec rest c1 := by
  intro pre
  induction pre with
  | nil =>
    intro rest c c1 ps1 h
    simp only [L1.choiceParse, R1.done.injEq, true_and] at h
    rw [h.1]; rfl
  | cons e pre ih =>
    intro rest c c1 ps1 h
    simp only [L1.choiceParse, List.cons_append] at h ⊢
    cases he : rec e c.checkpoint with
    | oof => rw [he] at h; cases h
    | exc k => rw [he] at h; cases h
    | done m c2 ps2 =>
      rw [he] at h
      cases m with
      | true => simp only [R1.done.injEq] at h; exact absurd h.1 (by decide)
      | false => exact ih rest c2.restore c1 ps1 h

/-- **Every alternative of a choice sees the tags the choice started with** (interpreter
    model).  If the alternatives `pre` of `pre ++ e :: post` have all failed from `c` — leaving
    `c1` —, then `c1` has the tag stack and tag history of `c`, whatever the failed
    alternatives consumed, and `Choice.parse` runs `e` next, from `c1.checkpoint`
    (`L1.choiceParse rec (e :: post) c1` is by definition
    `match rec e c1.checkpoint with | .done true c2 ps => .done true c2.ok ps | …`). -/
theorem choice_alternative_sees_same_tags (n : Nat) (pre : List Expr) (e : Expr) (post : List Expr)
    (c c1 : PState) (ps1 : List Pair)
    (h : L1.choiceParse (L1.run g inp n) pre c = .done false c1 ps1) :
    L1.choiceParse (L1.run g inp n) (pre ++ e :: post) c
        = L1.choiceParse (L1.run g inp n) (e :: post) c1 ∧
    c1.tagStack = c.tagStack ∧ c1.tagHist = c.tagHist ∧
    c1.checkpoint.tagStack = c.tagStack := by
  have t := L1.choiceParse_fail_tags (L1.run_tf g inp n) pre c c1 ps1 h
  exact ⟨choiceParse_append_of_fail _ pre (e :: post) c c1 ps1 h, t.stack, t.hist, t.stack⟩

/-- the same for the generated code's `<Choice>` template -/
theorem gen_choice_alternative_sees_same_tags (n : Nat) (pre : List Expr) (c c1 : PState)
    (ps0 ps1 : List Pair) (h : LG.choiceG (LG.run g inp n) pre c ps0 = .done false c1 ps1) :
    c1.tagStack = c.tagStack ∧ c1.tagHist = c.tagHist ∧ c1.checkpoint.tagStack = c.tagStack := by
  have t := LG.choiceG_fail_tags (LG.run_tf g inp n) pre c ps0 c1 ps1 h
  exact ⟨t.stack, t.hist, t.stack⟩

theorem choice_failure_keeps_tags (n : Nat) (es : List Expr) (c c' : PState) (ps : List Pair)
    (h : L1.run g inp (n + 1) (.choice es) c = .done false c' ps) :
    c'.tagStack = c.tagStack ∧ c'.tagHist = c.tagHist := by
  have t := L1.choiceParse_fail_tags (L1.run_tf g inp n) es c c' ps h
  exact ⟨t.stack, t.hist⟩

theorem opt_no_match_keeps_tags (n : Nat) (e : Expr) (c c1 : PState) (ps1 : List Pair)
    (h : L1.run g inp n e c.checkpoint = .done false c1 ps1) :
    L1.run g inp (n + 1) (.opt e) c = .done true c1.restore [] ∧
    c1.restore.tagStack = c.tagStack ∧ c1.restore.tagHist = c.tagHist := by
  have t := (L1.run_tf g inp n e _ _ _ _ h).restore_after
  refine ⟨?_, t.stack, t.hist⟩
  dsimp only [L1.run, L1.step]
  rw [h]

/-- the attempt that ends a repetition leaves the tags as they were before it -/
theorem rep_failed_item_keeps_tags (n k kk : Nat) (first : Bool) (e : Expr) (c c1 c2 : PState)
    (acc tps ps2 : List Pair) (m1 : Bool)
    (ht : (if first then R1.done true c.checkpoint []
           else L1.parseTrivia g (L1.run g inp n) kk c.checkpoint) = .done m1 c1 tps)
    (he : L1.run g inp n e c1 = .done false c2 ps2) :
    L1.repLoop g (L1.run g inp n) e (k + 1) kk first c acc = .done true c2.restore acc ∧
    c2.restore.tagStack = c.tagStack ∧ c2.restore.tagHist = c.tagHist := by
  have f1 : TagFrame c.checkpoint c1 := by
    by_cases hf : first = true
    · simp only [hf, ↓reduceIte, R1.done.injEq] at ht
      obtain ⟨_, rfl, _⟩ := ht
      exact .refl _
    · simp only [hf, Bool.false_eq_true, ↓reduceIte] at ht
      exact L1.parseTrivia_tf (L1.run_tf g inp n) kk _ _ _ _ ht
  have t := (f1.trans (L1.run_tf g inp n e _ _ _ _ he)).restore_after
  refine ⟨?_, t.stack, t.hist⟩
  simp only [L1.repLoop, ht, he]

theorem andP_keeps_tags (n : Nat) (e : Expr) (c c' : PState) (m : Bool) (ps : List Pair)
    (h : L1.run g inp (n + 1) (.andP e) c = .done m c' ps) :
    c'.tagStack = c.tagStack ∧ c'.tagHist = c.tagHist := by
  dsimp only [L1.run, L1.step] at h
  cases he : L1.run g inp n e c.checkpoint with
  | oof => rw [he] at h; cases h
  | exc k => rw [he] at h; cases h
  | done m1 c1 ps1 =>
    rw [he] at h
    simp only [R1.done.injEq] at h
    obtain ⟨_, rfl, _⟩ := h
    have t := (L1.run_tf g inp n e _ _ _ _ he).restore_after
    exact ⟨t.stack, t.hist⟩

theorem notP_keeps_tags (n : Nat) (e : Expr) (c c' : PState) (m : Bool) (ps : List Pair)
    (h : L1.run g inp (n + 1) (.notP e) c = .done m c' ps) :
    c'.tagStack = c.tagStack ∧ c'.tagHist = c.tagHist := by
  dsimp only [L1.run, L1.step] at h
  cases he : L1.run g inp n e { c.checkpoint with negDepth := c.checkpoint.negDepth + 1 } with
  | oof => rw [he] at h; cases h
  | exc k => rw [he] at h; cases h
  | done m1 c1 ps1 =>
    rw [he] at h
    have a' := L1.run_tf g inp n e _ _ _ _ he
    have a : TagFrame c.checkpoint c1 := ⟨a'.hist, a'.suf⟩
    have t := a.restore_after
    cases m1 with
    | false =>
      simp only [Bool.false_eq_true, ↓reduceIte, R1.done.injEq] at h
      obtain ⟨_, rfl, _⟩ := h
      exact ⟨t.stack, t.hist⟩
    | true =>
      simp only [↓reduceIte] at h
      cases hf : c1.restore.fail (L1.failedName e) true with
      | none => rw [hf] at h; cases h
      | some c3 =>
        rw [hf] at h
        simp only [R1.done.injEq] at h
        obtain ⟨_, rfl, _⟩ := h
        exact ⟨(fail_tags hf).1.trans t.stack, (fail_tags hf).2.trans t.hist⟩

/-- a failed attempt at a trivia rule inside `parse_trivia` leaves the tags as they were -/
theorem trivia_attempt_keeps_tags (n : Nat) (r : Option Rule) (c c1 : PState)
    (h : L1.tryTrivia (L1.run g inp n) r c = .no c1) :
    c1.tagStack = c.tagStack ∧ c1.tagHist = c.tagHist := by
  have t := L1.tryTrivia_no_tags (L1.run_tf g inp n) h
  exact ⟨t.stack, t.hist⟩

/-- `x = { "a" }   y = { "a" }   s = { #t1 = ((!x ~ ANY)* ~ y) }` -/
def demoG : Grammar :=
  { rules := [⟨"x", 0, .str [97], .grammar⟩,
              ⟨"y", 0, .str [97], .grammar⟩,
              ⟨"s", 0, .group (.seq [.rep (.seq [.notP (.ident "x" none), .rule "ANY" SILENT true .anyB]),
                                     .ident "y" none]) (some "t1"), .grammar⟩] }

/-- on "ba": the second `!x` matches `x` at 1, whose pair takes the pending tag `t1` and is then
    thrown away by the predicate's `restore`; the tag comes back with it, so the pair `y` that
    follows carries `t1` (it carries none before commit 48c96e3 of /repo, "fix: pending node tags
    were lost when the attempt that consumed them was abandoned") -/
example : (match L1.parse demoG #[98, 97] 14 "s" 0 with
    | .done true c [.mk "s" 0 0 2 [.mk "y" 0 1 2 [] (some "t1")] none] =>
      c.pos == 2 && c.tagStack.isEmpty && c.tagHist.isEmpty
    | _ => false) = true := by decide +kernel

-- the generated-code model does the same
example : (match LG.parse demoG #[98, 97] 14 "s" 0 with
    | .done true c [.mk "s" 0 0 2 [.mk "y" 0 1 2 [] (some "t1")] none] =>
      c.pos == 2 && c.tagStack.isEmpty && c.tagHist.isEmpty
    | _ => false) = true := by decide +kernel

/-- `x = { "a" }   y = { "a" }   s = { #t1 = ((x ~ "z") | y) }`: the headline on a choice -/
def demoC : Grammar :=
  { rules := [⟨"x", 0, .str [97], .grammar⟩,
              ⟨"y", 0, .str [97], .grammar⟩,
              ⟨"s", 0, .group (.choice [.seq [.ident "x" none, .str [122]], .ident "y" none]) (some "t1"),
                .grammar⟩] }

/-- on "a": the first alternative consumes `t1` (pair `x`) and then fails at `"z"`; the second
    alternative starts with `t1` pending again and its pair `y` carries it -/
example : (match L1.parse demoC #[97] 10 "s" 0 with
    | .done true _ [.mk "s" 0 0 1 [.mk "y" 0 0 1 [] (some "t1")] none] => true
    | _ => false) = true := by decide +kernel

example : (match LG.parse demoC #[97] 10 "s" 0 with
    | .done true _ [.mk "s" 0 0 1 [.mk "y" 0 0 1 [] (some "t1")] none] => true
    | _ => false) = true := by decide +kernel

/-- the hypothesis of `choice_alternative_sees_same_tags` is met with a first alternative that
    really consumed the tag: from a state with `t1` pending inside rule `s`, the alternatives
    `[x ~ "z"]` fail on "a" and leave `t1` pending -/
example : (match L1.choiceParse (L1.run demoC #[97] 8) [.seq [.ident "x" none, .str [122]]]
      { PState.init 0 with tagStack := ["t1"], rstack := (PState.init 0).rstack.push "s" } with
    | .done false c1 _ => c1.tagStack == ["t1"] && c1.tagHist.isEmpty
    | _ => false) = true := by decide +kernel

-- … whereas the sequence itself fails with the tag gone: a failing node does not restore
example : (match L1.run demoC #[97] 8 (.seq [.ident "x" none, .str [122]])
      { PState.init 0 with tagStack := ["t1"], rstack := (PState.init 0).rstack.push "s" } with
    | .done false c1 _ => c1.tagStack.isEmpty
    | _ => false) = true := by decide +kernel

end Tags
end Pest
