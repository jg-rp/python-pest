/-
  Props/C18.lean — property C18:
  "PrattParser honours declared precedence and associativity".

    For every table of prefix, infix (with associativity) and postfix operators and every
    well-formed stream of operand and operator pairs, PrattParser.parse_expr consumes the
    whole expression and builds the tree in which an operator of higher declared
    precedence binds tighter, equal-precedence infix operators group according to their
    declared associativity, and prefix and postfix operators bind according to their
    declared precedence.

  Model: `Pratt.lean` (`expr`/`loop` mirror `parse_expr` over `Stream.next/peek`;
  `parseExpr tbl ts = expr tbl (ts.length+1) ts 0`).  Specification: `WellFormedStream`,
  `Lex`, `Good` in the same file — binding powers, a local condition at every node, no
  reference to the algorithm.  Everything below is for *all* tables (arbitrary natural
  precedences, equal precedences across kinds allowed, names declared in several tables
  allowed) and *all* streams, of any length.  Only statements and short proofs from
  `Lemmas/Pratt.lean` live here.

  Reading of the corner the property text leaves open (equal precedence between operators
  of different kinds, or between a left- and a right-associative infix operator): of two
  adjacent operators with the same declared precedence, the *left* one decides — a
  left-associative infix operator keeps its right operand, a right-associative one and a
  prefix operator give it to the operator that follows.  This is what pest's own
  `PrattParser` does (`while rbp < lbp`, prefix recursing with `prec - 1`), what the
  binding powers say, and what `parse_expr` does for infix operators; the repair makes
  postfix operators follow the same rule.  `infix_pair` … `prefix_vs_infix` below spell
  the four two-operator cases out.
-/
import PestModel.Lemmas.Pratt

namespace Pest
namespace C18
open Pratt
variable {α : Type}

/-- **consumes the whole expression.**  On a well-formed stream `parse_expr` returns
    normally and leaves nothing in the stream. -/
theorem pratt_consumes_all (tbl : Table α) (ts : List α) (h : WellFormedStream tbl ts) :
    ∃ t, parseExpr tbl ts = .ok t [] := by
  obtain ⟨t, rest, h1, _, _, h4⟩ := expr_wf tbl (ts.length + 1) ts 0 h (Nat.lt_succ_self _)
  exact ⟨t, by rw [parseExpr, h1, h4 rfl]⟩

/-- **the tree is a tree of this stream.**  Whatever a call returns, the tokens of the tree
    followed by the unconsumed tokens are the tokens it was given, in order (any fuel, any
    `min_prec`, any stream). -/
theorem pratt_yield (tbl : Table α) (f : Nat) (ts : List α) (mp : Nat) (t : Tree α) (rest : List α)
    (h : expr tbl f ts mp = .ok t rest) : t.flatten ++ rest = ts :=
  (expr_post tbl f ts mp t rest h).yield

/-- every token of the returned tree is used in the role the tables give it -/
theorem pratt_lex (tbl : Table α) (f : Nat) (ts : List α) (mp : Nat) (t : Tree α) (rest : List α)
    (h : expr tbl f ts mp = .ok t rest) : Lex tbl t :=
  (expr_post tbl f ts mp t rest h).lex

/-- **precedence and associativity are honoured.**  Whatever a call returns satisfies
    `Good`: at every node the operator holds each operand against every operator exposed on
    the facing edge of that operand. -/
theorem pratt_good (tbl : Table α) (f : Nat) (ts : List α) (mp : Nat) (t : Tree α) (rest : List α)
    (h : expr tbl f ts mp = .ok t rest) : Good tbl t :=
  (expr_post tbl f ts mp t rest h).good

/-- every admissible tree is what `parse_expr` returns on its yield -/
theorem pratt_complete (tbl : Table α) (t : Tree α) (hl : Lex tbl t) (hg : Good tbl t) :
    parseExpr tbl t.flatten = .ok t [] :=
  expr_of_good tbl rfl hl hg fun _ _ => Nat.zero_le _

/-- the same with the stream given and the tree found for it -/
theorem parse_of_good (tbl : Table α) {ts : List α} (t : Tree α) (hy : t.flatten = ts)
    (hl : Lex tbl t) (hg : Good tbl t) : parseExpr tbl ts = .ok t [] :=
  hy ▸ pratt_complete tbl t hl hg

/-- **it is *the* tree.**  Two trees over the same tokens that both respect the declared
    precedences (and read the tokens in their roles) are equal. -/
theorem good_unique (tbl : Table α) (t₁ t₂ : Tree α)
    (hl₁ : Lex tbl t₁) (hl₂ : Lex tbl t₂) (hg₁ : Good tbl t₁) (hg₂ : Good tbl t₂)
    (hy : t₁.flatten = t₂.flatten) : t₁ = t₂ := by
  have h1 := pratt_complete tbl t₁ hl₁ hg₁
  have h2 := pratt_complete tbl t₂ hl₂ hg₂
  rw [hy, h2] at h1
  injection h1 with h _
  exact h.symm

/-- **C18.**  For every table and every well-formed stream, `parse_expr` consumes the whole
    stream and returns the one and only tree over these tokens that honours the declared
    precedences and associativities. -/
theorem pratt_spec (tbl : Table α) (ts : List α) (h : WellFormedStream tbl ts) :
    ∃ t, parseExpr tbl ts = .ok t [] ∧ t.flatten = ts ∧ Lex tbl t ∧ Good tbl t ∧
      ∀ t', Lex tbl t' → Good tbl t' → t'.flatten = ts → t' = t := by
  obtain ⟨t, ht⟩ := pratt_consumes_all tbl ts h
  have hp := expr_post tbl _ _ _ _ _ ht
  have hy : t.flatten = ts := by simpa using hp.yield
  exact ⟨t, ht, hy, hp.lex, hp.good,
    fun t' hl' hg' hy' => good_unique tbl t' t hl' hp.lex hg' hp.good (hy'.trans hy.symm)⟩

/-! ### the hypotheses and the model's fuel are what they should be -/

/-- `WellFormedStream` is exactly "the yield of some tree that reads its tokens in their
    roles", i.e. the grammar `expr := prim | pre expr | expr post | expr inf expr`. -/
theorem wf_iff_yield (tbl : Table α) (ts : List α) :
    WellFormedStream tbl ts ↔ ∃ t, Lex tbl t ∧ t.flatten = ts := by
  constructor
  · intro h
    obtain ⟨t, _, hy, hl, _⟩ := pratt_spec tbl ts h
    exact ⟨t, hl, hy⟩
  · rintro ⟨t, hl, rfl⟩
    have := wf_flatten t [] hl
    simpa [WellFormedStream, wf] using this

/-- `parse_expr` consumes a whole stream exactly when the stream is well formed -/
theorem pratt_accepts_iff (tbl : Table α) (ts : List α) :
    (∃ t, parseExpr tbl ts = .ok t []) ↔ WellFormedStream tbl ts := by
  constructor
  · rintro ⟨t, ht⟩
    have hp := expr_post tbl _ _ _ _ _ ht
    exact (wf_iff_yield tbl ts).mpr ⟨t, hp.lex, by simpa using hp.yield⟩
  · exact pratt_consumes_all tbl ts

/-- the fuel `ts.length + 1` is never exhausted: on *every* stream the model answers
    "returned (tree, rest)" or "SyntaxError", like the code -/
theorem pratt_total (tbl : Table α) (ts : List α) : parseExpr tbl ts ≠ .fuel :=
  expr_no_fuel tbl _ ts 0 (Nat.lt_succ_self _)

/-- the answer does not depend on the fuel (for any `min_prec` and rest: `expr_fuel_irrelevant`) -/
theorem pratt_fuel_irrelevant (tbl : Table α) (f : Nat) (ts : List α) (t : Tree α)
    (h : expr tbl f ts 0 = .ok t []) : parseExpr tbl ts = .ok t [] :=
  expr_fuel_irrelevant tbl h (Nat.lt_succ_self _)

/-! ### the executable reference (enumerate all trees over the tokens, keep the good ones) -/

theorem mem_reference (tbl : Table α) (ts : List α) (t : Tree α) :
    t ∈ reference tbl ts ↔ t.flatten = ts ∧ Lex tbl t ∧ Good tbl t := by
  simp only [reference, List.mem_filter, decide_eq_true_eq]
  constructor
  · rintro ⟨h1, h2⟩
    exact ⟨allTrees_sound _ _ _ h1, h2⟩
  · rintro ⟨rfl, h2⟩
    exact ⟨allTrees_complete _ t (Nat.le_refl _), h2⟩

/-- on a well-formed stream the reference finds exactly the tree `parse_expr` returns -/
theorem reference_eq (tbl : Table α) (ts : List α) (t : Tree α)
    (h : parseExpr tbl ts = .ok t []) : ∀ t', t' ∈ reference tbl ts ↔ t' = t := by
  have hp := expr_post tbl _ _ _ _ _ h
  have hy : t.flatten = ts := by simpa using hp.yield
  intro t'
  rw [mem_reference]
  constructor
  · rintro ⟨h1, h2, h3⟩
    exact good_unique tbl t' t h2 hp.lex h3 hp.good (h1.trans hy.symm)
  · rintro rfl
    exact ⟨hy, hp.lex, hp.good⟩

/-- … and on any other stream it finds nothing -/
theorem reference_ill_formed (tbl : Table α) (ts : List α) (h : ¬ WellFormedStream tbl ts) :
    reference tbl ts = [] := by
  apply List.eq_nil_iff_forall_not_mem.mpr
  intro t ht
  obtain ⟨h1, h2, _⟩ := (mem_reference tbl ts t).mp ht
  exact h ((wf_iff_yield tbl ts).mpr ⟨t, h2, h1⟩)

/-! ### what `Good` says, spelled out on the four two-operator shapes (all tables)

  These are consequences of completeness (`pratt_complete`, as `parse_of_good`); they are here so that the
  specification can be read against the property text without looking at binding powers. -/

/-- an infix operator of precedence `p` gives its right operand up to an operator of precedence `q`
    that follows, in terms of the facing powers (`infR_of`; `infL_of`, `postL_of`) -/
theorem gives_up_iff (p q : Nat) (ra : Bool) :
    (p < q ∨ (p = q ∧ ra = true)) ↔ 2 * (p + if ra = true then 0 else 1) ≤ 2 * q + 1 := by
  cases ra <;> simp <;> omega

/-- `a o₁ b o₂ c`: the higher precedence binds tighter; on equal precedence the
    associativity (of the left operator) decides. -/
theorem infix_pair (tbl : Table α) {a o₁ b o₂ c : α} {p₁ p₂ : Nat} {r₁ r₂ : Bool}
    (ha : tbl.pre a = none) (hb : tbl.pre b = none) (hc : tbl.pre c = none)
    (h₁' : tbl.post o₁ = none) (h₁ : tbl.inf o₁ = some (p₁, r₁))
    (h₂' : tbl.post o₂ = none) (h₂ : tbl.inf o₂ = some (p₂, r₂)) :
    parseExpr tbl [a, o₁, b, o₂, c] =
      .ok (if p₁ < p₂ ∨ (p₁ = p₂ ∧ r₁ = true)
           then .bin (.leaf a) o₁ (.bin (.leaf b) o₂ (.leaf c))
           else .bin (.bin (.leaf a) o₁ (.leaf b)) o₂ (.leaf c)) [] := by
  have key : (p₁ < p₂ ∨ (p₁ = p₂ ∧ r₁ = true)) ↔ tbl.infR o₁ ≤ tbl.infL o₂ := by
    rw [infR_of h₁, infL_of h₂]; exact gives_up_iff p₁ p₂ r₁
  have s₁ := Option.isSome_of_eq_some h₁
  have s₂ := Option.isSome_of_eq_some h₂
  by_cases hc' : p₁ < p₂ ∨ (p₁ = p₂ ∧ r₁ = true)
  · rw [if_pos hc']
    exact parse_of_good tbl _ rfl ⟨h₁', s₁, ha, h₂', s₂, hb, hc⟩
      ⟨trivial, ⟨trivial, trivial, nofun, nofun⟩, nofun, List.forall_mem_singleton.mpr (key.mp hc')⟩
  · rw [if_neg hc']
    exact parse_of_good tbl _ rfl ⟨h₂', s₂, ⟨h₁', s₁, ha, hb⟩, hc⟩
      ⟨⟨trivial, trivial, nofun, nofun⟩, trivial,
        List.forall_mem_singleton.mpr (Nat.lt_of_not_le (mt key.mpr hc')), nofun⟩

/-- `o x f` (prefix `o`, postfix `f`): the higher precedence is applied first; on equal
    precedence the postfix operator.  (The pinned `parse_expr` always applied `f` first.) -/
theorem prefix_vs_postfix (tbl : Table α) {o x f : α} {p q : Nat}
    (hx : tbl.pre x = none) (ho : tbl.pre o = some p) (hf : tbl.post f = some q) :
    parseExpr tbl [o, x, f] =
      .ok (if p ≤ q then .pre o (.post (.leaf x) f) else .post (.pre o (.leaf x)) f) [] := by
  have key : p ≤ q ↔ tbl.preR o ≤ tbl.postL f := by
    rw [preR_of ho, postL_of hf]; omega
  have so := Option.isSome_of_eq_some ho
  have sf := Option.isSome_of_eq_some hf
  by_cases hc' : p ≤ q
  · rw [if_pos hc']
    exact parse_of_good tbl _ rfl ⟨so, sf, hx⟩ ⟨⟨trivial, nofun⟩, List.forall_mem_singleton.mpr (key.mp hc')⟩
  · rw [if_neg hc']
    exact parse_of_good tbl _ rfl ⟨sf, so, hx⟩
      ⟨⟨trivial, nofun⟩, List.forall_mem_singleton.mpr (Nat.lt_of_not_le (mt key.mpr hc'))⟩

/-- `a o b f` (infix `o`, postfix `f`): `f` applies to `b` alone iff it binds tighter than
    `o` — higher precedence, or equal precedence and `o` right-associative.
    (The pinned `parse_expr` always applied `f` to `b` alone.) -/
theorem infix_vs_postfix (tbl : Table α) {a o b f : α} {p q : Nat} {ra : Bool}
    (ha : tbl.pre a = none) (hb : tbl.pre b = none)
    (ho' : tbl.post o = none) (ho : tbl.inf o = some (p, ra)) (hf : tbl.post f = some q) :
    parseExpr tbl [a, o, b, f] =
      .ok (if p < q ∨ (p = q ∧ ra = true)
           then .bin (.leaf a) o (.post (.leaf b) f)
           else .post (.bin (.leaf a) o (.leaf b)) f) [] := by
  have key : (p < q ∨ (p = q ∧ ra = true)) ↔ tbl.infR o ≤ tbl.postL f := by
    rw [infR_of ho, postL_of hf]; exact gives_up_iff p q ra
  have so := Option.isSome_of_eq_some ho
  have sf := Option.isSome_of_eq_some hf
  by_cases hc' : p < q ∨ (p = q ∧ ra = true)
  · rw [if_pos hc']
    exact parse_of_good tbl _ rfl ⟨ho', so, ha, sf, hb⟩
      ⟨trivial, ⟨trivial, nofun⟩, nofun, List.forall_mem_singleton.mpr (key.mp hc')⟩
  · rw [if_neg hc']
    exact parse_of_good tbl _ rfl ⟨sf, ho', so, ha, hb⟩
      ⟨⟨trivial, trivial, nofun, nofun⟩, List.forall_mem_singleton.mpr (Nat.lt_of_not_le (mt key.mpr hc'))⟩

/-- `o a i b` (prefix `o`, infix `i`): the prefix operator takes `a i b` iff `i` binds at
    least as tightly as `o`. -/
theorem prefix_vs_infix (tbl : Table α) {o a i b : α} {p q : Nat} {ra : Bool}
    (ha : tbl.pre a = none) (hb : tbl.pre b = none) (ho : tbl.pre o = some p)
    (hi' : tbl.post i = none) (hi : tbl.inf i = some (q, ra)) :
    parseExpr tbl [o, a, i, b] =
      .ok (if p ≤ q then .pre o (.bin (.leaf a) i (.leaf b))
           else .bin (.pre o (.leaf a)) i (.leaf b)) [] := by
  have key : p ≤ q ↔ tbl.preR o ≤ tbl.infL i := by
    rw [preR_of ho, infL_of hi]; omega
  have so := Option.isSome_of_eq_some ho
  have si := Option.isSome_of_eq_some hi
  by_cases hc' : p ≤ q
  · rw [if_pos hc']
    exact parse_of_good tbl _ rfl ⟨so, hi', si, ha, hb⟩
      ⟨⟨trivial, trivial, nofun, nofun⟩, List.forall_mem_singleton.mpr (key.mp hc')⟩
  · rw [if_neg hc']
    exact parse_of_good tbl _ rfl ⟨hi', si, ⟨so, ha⟩, hb⟩
      ⟨⟨trivial, nofun⟩, trivial, List.forall_mem_singleton.mpr (Nat.lt_of_not_le (mt key.mpr hc')), nofun⟩

/-! ### the hypotheses are satisfiable; the pinned algorithm violates the specification -/

section Examples

/-- primaries `0 1 2 3`; prefix `10` (prec 2), `11` (prec 5); postfix `20` (prec 3), `21` (prec 0);
    infix `30` (1, left), `31` (2, left), `32` (3, right), `33` (3, left) -/
def exTable : Table Nat where
  pre := fun n => if n = 10 then some 2 else if n = 11 then some 5 else none
  post := fun n => if n = 20 then some 3 else if n = 21 then some 0 else none
  inf := fun n =>
    if n = 30 then some (1, false) else if n = 31 then some (2, false)
    else if n = 32 then some (3, true) else if n = 33 then some (3, false) else none

/-- `11 0 30 10 1 31 2 32 3 32 0 20 21` — prefix, postfix, left- and right-assoc infix -/
def exStream : List Nat := [11, 0, 30, 10, 1, 31, 2, 32, 3, 32, 0, 20, 21]

/-- `((11 0) 30 (10 (1 31 (2 32 (3 32 (0 20)))))) 21` -/
def exTree : Tree Nat :=
  .post (.bin (.pre 11 (.leaf 0)) 30
      (.pre 10 (.bin (.leaf 1) 31 (.bin (.leaf 2) 32 (.bin (.leaf 3) 32 (.post (.leaf 0) 20)))))) 21

example : WellFormedStream exTable exStream := by decide +kernel
example : parseExpr exTable exStream = .ok exTree [] := by decide +kernel
example : exTree.flatten = exStream ∧ Lex exTable exTree ∧ Good exTable exTree := by decide +kernel
/-- left-assoc `33` groups left, right-assoc `32` groups right -/
example : parseExpr exTable [0, 33, 1, 33, 2] = .ok (.bin (.bin (.leaf 0) 33 (.leaf 1)) 33 (.leaf 2)) [] := by decide +kernel
example : parseExpr exTable [0, 32, 1, 32, 2] = .ok (.bin (.leaf 0) 32 (.bin (.leaf 1) 32 (.leaf 2))) [] := by decide +kernel
/-- the reference agrees (here on a shorter stream: it enumerates every tree) -/
example : reference exTable [11, 0, 20, 30, 10, 1, 21] =
    [.post (.bin (.post (.pre 11 (.leaf 0)) 20) 30 (.pre 10 (.leaf 1))) 21] := by decide +kernel
/-- ill-formed streams: truncated → `SyntaxError`; two operands in a row → returns early -/
example : parseExpr exTable [0, 30] = .eof := by decide +kernel
example : parseExpr exTable [0, 1] = .ok (.leaf 0) [1] := by decide +kernel
example : ¬ WellFormedStream exTable [0, 30] ∧ ¬ WellFormedStream exTable [0, 1] := by decide +kernel

/-- **the pinned `parse_expr` violates C18**: with prefix `11` of precedence 5 and postfix
    `20` of precedence 3 it builds `11 (0 20)`, which is not `Good`; the one good tree is
    `(11 0) 20`, which the repaired `parse_expr` returns. -/
example : prattOld exTable [11, 0, 20] = .ok (.pre 11 (.post (.leaf 0) 20)) [] ∧
    ¬ Good exTable (.pre 11 (.post (.leaf 0) 20)) ∧
    parseExpr exTable [11, 0, 20] = .ok (.post (.pre 11 (.leaf 0)) 20) [] ∧
    reference exTable [11, 0, 20] = [.post (.pre 11 (.leaf 0)) 20] := by decide +kernel

/-- same defect against an infix operator: `0 31 1 21` with `31` of precedence 2 and postfix
    `21` of precedence 0 -/
example : prattOld exTable [0, 31, 1, 21] = .ok (.bin (.leaf 0) 31 (.post (.leaf 1) 21)) [] ∧
    ¬ Good exTable (.bin (.leaf 0) 31 (.post (.leaf 1) 21)) ∧
    parseExpr exTable [0, 31, 1, 21] = .ok (.post (.bin (.leaf 0) 31 (.leaf 1)) 21) [] := by decide +kernel

end Examples

end C18
end Pest
