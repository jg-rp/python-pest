/-
  Props/C09.lean — property C09:
  "Snapshotting stack, counter and parser state act like full-copy snapshots".

  Model: `Stack.lean` (mirror of src/pest/stack.py, src/pest/checkpoint_int.py),
  `State.lean` (mirror of ParserState.checkpoint/ok/restore).  Reference: `RStack`,
  `RState` — snapshots are full copies.
-/
import PestModel.Lemmas.Stack
import PestModel.Lemmas.State

namespace Pest
namespace C09
open DStack
variable {α : Type}

/-- visible contents after every step of a history (Python: `list(stack)` reversed) -/
def dtrace (d : DStack α) : List (StackOp α) → List (List α)
  | [] => [d.items]
  | op :: ops => d.items :: dtrace (d.apply op) ops

def rtrace (r : RStack α) : List (StackOp α) → List (List α)
  | [] => [r.cur]
  | op :: ops => r.cur :: rtrace (r.apply op) ops

theorem foldl_sim {σ τ ω : Type} {I : σ → Prop} {ab : σ → τ} {f : σ → ω → σ} {g : τ → ω → τ}
    (hI : ∀ s o, I s → I (f s o)) (hc : ∀ s o, I s → ab (f s o) = g (ab s) o) (ops : List ω) :
    ∀ s, I s → I (ops.foldl f s) ∧ ab (ops.foldl f s) = ops.foldl g (ab s) := by
  induction ops with
  | nil => exact fun s h => ⟨h, rfl⟩
  | cons o ops ih =>
    intro s h
    rw [List.foldl_cons, List.foldl_cons, ← hc s o h]
    exact ih _ (hI s o h)

theorem trace_refines (d : DStack α) (h : Inv d) (ops : List (StackOp α)) :
    dtrace d ops = rtrace (abs d) ops := by
  induction ops generalizing d with
  | nil => rfl
  | cons op ops ih =>
    simp only [dtrace, rtrace]
    rw [ih _ (inv_apply d op h), abs_apply d op h]
    rfl

/-- **C09, stack.**  For every finite history of push, pop, clear, snapshot, restore and
    drop-snapshot operations, the visible contents of the delta-encoded stack after each
    step equal those of the reference that stores full copies. -/
theorem stack_refines (ops : List (StackOp α)) :
    dtrace (DStack.empty : DStack α) ops = rtrace (RStack.empty : RStack α) ops := by
  exact trace_refines (DStack.empty : DStack α) inv_empty ops

/-- every state reachable by a history satisfies the representation invariant … -/
theorem reachable_inv (ops : List (StackOp α)) :
    Inv (ops.foldl DStack.apply (DStack.empty : DStack α)) :=
  (foldl_sim inv_apply abs_apply ops _ inv_empty).1

/-- … hence neither `assert` in `Stack.restore` can fail, and the slice bounds in
    `restore`/`drop_snapshot` are never negative (where Python slicing would differ). -/
theorem asserts_never_fail (ops : List (StackOp α)) :
    (ops.foldl DStack.apply (DStack.empty : DStack α)).restoreAsserts = true ∧
    (ops.foldl DStack.apply (DStack.empty : DStack α)).dropAsserts = true :=
  ⟨inv_restoreAsserts _ (reachable_inv ops), inv_dropAsserts _ (reachable_inv ops)⟩

/-- restore returns exactly the contents at the matching snapshot (one-step form; the
    reference `RStack` makes the general form definitional, `restore_matching` below). -/
theorem restore_snapshot (d : DStack α) : d.snapshot.restore.items = d.items :=
  congrArg DStack.items (snapshot_restore d)

/-- dropping a snapshot changes nothing visible … -/
theorem dropSnap_invisible (d : DStack α) : d.dropSnap.items = d.items := dropSnap_items d

/-- … and leaves every outer snapshot exactly restorable. -/
theorem dropSnap_outer_restorable (d : DStack α) (h : Inv d) :
    snapsOf d.dropSnap = (snapsOf d).tail := snapsOf_dropSnap d h

/-- restore without a snapshot empties the stack -/
theorem restore_without_snapshot (d : DStack α) (h : d.lengths = []) : d.restore.items = [] :=
  congrArg DStack.items (restore_nil d h)

/-! The reference itself behaves as "full copy" says, for *matching* snapshot/restore pairs
    with an arbitrary balanced history in between. -/

/-- nesting depth after `ops`, or `none` if some restore/drop has no matching snapshot
    inside `ops` -/
def depthAfter : Nat → List (StackOp α) → Option Nat
  | k, [] => some k
  | k, .snapshot :: ops => depthAfter (k + 1) ops
  | 0, .restore :: _ => none
  | 0, .dropSnap :: _ => none
  | k + 1, .restore :: ops => depthAfter k ops
  | k + 1, .dropSnap :: ops => depthAfter k ops
  | k, .push _ :: ops => depthAfter k ops
  | k, .pop :: ops => depthAfter k ops
  | k, .clear :: ops => depthAfter k ops

theorem _root_.Pest.RStack.apply_snaps (r : RStack α) (op : StackOp α) :
    (r.apply op).snaps = match op with
      | .snapshot => r.cur :: r.snaps
      | .restore | .dropSnap => r.snaps.tail
      | _ => r.snaps := by
  cases op with
  | pop => cases r with | mk c s => cases c <;> rfl
  | restore => cases r with | mk c s => cases s <;> rfl
  | _ => rfl

/-- A history that ends at depth `j` when started at depth `k` leaves everything below the
    innermost `k` snapshots in place, now below the innermost `j`. -/
theorem rstack_frame (ops : List (StackOp α)) :
    ∀ (k j : Nat) (r : RStack α), depthAfter k ops = some j →
      (ops.foldl RStack.apply r).snaps.drop j = r.snaps.drop k := by
  induction ops with
  | nil =>
    intro k j r hd
    cases hd
    rfl
  | cons op ops ih =>
    intro k j r hd
    rw [List.foldl_cons]
    cases op with
    | push x => exact ih k j _ hd
    | pop => rw [ih k j _ hd, RStack.apply_snaps]
    | clear => exact ih k j _ hd
    | snapshot => exact ih (k + 1) j _ hd
    | restore =>
      cases k with
      | zero => cases hd
      | succ k => rw [ih k j _ hd, RStack.apply_snaps, List.drop_tail]
    | dropSnap =>
      cases k with
      | zero => cases hd
      | succ k => rw [ih k j _ hd, RStack.apply_snaps, List.drop_tail]

/-- On the reference: a snapshot, then any history whose restores/drops are matched inside
    it, then restore — gives back exactly the contents at the snapshot, and the outer
    snapshots are untouched. -/
theorem rstack_restore_matching (r : RStack α) (ops : List (StackOp α))
    (hb : depthAfter 0 ops = some 0) :
    (ops.foldl RStack.apply r.snapshot).restore = r := by
  have h : (ops.foldl RStack.apply r.snapshot).snaps = r.cur :: r.snaps :=
    rstack_frame ops 0 0 r.snapshot hb
  simp only [RStack.restore, h]

/-- The same for the real (delta-encoded) stack, through the refinement: the visible
    contents and everything any outer snapshot would restore are exactly as before. -/
theorem restore_matching (d : DStack α) (h : Inv d) (ops : List (StackOp α))
    (hb : depthAfter 0 ops = some 0) :
    abs (ops.foldl DStack.apply d.snapshot).restore = abs d := by
  rw [abs_restore, (foldl_sim inv_apply abs_apply ops _ (inv_snapshot d h)).2, abs_snapshot]
  exact rstack_restore_matching (abs d) ops hb

structure RInt where
  cur : Int
  saved : List Int
deriving DecidableEq

def RInt.apply (r : RInt) : IntOp → RInt
  | .add k => { r with cur := r.cur + k }
  | .zero => { r with cur := 0 }
  | .snapshot => { r with saved := r.cur :: r.saved }
  | .restore => match r.saved with | [] => ⟨0, []⟩ | v :: s => ⟨v, s⟩
  | .drop => { r with saved := r.saved.tail }

def absInt (s : SnapInt) : RInt := ⟨s.val, s.snaps⟩

/-- **C09, counter.** `SnapshottingInt` keeps full copies already; every operation commutes
    with the reading `absInt`, so every history shows the same values. -/
theorem snapint_refines (s : SnapInt) (op : IntOp) : absInt (s.apply op) = (absInt s).apply op := by
  cases op with
  | add k => rfl
  | zero => rfl
  | snapshot => rfl
  | restore =>
    simp only [SnapInt.apply, SnapInt.restore, RInt.apply, absInt]
    cases s.snaps <;> rfl
  | drop => rfl

theorem snapint_history (ops : List IntOp) :
    absInt (ops.foldl SnapInt.apply SnapInt.zero0) = ops.foldl RInt.apply ⟨0, []⟩ :=
  (foldl_sim (I := fun _ => True) (fun _ _ _ => trivial) (fun s o _ => snapint_refines s o) ops _
    trivial).2

/-- **C09, parser state.**  For every history of state operations starting from a fresh
    `ParserState`, the visible (pos, user stack, rule stack, atomic depth) and everything
    any pending checkpoint would restore equal those of the full-copy reference: the four
    components move in lock-step. -/
theorem pstate_refines (k : Nat) (ops : List StateOp) :
    PState.absP (ops.foldl PState.applyOp (PState.init k))
      = ops.foldl RState.applyOp (PState.absP (PState.init k)) :=
  (foldl_sim PState.ckInv_apply PState.absP_apply ops _ (PState.ckInv_init k)).2

/-! ### Non-vacuity: `snapshot, snapshot, pop, drop_snapshot, restore`, the history on which
    `Stack.drop_snapshot` lost an item before commit ada29ca of /repo -/

example :
    dtrace (DStack.empty : DStack Nat)
      [.push 1, .push 2, .snapshot, .snapshot, .pop, .dropSnap, .restore]
      = [[], [1], [2, 1], [2, 1], [2, 1], [1], [1], [2, 1]] := by decide +kernel

example : depthAfter (α := Nat) 0 [.push 3, .snapshot, .pop, .pop, .dropSnap, .clear] = some 0 := by
  decide +kernel

end C09
end Pest
