/-
  Props/C12.lean — property C12 (character terminals; the escape clause is in Props/C12Escapes.lean,
  imported here so that this one module carries every C12 obligation):
  "Every character range 'a'..'b', single-character literal, ASCII_* / NEWLINE / ANY built-in
   and every character class the optimizer merges them into accepts exactly the code points
   its definition specifies — no more (ranges are case sensitive) and no fewer — for all
   1,114,112 code points, identically in the interpreter, the optimized interpreter and
   generated code; case-insensitive literals over ASCII letters accept exactly the ASCII case
   variants of ASCII input, and every built-in Unicode property rule accepts the same code
   points in all execution modes."

  Every statement is for *all* code points / inputs / lists (no enumeration of `c`).  The tables
  regenerated from rules/ascii.py (`Generated/AsciiTables.lean`) denote the sets pest defines;
  `_optimize_char_class` keeps the set and writes sorted, separated pieces (Lemmas/CharSet.lean);
  the squashed choice over one-character alternatives, and over NEWLINE's, is the ordered choice
  of its alternatives: `OptS.optMatchOnce_eq_first` (Lemmas/OptMatch.lean) at lists whose
  alternatives are pairwise compatible for a plain reason: one character each, resp. accepted by
  `is_order_preserving` by evaluation.  On every terminal the generated-code model returns what
  the interpreter model returns, in front of the caller's pairs (`leaf_modes_agree`, from
  `LG.step_leaf`); so each statement about both is proved for the interpreter model and carried
  over.
  What is *not* proved here and is closed by the exhaustive sweep of harness/eng_charset.py:
  what the `regex` engine accepts for a class string `[…]`, for `re.I`, for `\p{…}` under
  VERSION0 / VERSION1 — see the engine's `assumptions`.
-/
import PestModel.Lemmas.CharSet
import PestModel.CharClass
import PestModel.Interp
import PestModel.Gen
import PestModel.Opt
import PestModel.Generated.AsciiTables
import PestModel.Lemmas.Thread
import PestModel.Lemmas.OptMatch
import PestModel.Props.C12Escapes

namespace Pest
namespace C12
open CharSet Generated

/-- **C12, ASCII built-ins.**  The regenerated `ASCII_RULE_MAP` has exactly pest's ten names,
    and for every entry and *every* code point `c`, membership in the written intervals is the
    definition of that built-in. -/
theorem ascii_tables_spec :
    asciiRuleMap.map (·.1) = specNames ∧
    ∀ e ∈ asciiRuleMap, ∀ c, ivMem e.2 c = true ↔ specOf e.1 c := by
  refine ⟨rfl, ?_⟩
  intro e he c
  simp only [asciiRuleMap, List.mem_cons, List.mem_nil_iff, or_false] at he
  rcases he with rfl | rfl | rfl | rfl | rfl | rfl | rfl | rfl | rfl | rfl
  all_goals
    simp only [specOf, String.reduceEq, ↓reduceIte, ivMem, List.any_cons, List.any_nil, inIv,
      Bool.or_false, Bool.or_eq_true, Bool.and_eq_true, decide_eq_true_eq, specAsciiDigit,
      specAsciiNonzeroDigit, specAsciiBinDigit, specAsciiOctDigit, specAsciiHexDigit,
      specAsciiAlphaLower, specAsciiAlphaUpper, specAsciiAlpha, specAsciiAlphanumeric, specAscii]
  all_goals omega

/-- the rule objects `ASCII_RULES[name]` (a `Range` or a `Choice` of `Range`s) carry exactly
    the intervals of `ASCII_RULE_MAP`, in the same order -/
theorem ascii_rules_built_from_map : asciiRuleExprs = asciiRuleMap := rfl

/-- the body of `ANY` is the `_Any` node (whose model is `Expr.anyB`) -/
theorem any_body : anyBody = "_Any" := rfl

theorem startsWithAt_two (inp : Input) (x y : CP) (pos : Nat) :
    startsWithAt inp [x, y] pos = (inp[pos]? == some x && inp[pos + 1]? == some y) := by
  have h1 := OptS.swa_single inp y (pos + 1)
  simp only [startsWithAt] at h1 ⊢
  rw [h1]
  cases inp[pos]? <;> simp

theorem find?_cons_ite {α} (p : α → Bool) (a : α) (l : List α) :
    (a :: l).find? p = if p a = true then some a else l.find? p := by
  simp only [List.find?]; cases p a <;> rfl

/-- **C12, NEWLINE.**  The regenerated alternatives are LF, CR LF, CR in this order, and for
    every input and position the ordered choice over them is pest's NEWLINE (in particular
    CR LF is taken as one line break: `"\r"` does not come before `"\r\n"`). -/
theorem newline_spec :
    newlineAlts = [[10], [13, 10], [13]] ∧
    ∀ (inp : Input) (pos : Nat), matchFirst inp newlineAlts pos = specNewline inp pos := by
  refine ⟨rfl, ?_⟩
  intro inp pos
  simp only [matchFirst, newlineAlts, find?_cons_ite, List.find?_nil, OptS.swa_single,
    startsWithAt_two, specNewline]
  rcases inp[pos]? with _ | d
  · rfl
  · by_cases h10 : d = 10
    · subst h10; rfl
    · by_cases h13 : d = 13
      · subst h13
        rcases inp[pos + 1]? with _ | d1
        · rfl
        · by_cases h : d1 = 10
          · subst h; rfl
          · simp [h]
      · simp [h10, h13]


theorem firstMatch_lits (g : Grammar) (inp : Input) (pos : Nat) : ∀ (alts : List Str),
    OptS.firstMatch g inp (alts.map (Alt.lit · false)) pos = matchFirst inp alts pos
  | [] => rfl
  | s :: alts => by
    have ih := firstMatch_lits g inp pos alts
    rw [matchFirst] at ih ⊢
    rw [List.map_cons, OptS.firstMatch, List.findSome?_cons, List.find?_cons]
    dsimp only [OptS.altMatch]
    cases startsWithAt inp s pos with
    | true => rfl
    | false => exact ih

/-- the same after `squash_choice`: the pattern `(?:\r\n|[\n\r])` (multi-character literals
    first, then the class), as modelled by `L1.optMatchOnce`, is still pest's NEWLINE -/
theorem newline_opt_spec (g : Grammar) (inp : Input) (pos : Nat) :
    L1.optMatchOnce g inp (newlineAlts.map (Alt.lit · false)) pos = specNewline inp pos := by
  rw [OptS.optMatchOnce_eq_first g inp ?_ ?_ pos, firstMatch_lits, newline_spec.2]
  · -- `is_order_preserving` accepts the three alternatives
    exact OptS.op_pairwise g rfl
  · intro a ha
    obtain ⟨s, _, rfl⟩ := List.mem_map.1 ha
    trivial

/-- **C12, merging keeps the set.**  For all lists of single characters and ranges (bounds in
    either order, overlapping, adjacent, repeated — anything) and every code point `c`: the
    class `_optimize_char_class` writes accepts `c` iff `c` is one of the singles or lies in
    one of the ranges.  (`s > merged[-1][1] + 1` is the merge test: with `+ 2` a code point between
    two ranges would be added, which this theorem excludes.) -/
theorem merge_char_class_spec (singles : List Nat) (ranges : List Iv) (c : Nat) :
    classMem (mergeCharClass singles ranges) c = true ↔
      c ∈ singles ∨ ∃ r ∈ ranges, min r.1 r.2 ≤ c ∧ c ≤ max r.1 r.2 := by
  simp only [classMem, mergeCharClass, Bool.or_eq_true, List.contains_iff_mem, mem_sortDedup,
    List.mem_filter, ivMem_mergeRanges, ← ivMem_map_normRange]
  cases ivMem (ranges.map normRange) c <;> simp

/-- **C12, shape of the merged class.**  The merged ranges are non-empty, strictly increasing
    and separated by at least one code point (no two overlap or touch). -/
theorem merged_ranges_disjoint_sorted (singles : List Nat) (ranges : List Iv) :
    (∀ r ∈ (mergeCharClass singles ranges).2, r.1 ≤ r.2) ∧
    (mergeCharClass singles ranges).2.Pairwise (fun x y => x.2 + 1 < y.1) :=
  separated_pairwise (separated_mergeRanges ranges)

/-- the kept singles are strictly increasing (sorted, no duplicates), come from the input and
    none of them is covered by a merged range -/
theorem kept_singles_spec (singles : List Nat) (ranges : List Iv) :
    (mergeCharClass singles ranges).1.Pairwise (· < ·) ∧
    ∀ x ∈ (mergeCharClass singles ranges).1,
      x ∈ singles ∧ ivMem (mergeCharClass singles ranges).2 x = false := by
  refine ⟨pairwise_sortDedup _, ?_⟩
  intro x hx
  simp only [mergeCharClass, mem_sortDedup, List.mem_filter] at hx ⊢
  simpa using hx

/-- the members written between `[` and `]` (`x` for a one-point range) denote the class -/
theorem class_pieces_spec (singles : List Nat) (ranges : List Iv) (c : Nat) :
    piecesMem (pieces (mergeCharClass singles ranges)) c = classMem (mergeCharClass singles ranges) c :=
  piecesMem_pieces _ c

/-- the off-by-one boundary, concretely: 'a'..'c' and 'd'..'f' merge into a-f; 'a'..'c' and
    'e'..'f' do not, and 'd' stays out -/
example : mergeCharClass [] [(97, 99), (100, 102)] = ([], [(97, 102)]) := by decide
example : mergeCharClass [] [(97, 99), (101, 102)] = ([], [(97, 99), (101, 102)]) := by decide
example : classMem (mergeCharClass [] [(97, 99), (101, 102)]) 100 = false := by decide
example : mergeCharClass [100, 98, 100] [(102, 101), (97, 99)] = ([100], [(97, 99), (101, 102)]) := by decide

theorem classAccepts_cons (a : Alt) (alts : List Alt) (c : CP) :
    L1.classAccepts (a :: alts) c = (L1.classAccepts [a] c || L1.classAccepts alts c) := by
  simp [L1.classAccepts]

/-- **C12, the written class is the modelled class.**  For every list of alternatives and
    every code point, the class string `build_optimized_pattern` writes (kept singles + merged
    ranges, compared piece by piece with the real pattern by the correspondence run) accepts
    `c` iff `L1.classAccepts` — the definition the optimised-interpreter model uses — does. -/
theorem class_pattern_spec (alts : List Alt) (c : CP) :
    classMem (buildClass alts) c = L1.classAccepts alts c := by
  rw [Bool.eq_iff_iff, buildClass, merge_char_class_spec]
  induction alts with
  | nil =>
    exact iff_of_false (fun h => h.elim (nomatch ·) (fun ⟨_, h, _⟩ => nomatch h)) Bool.false_ne_true
  | cons a alts ih =>
    rw [classAccepts_cons, Bool.or_eq_true, ← ih]
    -- an alternative that is neither a single character nor a range adds to neither side
    have skip : ∀ {p : Prop}, p ↔ false = true ∨ p := (or_iff_right Bool.false_ne_true).symm
    match a with
    | .uprop n => exact skip
    | .lit [] _ => exact skip
    | .lit (_ :: _ :: _) _ => exact skip
    | .range a b =>
      show c ∈ classSingles alts ∨ (∃ r ∈ (a, b) :: classRanges alts, _) ↔
        (L1.inRange (min a b) (max a b) c || false) = true ∨ _
      simp only [Bool.or_false, L1.inRange, Bool.and_eq_true, decide_eq_true_eq, List.mem_cons,
        or_and_right, exists_or, exists_eq_left]
      exact or_left_comm
    | .lit [x] false =>
      show c ∈ x :: classSingles alts ∨ _ ↔ ((x == c) || false) = true ∨ _
      rw [Bool.or_false, beq_iff_eq, List.mem_cons, or_assoc, eq_comm]
      exact Iff.rfl
    | .lit [x] true =>
      show c ∈ L1.asciiUpper x :: asciiLower x :: classSingles alts ∨ _ ↔
        ((L1.asciiUpper x == c || asciiLower x == c) || false) = true ∨ _
      rw [Bool.or_false, Bool.or_eq_true, beq_iff_eq, beq_iff_eq, List.mem_cons, List.mem_cons,
        or_assoc, or_assoc, or_assoc, eq_comm, eq_comm (a := c)]
      exact Iff.rfl

/-- `c` is an ASCII case variant of `x`: `x` itself, or the other case of an ASCII letter -/
def CaseVariant (x c : Nat) : Prop :=
  c = x ∨ (65 ≤ x ∧ x ≤ 90 ∧ c = x + 32) ∨ (97 ≤ x ∧ x ≤ 122 ∧ c + 32 = x)

theorem caseVariant_nonletter {x : Nat} (h : ¬ specAsciiAlpha x) (c : Nat) : CaseVariant x c ↔ c = x := by
  unfold specAsciiAlpha specAsciiAlphaLower specAsciiAlphaUpper at h
  unfold CaseVariant; omega

/-- `caseVariant_iff` on `Nat` (omega does not see through `CP`) -/
theorem caseVariant_iff_nat (x c : Nat) :
    (c = x ∨ (65 ≤ x ∧ x ≤ 90 ∧ c = x + 32) ∨ (97 ≤ x ∧ x ≤ 122 ∧ c + 32 = x)) ↔
      (c = (if 97 ≤ x ∧ x ≤ 122 then x - 32 else x) ∨ c = (if 65 ≤ x ∧ x ≤ 90 then x + 32 else x)) := by
  split <;> split <;> omega

theorem caseVariant_iff (x c : Nat) :
    CaseVariant x c ↔ (c = L1.asciiUpper x ∨ c = asciiLower x) := by
  unfold CaseVariant L1.asciiUpper asciiLower
  simp only [Bool.and_eq_true, decide_eq_true_eq]
  exact caseVariant_iff_nat x c

/-- what the case-insensitive matcher tests -/
theorem asciiLower_eq_iff_variant (x c : Nat) : asciiLower c = asciiLower x ↔ CaseVariant x c :=
  (OptS.lower_iff c x).trans (caseVariant_iff x c).symm

/-- an alternative that matches exactly one character: `"x"`, `^"x"`, or `'a'..'b'` with
    `a ≤ b` (`Range('b', 'a')` cannot be constructed: the class `[b-a]` does not compile) -/
def SingleAlt : Alt → Prop
  | .lit [_] _ => True
  | .range a b => a ≤ b
  | _ => False

/-- the alternative run on its own, as the interpreter runs the node it was collected from:
    `String.parse` (`startswith`), `CIString.parse`, `Range.parse`, a Unicode property rule —
    the terminal cases of `L1.step` -/
def altMatchesAt (g : Grammar) (inp : Input) (pos : Nat) : Alt → Bool
  | .lit s false => startsWithAt inp s pos
  | .lit s true => startsWithAtCI inp s pos
  | .range a b => match inp[pos]? with | some x => L1.inRange a b x | none => false
  | .uprop n => match inp[pos]? with | some x => g.uprop n x | none => false

/-- `SingleAlt` in the optimizer's terms; those also admit a Unicode property rule -/
theorem SingleAlt.single {a : Alt} (ha : SingleAlt a) : Opt.isSingle a = true ∧ OptS.AltOK a :=
  match a, ha with
  | .lit [_] _, _ => ⟨rfl, trivial⟩
  | .range _ _, h => ⟨rfl, h⟩

/-- a test `f` of the character at `pos`, as `OptS.altMatch` and as `altMatchesAt` spell it -/
theorem charTest_ite (inp : Input) (pos : Nat) (f : CP → Bool) :
    (match inp[pos]? with
      | some c => if f c = true then some (pos + 1) else none
      | none => none) =
      if (match inp[pos]? with | some x => f x | none => false) = true then some (pos + 1)
      else none := by
  cases inp[pos]? <;> rfl

theorem altMatch_eq_matchesAt (g : Grammar) (inp : Input) (pos : Nat) {a : Alt}
    (ha : Opt.isSingle a = true) :
    OptS.altMatch g inp a pos = if altMatchesAt g inp pos a = true then some (pos + 1) else none :=
  match a, ha with
  | .lit [_] ci, _ => by cases ci <;> rfl
  | .range lo hi, _ => charTest_ite inp pos (L1.inRange lo hi)
  | .uprop n, _ => charTest_ite inp pos (g.uprop n)

theorem firstMatch_singles (g : Grammar) (inp : Input) (pos : Nat) :
    ∀ (alts : List Alt), (∀ a ∈ alts, Opt.isSingle a = true) →
      OptS.firstMatch g inp alts pos =
        if alts.any (altMatchesAt g inp pos) = true then some (pos + 1) else none
  | [], _ => rfl
  | a :: alts, h => by
    have ih := firstMatch_singles g inp pos alts fun x hx => h x (List.mem_cons_of_mem _ hx)
    rw [OptS.firstMatch, List.findSome?_cons, altMatch_eq_matchesAt g inp pos (h a List.mem_cons_self),
      List.any_cons]
    cases altMatchesAt g inp pos a with
    | true => rfl
    | false => exact ih

theorem compat_single (g : Grammar) (a : Alt) {b : Alt} (hb : Opt.isSingle b = true) :
    OptS.compat g a b = true := by
  cases b with
  | lit s ci => exact if_pos hb
  | range lo hi => rfl
  | uprop n => rfl

theorem optMatchOnce_singles (g : Grammar) (inp : Input) (alts : List Alt)
    (h : ∀ a ∈ alts, Opt.isSingle a = true ∧ OptS.AltOK a) (pos : Nat) :
    L1.optMatchOnce g inp alts pos =
      if alts.any (altMatchesAt g inp pos) = true then some (pos + 1) else none := by
  rw [OptS.optMatchOnce_eq_first g inp ?_ (fun a ha => (h a ha).2) pos,
    firstMatch_singles g inp pos alts fun a ha => (h a ha).1]
  exact List.pairwise_of_forall_mem_list fun a _ b hb => compat_single g a (h b hb).1

/-- **C12, interp = opt on character choices.**  For a choice made only of one-character
    literals, one-character case-insensitive literals and ranges, and for every input and
    position (so for every code point at once): the squashed `OptimizedChoice` matches, and then
    consumes exactly one character, iff some alternative, run as the interpreter runs it,
    matches there. -/
theorem squash_set_spec (g : Grammar) (inp : Input) (alts : List Alt)
    (h : ∀ a ∈ alts, SingleAlt a) (pos : Nat) :
    L1.optMatchOnce g inp alts pos = some (pos + 1) ↔ ∃ a ∈ alts, altMatchesAt g inp pos a = true := by
  rw [optMatchOnce_singles g inp alts (fun a ha => (h a ha).single), ← List.any_eq_true]
  cases alts.any (altMatchesAt g inp pos) <;> simp

/-- … and otherwise it fails: there is no third outcome (no longer or shorter match) -/
theorem squash_set_total (g : Grammar) (inp : Input) (alts : List Alt)
    (h : ∀ a ∈ alts, SingleAlt a) (pos : Nat) :
    L1.optMatchOnce g inp alts pos = some (pos + 1) ∨ L1.optMatchOnce g inp alts pos = none := by
  rw [optMatchOnce_singles g inp alts fun a ha => (h a ha).single]
  cases alts.any (altMatchesAt g inp pos)
  · exact .inr rfl
  · exact .inl rfl

def R1.ok : R1 → Bool | .done true _ _ => true | _ => false
def RG.ok : RG → Bool | .done true _ _ => true | _ => false

theorem failT_not_ok (c : PState) : R1.ok (L1.failT c) = false := by
  unfold L1.failT; cases c.fail none false <;> rfl

/-- a terminal of `L1.step` is `if test then success else failure` -/
theorem ok_ite {α : Type} (ok : α → Bool) {p : Prop} [Decidable p] {s r : α} (hs : ok s = true)
    (hr : ok r = false) : ok (if p then s else r) = true ↔ p := by
  by_cases h : p
  · rw [if_pos h]; exact iff_of_true hs h
  · rw [if_neg h, hr]; exact iff_of_false Bool.false_ne_true h

theorem eq_of_ite_ok {α : Type} (ok : α → Bool) {p : Prop} [Decidable p] {s r t : α}
    (hr : ok r = false) (ht : ok t = true) (h : (if p then s else r) = t) : s = t := by
  by_cases hp : p
  · rwa [if_pos hp] at h
  · rw [if_neg hp] at h; rw [h, ht] at hr; cases hr

theorem ok_thread (ps : List Pair) (r : R1) : RG.ok (r.thread ps) = R1.ok r := by
  cases r with
  | done m c out => cases m <;> rfl
  | oof => rfl
  | exc k => rfl

/-- **C12, terminals behave alike in both modes.**  On every leaf but POP_ALL the generated
    code's result is the interpreter's with the caller's pairs in front (`LG.step_leaf`), so the
    two succeed together and end in the same state. -/
theorem leaf_modes_agree {g : Grammar} {inp : Input} {e : Expr} (he : e.isLeaf = true)
    (hp : e ≠ .popAll) (k : Nat) (rec : Sem1) (recG : SemG) (c : PState) (ps : List Pair) :
    RG.ok (LG.step g inp k recG e c ps) = R1.ok (L1.step g inp k rec e c) ∧
    ∀ c' ps', LG.step g inp k recG e c ps = .done true c' ps' →
      ∃ out, L1.step g inp k rec e c = .done true c' out := by
  rw [LG.step_leaf he hp k recG rec c ps]
  refine ⟨ok_thread _ _, fun c' ps' h => ?_⟩
  cases hr : L1.step g inp k rec e c with
  | done m d out => rw [hr] at h; cases h; exact ⟨out, rfl⟩
  | oof => rw [hr] at h; cases h
  | exc x => rw [hr] at h; cases h

/-- **C12, ranges are case sensitive.**  The `Range` model accepts `c` iff `a ≤ c ≤ b` as code
    points, nothing else: no case folding. -/
theorem range_case_sensitive (a b c : CP) : L1.inRange a b c = true ↔ a ≤ c ∧ c ≤ b := by
  simp [L1.inRange]

/-- 'B' is not in 'a'..'c' (`fix:` 8b0abb7: `Range.generate` compiled its class with `re.I`), nor
    'b' in 'A'..'C' -/
example : L1.inRange 97 99 66 = false := by decide
example : L1.inRange 65 67 98 = false := by decide
example : L1.inRange 97 99 98 = true := by decide

/-- **C12, `Range` in interpreter and generated code.**  Both `Range.parse` and the code
    `Range.generate` emits succeed at a position iff the code point there lies in `a..b`; on
    success both consume exactly that one code point. -/
theorem range_modes_agree (g : Grammar) (inp : Input) (k : Nat) (rec : Sem1) (recG : SemG)
    (a b : CP) (c : PState) (ps : List Pair) :
    (R1.ok (L1.step g inp k rec (.range a b) c) = true ↔ ∃ x, inp[c.pos]? = some x ∧ a ≤ x ∧ x ≤ b) ∧
    (RG.ok (LG.step g inp k recG (.range a b) c ps) = true ↔ ∃ x, inp[c.pos]? = some x ∧ a ≤ x ∧ x ≤ b) ∧
    (∀ c' ps', L1.step g inp k rec (.range a b) c = .done true c' ps' → c'.pos = c.pos + 1) ∧
    (∀ c' ps', LG.step g inp k recG (.range a b) c ps = .done true c' ps' → c'.pos = c.pos + 1) := by
  obtain ⟨hok, hst⟩ := leaf_modes_agree (e := .range a b) rfl (by nofun) k rec recG c ps
  suffices h : (R1.ok (L1.step g inp k rec (.range a b) c) = true ↔
        ∃ x, inp[c.pos]? = some x ∧ a ≤ x ∧ x ≤ b) ∧
      ∀ c' ps', L1.step g inp k rec (.range a b) c = .done true c' ps' → c'.pos = c.pos + 1 from
    ⟨h.1, hok ▸ h.1, h.2, fun c' ps' hg => (hst c' ps' hg).elim fun out ho => h.2 c' out ho⟩
  dsimp only [L1.step]
  cases inp[c.pos]? with
  | none =>
    refine ⟨iff_of_false (ne_true_of_eq_false (failT_not_ok c)) (fun ⟨_, e, _⟩ => nomatch e), ?_⟩
    intro c' ps' (h : L1.failT c = _); have := failT_not_ok c; rw [h] at this; cases this
  | some x =>
    have e : (∃ y, some x = some y ∧ a ≤ y ∧ y ≤ b) ↔ L1.inRange a b x = true :=
      ⟨fun ⟨y, hy, h⟩ => by cases hy; exact (range_case_sensitive a b x).mpr h,
        fun h => ⟨x, rfl, (range_case_sensitive a b x).mp h⟩⟩
    rw [e]
    refine ⟨ok_ite R1.ok rfl (failT_not_ok c), ?_⟩
    intro c' ps' h; cases eq_of_ite_ok R1.ok (failT_not_ok c) rfl h; rfl

/-- **C12, ANY.**  The body of ANY accepts every code point, astral ones included: it succeeds
    iff the position is inside the input and consumes one element, in both models. -/
theorem any_spec (g : Grammar) (inp : Input) (k : Nat) (rec : Sem1) (recG : SemG)
    (c : PState) (ps : List Pair) :
    (R1.ok (L1.step g inp k rec .anyB c) = true ↔ c.pos < inp.size) ∧
    (RG.ok (LG.step g inp k recG .anyB c ps) = true ↔ c.pos < inp.size) := by
  rw [(leaf_modes_agree rfl (by nofun) k rec recG c ps).1, and_self]
  exact ok_ite R1.ok (p := c.pos < inp.size) rfl rfl

/-- **C12, case-insensitive literals.**  `^"lit"` matches at `pos` iff the input has at least
    `len(lit)` more characters and each of them is an ASCII case variant of the corresponding
    character of the literal — for ASCII letters exactly the two cases, for everything else the
    character itself.  (Stated for all inputs; the *code* is claimed to agree with this model
    on ASCII input only: `re.I` also folds U+212A and U+017F onto `k`, `s`.) -/
theorem ci_ascii_spec (inp : Input) (lit : Str) (pos : Nat) :
    startsWithAtCI inp lit pos = true ↔
      pos + lit.length ≤ inp.size ∧
      ∀ i (_ : i < lit.length), ∃ d, inp[pos + i]? = some d ∧ CaseVariant lit[i] d := by
  induction lit generalizing pos with
  | nil =>
    exact ⟨fun h => ⟨of_decide_eq_true h, fun _ h => nomatch h⟩, fun h => decide_eq_true h.1⟩
  | cons x rest ih =>
    rw [startsWithAtCI, Bool.and_eq_true, ih]
    simp only [List.length_cons]
    rw [Nat.forall_lt_succ_left']
    simp only [Nat.add_zero, Nat.add_assoc, Nat.add_comm 1, List.getElem_cons_succ,
      List.getElem_cons_zero]
    rw [and_left_comm (b := ∃ _, _)]
    refine and_congr ?_ Iff.rfl
    cases inp[pos]? with
    | none => exact iff_of_false Bool.false_ne_true (fun ⟨_, h, _⟩ => nomatch h)
    | some d =>
      dsimp only
      rw [beq_iff_eq, asciiLower_eq_iff_variant]
      exact ⟨fun h => ⟨d, rfl, h⟩, fun ⟨_, e, h⟩ => by cases e; exact h⟩

/-- known finding `ci-nonascii-fold` (known_findings.txt): by pest's definition — ASCII folding, which
    is what this model and the squashed class implement — `^"k"` rejects U+212A KELVIN SIGN and `^"s"`
    rejects U+017F; the interpreter's and the generated code's `re.I` accept them.  Outside the
    property's clause ("ASCII case variants of ASCII input"), recorded because the modes differ there. -/
theorem finding_ci_nonascii_fold :
    startsWithAtCI #[8490] [107] 0 = false ∧ L1.classAccepts [.lit [107] true] 8490 = false ∧
    startsWithAtCI #[383] [115] 0 = false := by decide

/-- `CIString.parse` and the code `CIString.generate` emits succeed on the same inputs -/
theorem ci_modes_agree (g : Grammar) (inp : Input) (k : Nat) (rec : Sem1) (recG : SemG)
    (s : Str) (c : PState) (ps : List Pair) :
    (R1.ok (L1.step g inp k rec (.ci s) c) = true ↔ startsWithAtCI inp s c.pos = true) ∧
    (RG.ok (LG.step g inp k recG (.ci s) c ps) = true ↔ startsWithAtCI inp s c.pos = true) := by
  rw [(leaf_modes_agree rfl (by nofun) k rec recG c ps).1, and_self]
  exact ok_ite R1.ok (p := startsWithAtCI inp s c.pos = true) rfl (failT_not_ok c)

/-- single-character literals: `String.parse` / its generated code accept exactly that code point -/
theorem literal_modes_agree (g : Grammar) (inp : Input) (k : Nat) (rec : Sem1) (recG : SemG)
    (x : CP) (c : PState) (ps : List Pair) :
    (R1.ok (L1.step g inp k rec (.str [x]) c) = true ↔ inp[c.pos]? = some x) ∧
    (RG.ok (LG.step g inp k recG (.str [x]) c ps) = true ↔ inp[c.pos]? = some x) := by
  rw [(leaf_modes_agree rfl (by nofun) k rec recG c ps).1, and_self]
  exact (ok_ite R1.ok (p := startsWithAt inp [x] c.pos = true) rfl (failT_not_ok c)).trans
    (by rw [OptS.swa_single, beq_iff_eq])

/-- **C12, Unicode property rules use one set in every mode.**  In the model the code-point set
    of a property rule is the grammar parameter `g.uprop name` (the harness fills it by sweeping
    the `regex` engine once per rule).  The interpreter node (`RegexExpression.parse`), the
    generated code (`RegexExpression.generate`) and the squashed choice that contains the rule
    (`OptimizedChoice`, which splices the same `pattern` string into its alternation) all
    consult this one lookup: each succeeds iff the code point at the position is in the set.

    What this does *not* prove: that the `regex` engine gives the pattern string the same
    meaning when it is compiled alone with VERSION0 (interpreter), alone with VERSION1
    (generated code) or inside `(?:…|…)` with VERSION1 (optimized).  That is closed by the
    sweep (every rule, every code point, all four modes), helped by
    `unicode_patterns_wellformed`: the strings contain nothing whose syntax differs between
    the two versions. -/
theorem unicode_rule_same_pattern (g : Grammar) (inp : Input) (k : Nat) (rec : Sem1) (recG : SemG)
    (n : String) (c : PState) (ps : List Pair) :
    (R1.ok (L1.step g inp k rec (.uprop n) c) = true ↔ ∃ x, inp[c.pos]? = some x ∧ g.uprop n x = true) ∧
    (RG.ok (LG.step g inp k recG (.uprop n) c ps) = true ↔ ∃ x, inp[c.pos]? = some x ∧ g.uprop n x = true) ∧
    (L1.optMatchOnce g inp [.uprop n] c.pos = some (c.pos + 1) ↔
      ∃ x, inp[c.pos]? = some x ∧ g.uprop n x = true) := by
  -- all three run the rule as `altMatchesAt` does
  have hx : (∃ x, inp[c.pos]? = some x ∧ g.uprop n x = true) ↔
      altMatchesAt g inp c.pos (.uprop n) = true := by
    show _ ↔ (match inp[c.pos]? with | some x => g.uprop n x | none => false) = true
    cases inp[c.pos]? with
    | none => exact iff_of_false (fun ⟨_, e, _⟩ => nomatch e) Bool.false_ne_true
    | some x => exact ⟨fun ⟨y, hy, h⟩ => by cases hy; exact h, fun h => ⟨x, rfl, h⟩⟩
  rw [(leaf_modes_agree rfl (by nofun) k rec recG c ps).1, ← and_assoc, and_self, hx]
  constructor
  · dsimp only [L1.step, altMatchesAt]
    cases inp[c.pos]? with
    | none => exact iff_of_false Bool.false_ne_true Bool.false_ne_true
    | some x => exact ok_ite R1.ok rfl rfl
  · rw [optMatchOnce_singles g inp [.uprop n] (fun a ha => List.mem_singleton.1 ha ▸ ⟨rfl, trivial⟩),
      List.any_cons, List.any_nil, Bool.or_false]
    cases altMatchesAt g inp c.pos (.uprop n) <;> simp

def okName (c : Nat) : Bool :=
  (48 ≤ c && c ≤ 57) || (65 ≤ c && c ≤ 90) || (97 ≤ c && c ≤ 122) || c == 95 || c == 61

/-- `\p{` name `}` with a non-empty name made of ASCII letters, digits, `_` and `=` -/
def wellFormedPattern (p : List Nat) : Bool :=
  match p with
  | 92 :: 112 :: 123 :: rest =>
    match rest.reverse with
    | 125 :: body => !body.isEmpty && body.all okName
    | _ => false
  | _ => false

/-- every entry of the regenerated `UNICODE_RULES` is registered under its own rule name and
    its pattern is `\p{Name}` / `\p{Script=Name}`: no class brackets, set operators, flags or
    anything else whose meaning depends on VERSION0 / VERSION1 or on the surrounding group -/
theorem unicode_patterns_wellformed :
    unicodeRulesCP.all (fun e => e.1 == e.2.1 && wellFormedPattern e.2.2) = true := by
  decide +kernel

end C12
end Pest
