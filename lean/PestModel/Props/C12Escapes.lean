/-
  Props/C12Escapes.lean — property C12, escape clause:

    "String and character escapes (\n \r \t \\ \" \' \0 \xHH \u{H..}) denote the code points
     pest defines."

  The theorems are read off `Lemmas/Unescape.lean`: the append law, `unescape_rel`, and
  `unescape` at a backslash followed by a `Lexeme` or a `Bad` text.
  Model: `Unescape.lean` (`unescape` = `unescape_string` of src/pest/grammar/unescape.py,
  statement by statement; `Res.exc` = an exception outside PestGrammarError).
  Specification: `specEscape` / `specUnescape` (a recursion on the list after pest's `escape`,
  `code`, `unicode` rules and pest_meta's `unescape`), and the same as a relation
  (`Escape`, `Denotes`).  All theorems hold for every list of code points; none is partial.
-/
import PestModel.Lemmas.Unescape

namespace Pest
namespace C12
open Unescape

/-- **C12, no stray exception.**  For every text, `unescape_string` returns or raises
    `PestGrammarSyntaxError`: neither `value[index]` nor `chr` can fail, and the loop ends
    within `len(value) + 1` iterations (`exc` includes the model's out-of-fuel exit). -/
theorem unescape_total (s : List Nat) (n : String) : unescape s ≠ .exc n :=
  unescape_ne_exc s n

/-- **C12, escapes denote what pest defines.**  The decoder returns `r` exactly when the
    specification reads the text as a literal body denoting `r` … -/
theorem unescape_spec (s : List Nat) : (unescape s).toOption = specUnescape s := by
  rcases unescape_rel s with ⟨a, hs, hu⟩ | ⟨hs, e, hu⟩
  · rw [hs, hu]; rfl
  · rw [hs, hu]; rfl

theorem unescape_ok_iff (s r : List Nat) : unescape s = .ok r ↔ specUnescape s = some r :=
  ⟨spec_of_unescape, unescape_of_spec⟩

/-- … and raises `PestGrammarSyntaxError` exactly when the specification reads nothing. -/
theorem unescape_error_iff (s : List Nat) :
    (∃ e, unescape s = .error e) ↔ specUnescape s = none := by
  constructor
  · rintro ⟨e, he⟩
    rw [← unescape_spec, he]
    rfl
  · exact unescape_of_spec_none

theorem spec_denotes (s r : List Nat) : specUnescape s = some r ↔ Denotes s r :=
  ⟨denotes_of_spec, spec_of_denotes⟩

/-- **C12 in relational form**: `unescape_string` returns `r` iff the body denotes `r`
    by pest's rules (`Denotes`: plain characters, and `Escape`s with pest_meta's values). -/
theorem unescape_denotes (s r : List Nat) : unescape s = .ok r ↔ Denotes s r :=
  (unescape_ok_iff s r).trans (spec_denotes s r)

/-- the seven one-letter escapes are exactly `\" \\ \r \n \t \0 \'` with these values -/
theorem simple_escape_table (c v : Nat) :
    simpleEscape c = some v ↔
      (c, v) ∈ [(34, 34), (92, 92), (114, 13), (110, 10), (116, 9), (48, 0), (39, 39)] := by
  constructor
  · intro h
    have := simpleEscape_some h
    simp only [List.mem_cons, Prod.mk.injEq, List.not_mem_nil, or_false]
    omega
  · intro h
    simp only [List.mem_cons, Prod.mk.injEq, List.not_mem_nil, or_false] at h
    rcases h with h | h | h | h | h | h | h <;> obtain ⟨rfl, rfl⟩ := h <;> decide

/-- **Compositional law.**  If `pre` is a complete literal body decoding to `a`, then
    `pre ++ post` decodes to `a` followed by the decoding of `post`, and fails exactly as
    `post` alone fails. -/
theorem unescape_append {pre a : List Nat} (post : List Nat) (h : unescape pre = .ok a) :
    unescape (pre ++ post) = (unescape post).prepend a :=
  Unescape.unescape_append post (spec_of_unescape h)

theorem unescape_append_ok {pre a post b : List Nat} (h : unescape pre = .ok a)
    (hb : unescape post = .ok b) : unescape (pre ++ post) = .ok (a ++ b) := by
  rw [unescape_append post h, hb]; rfl

/-- **every escape** `e` (`Escape e v`), anywhere; the theorems below spell this out for each
    kind of escape. -/
theorem unescape_escape_ok {pre a post b e : List Nat} {v : Nat} (he : Escape e v)
    (ha : unescape pre = .ok a) (hb : unescape post = .ok b) :
    unescape (pre ++ 92 :: e ++ post) = .ok (a ++ [v] ++ b) := by
  rw [List.append_assoc, unescape_append _ ha, List.cons_append, unescape_cons_lexeme (.ok he),
    prepend_prepend, hb]
  rfl

/-- **the seven one-letter escapes**, anywhere: `\c` between a complete body and any text
    contributes exactly its code point. -/
theorem unescape_simple {pre a post b : List Nat} {c v : Nat} (hc : simpleEscape c = some v)
    (ha : unescape pre = .ok a) (hb : unescape post = .ok b) :
    unescape (pre ++ [92, c] ++ post) = .ok (a ++ [v] ++ b) :=
  unescape_escape_ok (.simple c v hc) ha hb

/-- **`\xHH`**, upper or lower case digits: the code point `16·h1 + h0`. -/
theorem unescape_hex {pre a post b : List Nat} {d1 d0 h1 h0 : Nat} (e1 : hexVal d1 = some h1)
    (e0 : hexVal d0 = some h0) (ha : unescape pre = .ok a) (hb : unescape post = .ok b) :
    unescape (pre ++ [92, 120, d1, d0] ++ post) = .ok (a ++ [16 * h1 + h0] ++ b) :=
  unescape_escape_ok (.code d1 d0 h1 h0 e1 e0) ha hb

/-- … for every value `v < 256`, with digits of either case (`f` = `hexChar`, `hexCharLower`) -/
theorem unescape_hex_spelled {f : Nat → Nat} (hf : ∀ {n}, n < 16 → hexVal (f n) = some n)
    {pre a post b : List Nat} {v : Nat} (hv : v < 256)
    (ha : unescape pre = .ok a) (hb : unescape post = .ok b) :
    unescape (pre ++ [92, 120, f (v / 16), f (v % 16)] ++ post) = .ok (a ++ [v] ++ b) := by
  have := unescape_hex (hf (Nat.div_lt_of_lt_mul (show v < 16 * 16 from hv)))
    (hf (Nat.mod_lt v (by decide))) ha hb
  rwa [Nat.div_add_mod] at this

/-- … for every value `v < 256`, spelled with upper-case digits … -/
theorem unescape_hex_value {pre a post b : List Nat} {v : Nat} (hv : v < 256)
    (ha : unescape pre = .ok a) (hb : unescape post = .ok b) :
    unescape (pre ++ [92, 120] ++ hex2 v ++ post) = .ok (a ++ [v] ++ b) := by
  rw [List.append_assoc pre]
  exact unescape_hex_spelled hexVal_hexChar hv ha hb

/-- … or with lower-case digits. -/
theorem unescape_hex_value_lower {pre a post b : List Nat} {v : Nat} (hv : v < 256)
    (ha : unescape pre = .ok a) (hb : unescape post = .ok b) :
    unescape (pre ++ [92, 120, hexCharLower (v / 16), hexCharLower (v % 16)] ++ post) =
      .ok (a ++ [v] ++ b) :=
  unescape_hex_spelled hexVal_hexCharLower hv ha hb

theorem unicode_body (pre ds post : List Nat) :
    pre ++ [92, 117, 123] ++ ds ++ [125] ++ post =
      pre ++ 92 :: ([117, 123] ++ ds ++ [125]) ++ post := by
  simp

/-- **`\u{H…}`** with two to six hex digits whose value is a code point: that value. -/
theorem unescape_unicode {pre a post b ds : List Nat} (h2 : 2 ≤ ds.length) (h6 : ds.length ≤ 6)
    (hall : ∀ d ∈ ds, (hexVal d).isSome = true) (hr : hexValue ds ≤ 0x10FFFF)
    (ha : unescape pre = .ok a) (hb : unescape post = .ok b) :
    unescape (pre ++ [92, 117, 123] ++ ds ++ [125] ++ post) = .ok (a ++ [hexValue ds] ++ b) := by
  rw [unicode_body]
  exact unescape_escape_ok (.unicode ds h2 h6 hall hr) ha hb

/-- … for every code point `v` and every spelling width `k` that fits it (leading zeros
    included): `\u{<k-digit hex of v>}` decodes to `v`. -/
theorem unescape_unicode_value {pre a post b : List Nat} {k v : Nat} (h2 : 2 ≤ k) (h6 : k ≤ 6)
    (hk : v < 16 ^ k) (hr : v ≤ 0x10FFFF) (ha : unescape pre = .ok a)
    (hb : unescape post = .ok b) :
    unescape (pre ++ [92, 117, 123] ++ hexN k v ++ [125] ++ post) = .ok (a ++ [v] ++ b) := by
  have := unescape_unicode (ds := hexN k v) (by rw [length_hexN]; exact h2)
    (by rw [length_hexN]; exact h6) (allHex_hexN k v) (by rw [hexValue_hexN k v hk]; exact hr) ha hb
  rw [hexValue_hexN k v hk] at this
  exact this

/-- **every malformed escape**, after a complete body: a backslash followed by a text that starts
    with no escape (`Bad t e`: the end of the text, a character that starts none, `\x` without two
    hex digits, `\u` without `{`, without `}`, with fewer than two or more than six characters
    or a non-digit before the `}`) raises the error `e` that `Bad` names. -/
theorem unescape_bad {pre a t : List Nat} {e : Err} (ha : unescape pre = .ok a) (h : Bad t e) :
    unescape (pre ++ 92 :: t) = .error e := by
  rw [unescape_append _ ha, unescape_cons_bad h]
  rfl

/-- a well-formed `\u{…}` whose value is beyond U+10FFFF is rejected with the `range` error
    (not `ValueError`), whatever follows -/
theorem unescape_unicode_range {pre a ds : List Nat} (post : List Nat) (h2 : 2 ≤ ds.length)
    (h6 : ds.length ≤ 6) (hall : ∀ d ∈ ds, (hexVal d).isSome = true)
    (hr : 0x10FFFF < hexValue ds) (ha : unescape pre = .ok a) :
    unescape (pre ++ [92, 117, 123] ++ ds ++ [125] ++ post) = .error .range := by
  rw [unicode_body, List.append_assoc, unescape_append _ ha, List.cons_append,
    unescape_cons_lexeme_range (.range ds h2 h6 hall hr)]
  rfl

/-- `\u{…}` with fewer than two or more than six characters before the `}`: the `digits`
    error -/
theorem unescape_unicode_digits {pre a ds : List Nat} (post : List Nat) (hno : 125 ∉ ds)
    (hlen : ds.length < 2 ∨ 6 < ds.length) (ha : unescape pre = .ok a) :
    unescape (pre ++ [92, 117, 123] ++ ds ++ [125] ++ post) = .error .digits := by
  rw [unicode_body, List.append_assoc, List.cons_append, unicode_append]
  exact unescape_bad ha (.digits ds post hno (by omega))

/-- a backslash followed by a character that starts no escape: the `unknown` error -/
theorem unescape_unknown {pre a : List Nat} {c : Nat} (post : List Nat)
    (hc : simpleEscape c = none) (hx : c ≠ 120) (hu : c ≠ 117) (ha : unescape pre = .ok a) :
    unescape (pre ++ [92, c] ++ post) = .error .unknown := by
  have hshape : pre ++ [92, c] ++ post = pre ++ 92 :: c :: post := by simp
  rw [hshape]
  exact unescape_bad ha (.unknown c post hc hx hu)

/-- a backslash at the very end: the `incomplete` error (not `IndexError`) -/
theorem unescape_lone_backslash {pre a : List Nat} (ha : unescape pre = .ok a) :
    unescape (pre ++ [92]) = .error .incomplete :=
  unescape_bad ha .nil

/-- **the text after an escape is kept**: whatever escape `e` ends at, the next character
    `c` is the next character of the result. -/
theorem unescape_keeps_following {pre a e rest b : List Nat} {v c : Nat}
    (he : Escape e v) (hc : c ≠ 92) (ha : unescape pre = .ok a) (hb : unescape rest = .ok b) :
    unescape (pre ++ 92 :: e ++ c :: rest) = .ok (a ++ [v] ++ c :: b) :=
  unescape_escape_ok he ha (by rw [unescape_cons_char rest hc, hb]; rfl)

/-- a text without a backslash is returned unchanged -/
theorem unescape_plain {s : List Nat} (h : ∀ c ∈ s, c ≠ 92) : unescape s = .ok s :=
  unescape_of_spec (specUnescape_plain s h)

/-! ### what the scanner relies on -/

/-- `RE_ESCAPE` matches exactly the specification's escapes, with the same length -/
theorem escapeLen_spec (e : List Nat) : escapeLen e = (specEscape e).map (·.2) :=
  Unescape.escapeLen_spec e

/-- a body in which every backslash is followed by a match of `RE_ESCAPE` (what
    `Scanner.accept_string` lets through) decodes, or holds a `\u{…}` beyond U+10FFFF:
    no other error is reachable from a scanned literal -/
theorem unescape_valid {s : List Nat} (h : ValidBody s) :
    (∃ r, unescape s = .ok r) ∨ unescape s = .error .range := by
  induction h with
  | nil => exact .inl ⟨[], rfl⟩
  | char c r hc _ ih =>
    rw [unescape_cons_char r hc]
    rcases ih with ⟨a, ha⟩ | ha
    · exact .inl ⟨[c] ++ a, by rw [ha]; rfl⟩
    · exact .inr (by rw [ha]; rfl)
  | esc e r he _ ih =>
    obtain ⟨v, hv⟩ := escapeLen_whole.1 he
    cases v with
    | none => exact .inr (unescape_cons_lexeme_range hv r)
    | some cp =>
      rw [unescape_cons_lexeme hv]
      rcases ih with ⟨a, ha⟩ | ha
      · exact .inl ⟨[cp] ++ a, by rw [ha]; rfl⟩
      · exact .inr (by rw [ha]; rfl)

/-- a scanned escaped character literal `'\…'` decodes to exactly one code point -/
theorem unescape_char {e : List Nat} (h : escapeLen e = some e.length) :
    (∃ c, unescape (92 :: e) = .ok [c]) ∨ unescape (92 :: e) = .error .range := by
  obtain ⟨v, hv⟩ := escapeLen_whole.1 h
  rw [← List.append_nil e]
  cases v with
  | none => exact .inr (unescape_cons_lexeme_range hv [])
  | some cp =>
    refine .inl ⟨cp, ?_⟩
    rw [unescape_cons_lexeme hv, unescape_nil]
    rfl

/-- a scanned plain character literal `'c'` decodes to itself -/
theorem unescape_single {c : Nat} (h : c ≠ 92) : unescape [c] = .ok [c] :=
  unescape_plain (by intro x hx; rw [List.mem_singleton.mp hx]; exact h)

/-! ### regression points: the inputs of /repo's `fix:` commits on `unescape_string`, and their neighbours -/

-- "\x41B" ↦ "AB"  (`fix:` 43333c1: the character after \xHH or \u{…} is kept)
example : unescape [92, 120, 52, 49, 66] = .ok [65, 66] := by decide +kernel
-- "\u{41}B" ↦ "AB"
example : unescape [92, 117, 123, 52, 49, 125, 66] = .ok [65, 66] := by decide +kernel
-- "\0" ↦ NUL  (`fix:` 6f41241)
example : unescape [92, 48] = .ok [0] := by decide +kernel
-- "\u{1F600}" (5 digits) and "\u{041}" (3 digits)  (`fix:` 70271d7)
example : unescape [92, 117, 123, 49, 70, 54, 48, 48, 125] = .ok [0x1F600] := by decide +kernel
example : unescape [92, 117, 123, 48, 52, 49, 125] = .ok [65] := by decide +kernel
-- "\'" and "\"" both decode, whatever the delimiter  (`fix:` 35259d1)
example : unescape [92, 39] = .ok [39] := by decide +kernel
example : unescape [92, 34] = .ok [34] := by decide +kernel
-- "\n" "\r" "\t" "\\"
example : unescape [92, 110, 92, 114, 92, 116, 92, 92] = .ok [10, 13, 9, 92] := by decide +kernel
-- "\b" is not a pest escape  (`fix:` 272a6c9)
example : unescape [92, 98] = .error .unknown := by decide +kernel
-- "\x4", "\xZZ" (`fix:` 90f87ef: no ValueError or IndexError), "\u{110000}" (`fix:` 783e5d7: no ValueError)
example : unescape [92, 120, 52] = .error .incomplete := by decide +kernel
example : unescape [92, 120, 90, 90] = .error .hex := by decide +kernel
example : unescape [92, 117, 123, 49, 49, 48, 48, 48, 48, 125] = .error .range := by decide +kernel
-- lone backslash, "\u41", "\u{41", "\u{1}", "\u{1234567}"
example : unescape [92] = .error .incomplete := by decide +kernel
example : unescape [92, 117, 52, 49] = .error .brace := by decide +kernel
example : unescape [92, 117, 123, 52, 49] = .error .unclosed := by decide +kernel
example : unescape [92, 117, 123, 49, 125] = .error .digits := by decide +kernel
example : unescape [92, 117, 123, 49, 50, 51, 52, 53, 54, 55, 125] = .error .digits := by decide +kernel
-- surrogates are code points for python-pest and for the specification
example : unescape [92, 117, 123, 68, 56, 48, 48, 125] = .ok [0xD800] := by decide +kernel
example : escapeLen [120, 52, 49, 66] = some 3 := by decide +kernel
example : escapeLen [117, 123, 52, 49, 125, 66] = some 5 := by decide +kernel
example : escapeLen [117, 123, 49, 125] = none := by decide +kernel
example : escapeLen [98] = none := by decide +kernel
example : ValidBody [97, 92, 110, 98] :=
  .char 97 _ (by decide) (.esc [110] [98] (by decide) (.char 98 _ (by decide) .nil))

end C12
end Pest
