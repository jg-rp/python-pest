/-
  Props/C03.lean — property C03: "Core PEG operators follow pest's matching semantics".

  What "pest's semantics" is: `Spec.lean` (L0) plus the reading-level laws proved below
  (ordered committed choice, greedy repetition that gives nothing back, bounded repetitions
  are their unrolled sequences, predicates consume nothing and contribute no pairs, one pair
  per successful non-silent rule application).
  What is proved about the code's model: the interpreter mirror L1 (`Interp.lean`, tied to
  `Expression.parse` / `Rule.parse` / `ParserState` by the correspondence run) refines L0 for
  every grammar whose fused trivia rule cannot fail (`SkipTotal`), every expression, input, start
  position, reachable state and amount of fuel.
-/
import PestModel.Lemmas.Refine
import PestModel.Lemmas.Big

namespace Pest
namespace C03

variable (g : Grammar) (inp : Input)

/-- **Refinement, every expression, every state.**  Running the interpreter model from a
    state `c` and the specification from what L0 sees of `c` (position, stack contents,
    atomicity), with the same fuel: out of fuel together; the only exception is `KeyError`
    for an undefined rule (L0: `stuck`); success together, ending in the same position /
    stack / atomicity with the same pairs up to tags; failure together, with no pairs. In
    both cases every saved checkpoint is untouched (`Frame`). -/
theorem interp_refines_spec (hs : SkipTotal g) (n : Nat) (e : Expr) (c : PState) (p : Pre c) :
    Rel c (L1.run g inp n e c) (L0.run g inp n e (abs0 c)) :=
  (run_good g inp hs n).rel e c p

/-- **`Parser.parse`.**  For every start rule, start position and fuel the interpreter model
    agrees with the specification: same success/failure, same tree (tags aside), same end
    position. -/
theorem parse_agrees_with_spec (hs : SkipTotal g) (fuel : Nat) (start : String) (k : Nat) :
    match L1.parse g inp fuel start k with
    | .oof => L0.parse g inp fuel start k = .oof
    | .exc e => e = .keyError ∧ L0.parse g inp fuel start k = .stuck
    | .done true c ps =>
      ∃ s, L0.parse g inp fuel start k = .ok s (eraseTagsL ps) ∧ s.pos = c.pos ∧ s.stk = c.ustack.items
    | .done false _ ps => L0.parse g inp fuel start k = .fail ∧ ps = [] := by
  exact (parse_rel g inp hs fuel start k).elim rfl ⟨rfl, rfl⟩ (fun c ps _ => ⟨abs0 c, rfl, rfl, rfl⟩)
    (fun c _ => ⟨rfl, rfl⟩)

/-- no exception other than the `KeyError` of an undefined rule can come out of the
    interpreter model (in particular no `IndexError` from the rule stack, the user stack or
    `_pos_history`) -/
theorem interp_exc_only_undefined (hs : SkipTotal g) (fuel : Nat) (start : String) (k : Nat)
    (e : PyExc) (h : L1.parse g inp fuel start k = .exc e) : e = .keyError := by
  have := parse_agrees_with_spec g inp hs fuel start k
  rw [h] at this
  exact this.1

/-! ### What L0 says, spelled out (sanity of the specification) -/

/-- ordered choice commits to the first alternative that does not fail … -/
theorem choice_commits (rec : Sem0) (a : Expr) (rest : List Expr) (s : S0) (h : rec a s ≠ .fail) :
    L0.choiceL rec (a :: rest) s = rec a s := by
  cases hr : rec a s with
  | fail => exact absurd hr h
  | ok s' ps => simp [L0.choiceL, hr]
  | oof => simp [L0.choiceL, hr]
  | stuck => simp [L0.choiceL, hr]

/-- … and a failed alternative leaves no trace: the next one starts from the same state -/
theorem choice_next (rec : Sem0) (a : Expr) (rest : List Expr) (s : S0) (h : rec a s = .fail) :
    L0.choiceL rec (a :: rest) s = L0.choiceL rec rest s := by
  simp [L0.choiceL, h]

theorem choice_empty_fails (rec : Sem0) (s : S0) : L0.choiceL rec [] s = .fail := rfl

/-- `e?` never fails and, when `e` fails, consumes nothing and yields no pairs -/
theorem opt_spec (k : Nat) (rec : Sem0) (e : Expr) (s : S0) :
    L0.step g inp k rec (.opt e) s = (match rec e s with | .fail => .ok s [] | r => r) := rfl

/-- predicates consume nothing, change no stack, contribute no pairs -/
theorem and_spec (k : Nat) (rec : Sem0) (e : Expr) (s : S0) :
    L0.step g inp k rec (.andP e) s = (match rec e s with | .ok _ _ => .ok s [] | r => r) := rfl

theorem not_spec (k : Nat) (rec : Sem0) (e : Expr) (s : S0) :
    L0.step g inp k rec (.notP e) s =
      (match rec e s with | .ok _ _ => .fail | .fail => .ok s [] | r => r) := rfl

theorem pred_consumes_nothing (k : Nat) (rec : Sem0) (e : Expr) (s s' : S0) (ps : List Pair) :
    (L0.step g inp k rec (.andP e) s = .ok s' ps → s' = s ∧ ps = []) ∧
    (L0.step g inp k rec (.notP e) s = .ok s' ps → s' = s ∧ ps = []) := by
  constructor
  · dsimp only [L0.step]
    cases rec e s with
    | ok s1 ps1 => intro h; cases h; exact ⟨rfl, rfl⟩
    | fail => intro h; cases h
    | oof => intro h; cases h
    | stuck => intro h; cases h
  · dsimp only [L0.step]
    cases rec e s with
    | ok s1 ps1 => intro h; cases h
    | fail => intro h; cases h; exact ⟨rfl, rfl⟩
    | oof => intro h; cases h
    | stuck => intro h; cases h

/-- bounded repetitions behave as their unrolled sequences — by definition of L0 -/
theorem bounded_as_unrolled (k : Nat) (rec : Sem0) (e : Expr) (m n : Nat) (s : S0) :
    L0.step g inp k rec (.rep1 e) s = L0.step g inp k rec (.seq [e, .rep e]) s ∧
    L0.step g inp k rec (.repExact e n) s = L0.step g inp k rec (.seq (List.replicate n e)) s ∧
    L0.step g inp k rec (.repMin e n) s = L0.step g inp k rec (.seq (List.replicate n e ++ [.rep e])) s ∧
    L0.step g inp k rec (.repMax e n) s = L0.step g inp k rec (.seq (List.replicate n (.opt e))) s ∧
    L0.step g inp k rec (.repMinMax e m n) s =
      L0.step g inp k rec (.seq (List.replicate m e ++ List.replicate (n - m) (.opt e))) s :=
  ⟨rfl, rfl, rfl, rfl, rfl⟩

/-- the same holds of the interpreter model (the code delegates to the unrolled form) -/
theorem interp_bounded_as_unrolled (k : Nat) (rec : Sem1) (e : Expr) (m n : Nat) (c : PState) :
    L1.step g inp k rec (.rep1 e) c = L1.step g inp k rec (.seq [e, .rep e]) c ∧
    L1.step g inp k rec (.repExact e n) c = L1.step g inp k rec (.seq (List.replicate n e)) c ∧
    L1.step g inp k rec (.repMin e n) c = L1.step g inp k rec (.seq (List.replicate n e ++ [.rep e])) c ∧
    L1.step g inp k rec (.repMax e n) c = L1.step g inp k rec (.seq (List.replicate n (.opt e))) c ∧
    L1.step g inp k rec (.repMinMax e m n) c =
      L1.step g inp k rec (.seq (List.replicate m e ++ List.replicate (n - m) (.opt e))) c :=
  ⟨rfl, rfl, rfl, rfl, rfl⟩

/-- repetition is greedy and gives nothing back: `e*` stops only when the next iteration
    (implicit trivia, then `e`) fails from where it stopped (or the very first `e` fails) -/
theorem rep_greedy (rec : Sem0) (e : Expr) (kk : Nat) :
    ∀ (k : Nat) (first : Bool) (s : S0) (acc : List Pair) (s' : S0) (ps : List Pair),
      L0.repLoop g rec e k kk first s acc = .ok s' ps →
      ∃ firstEnd : Bool,
        (match (if firstEnd then R0.ok s' [] else L0.skip g rec kk s') with
         | .ok s1 _ => rec e s1 = .fail
         | .fail => True
         | _ => False) := by
  intro k
  induction k with
  | zero => intro first s acc s' ps h; simp [L0.repLoop] at h
  | succ k ih =>
    intro first s acc s' ps h
    simp only [L0.repLoop] at h
    cases hsk : (if first = true then R0.ok s [] else L0.skip g rec kk s) with
    | oof => rw [hsk] at h; simp at h
    | stuck => rw [hsk] at h; simp at h
    | fail =>
      rw [hsk] at h
      simp only [R0.ok.injEq] at h
      obtain ⟨rfl, _⟩ := h
      refine ⟨first, ?_⟩
      rw [hsk]; trivial
    | ok s1 tps =>
      rw [hsk] at h
      simp only [] at h
      cases hr : rec e s1 with
      | oof => rw [hr] at h; simp at h
      | stuck => rw [hr] at h; simp at h
      | ok s2 ps2 => rw [hr] at h; exact ih false s2 _ s' ps h
      | fail =>
        rw [hr] at h
        simp only [R0.ok.injEq] at h
        obtain ⟨rfl, _⟩ := h
        refine ⟨first, ?_⟩
        rw [hsk]; exact hr

/-- exactly one pair per successful non-silent rule application, spanning the match; a silent
    rule passes its inner pairs up unchanged -/
theorem rule_one_pair (name : String) (mod : Nat) (s s' : S0) (ps : List Pair) :
    (hasBit mod SILENT = false →
      ∃ ch, L0.ruleWrap name mod s s' ps = .ok { s' with atomic := s.atomic } [.mk name mod s.pos s'.pos ch none]) ∧
    (hasBit mod SILENT = true → L0.ruleWrap name mod s s' ps = .ok { s' with atomic := s.atomic } ps) :=
  ⟨fun h => ⟨_, L0.ruleWrap_pair h⟩, L0.ruleWrap_silent⟩

/-! ### Non-vacuity: a concrete grammar, state and input meet the hypotheses -/

def demoG : Grammar :=
  { rules := [⟨"r", 0, .seq [.str [97], .opt (.ident "s" none), .rep (.str [98])], .grammar⟩,
              ⟨"s", SILENT, .choice [.str [120], .str [121]], .grammar⟩] }

example : SkipTotal demoG := .of_noFused rfl

def okAt1 : R1 → Nat → Nat → Bool
  | .done true c ps, p, n => c.pos == p && ps.length == n
  | _, _, _ => false
def okAt0 : R0 → Nat → Nat → Bool
  | .ok s ps, p, n => s.pos == p && ps.length == n
  | _, _, _ => false

example : okAt1 (L1.parse demoG #[97, 121, 98, 98] 20 "r" 0) 4 1 = true := by decide +kernel
example : okAt0 (L0.parse demoG #[97, 121, 98, 98] 20 "r" 0) 4 1 = true := by decide +kernel

end C03
end Pest
