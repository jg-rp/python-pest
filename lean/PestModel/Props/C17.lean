/-
  Props/C17.lean — property C17:
  "Bundled JSON and calculator languages agree with independent references".

    Every RFC 8259 JSON document whose top level is an array or object is accepted by the
    bundled JSON grammars in every execution mode and its parse tree mirrors json.loads …
    while every proper prefix of such a document (written without trailing whitespace) is
    rejected.  For every arithmetic expression over integers, variables, + - * / ^, unary
    minus, factorial and parentheses, the three bundled calculator implementations
    (precedence climbing, Pratt, grammar-encoded precedence) evaluate to the same value,
    which is the value an independent evaluator using the documented precedence table gives.

  Calculator half (model `Calc.lean`, lemmas `Lemmas/Calc.lean`): `calc_three_agree`, `calc_total`,
  `calc_values_agree`, for well-formed token lists of any length and nesting depth.  The proof does not compare
  algorithms pairwise.  It shows that the tree the *grammar* builds (`encodedTree`: nest by grammar_encoded_prec.pest,
  walk as grammar_encoded_prec.py) is `Good` — in the sense of C18's specification — for **every** calculator-shaped
  table whose five levels are in the documented order (`Lemmas/Calc.encodedTree_spec`).  By `C18.parse_of_good` it is
  therefore what the Pratt algorithm returns on any such table (`levels_parse_eq_encoded`).  The regenerated tables of
  pratt.py and of prec_climber.py are such tables (`prattTable_levels`, `climbTable_levels`, `…_documented`, by
  evaluation of the regenerated literals: they are compared by *order*, not number for number), the climbing loop is
  the Pratt loop on its own table (`Lemmas/Calc.climbExpr_eq`, structural), and the reference finds exactly the `Good`
  tree of the documented table `docTable` (`C18.reference_eq`).  An edit of either table that changes the order of two
  levels, of an associativity, or of the grammar-encoded nesting breaks one of these theorems at the next run.

  JSON half (model `Json.lean`, regenerated grammar terms `Generated/JsonGrammars.lean`, lemmas `Lemmas/Lx.lean`,
  `Lemmas/Json*.lean`; the proofs build derivations of the big-step relation of L0 and the statements read them for all
  sufficient fuel, see `Lemmas/Ev.lean`), against the specification L0 of pest's semantics, about the regenerated rule
  tables of both bundled grammars, for documents of any size: `json_accepts_both` (the tree is `mirror`) and
  `json_rejects_prefix`, with the tokens and values on the way (`json_number_accepts[_tests]`,
  `json_string_accepts[_tests]`, `json_value_accepts[_tests]`).  `json_modes_accept`, `json_modes_reject_prefix` say the
  same of the models of the four execution modes — interpreter L1 and generated code LG, on the regenerated table and
  on its optimized version — by C03 (L1 refines L0), C01/C07 (LG = L1, no exception) and C02 (optimizer sound), whose
  hypotheses are decidable and are evaluated here for both tables.

  What the theorems do not say, and what covers it, is listed at the end of the file.
-/
import PestModel.Lemmas.Calc
import PestModel.Lemmas.Json
import PestModel.Lemmas.JsonDoc
import PestModel.Lemmas.JsonPrefixDoc
import PestModel.Props.C01
import PestModel.Props.C02
import PestModel.Props.C03
import PestModel.Props.C07
import PestModel.Props.C18
import PestModel.Json
import PestModel.Spec
import PestModel.Generated.JsonGrammars

namespace Pest
namespace C17
open Pratt Calc

/-! ## Calculator -/

/-! ### the regenerated tables are calculator-shaped tables in the documented order -/

/-- `CalculatorParser.PREFIX_OPS / POSTFIX_OPS / INFIX_OPS` is the calculator-shaped table of
    the five levels read off it: `neg` is the only prefix and `fac` the only postfix operator,
    `add`/`sub` share a level, `mul`/`div` share a level, these four are left-associative and
    `pow` is right-associative, and no other rule name is declared. -/
theorem prattTable_levels : prattTable = prattLevels.table :=
  table_ext fun
    | .int _ | .var _ | .paren _ => ⟨rfl, rfl, rfl⟩
    | .neg | .fac | .add | .sub | .mul | .div | .pow => by decide +kernel

/-- + - < * / < ^ < prefix - < postfix !  in pratt.py -/
theorem prattLevels_documented : prattLevels.Ordered := by decide +kernel

/-- the tables of prec_climber.py (`PRECEDENCES`, `Precedence.PRE`, the four operator sets)
    likewise -/
theorem climbTable_levels : climbCfg.table = climbLevels.table :=
  table_ext fun
    | .int _ | .var _ | .paren _ => ⟨rfl, rfl, rfl⟩
    | .neg | .fac | .add | .sub | .mul | .div | .pow => by decide +kernel

/-- the same order in prec_climber.py, and `Precedence.LOWEST` is below every operator -/
theorem climbLevels_documented : climbLevels.Ordered ∧ climbCfg.lowest ≤ climbLevels.add := by decide +kernel

theorem docLevels_documented : docLevels.Ordered := by decide

/-! ### one tree for every documented table -/

theorem cwf_wf (L : Levels) (ts : List Tok) : ∀ b : Bool, cwf b ts = true → wf L.table b ts = true := by
  induction ts with
  | nil => intro b h; cases b; rfl; cases h
  | cons t ts ih =>
    intro b h
    cases b with
    | true =>
      cases t with
      | neg | int _ | var _ | paren _ => exact ih _ h
      | _ => cases h
    | false =>
      cases t with
      | fac | add | sub | mul | div | pow => exact ih _ h
      | _ => cases h

/-- **Grammar-encoded precedence = declared precedence.**  For every calculator-shaped table
    whose levels are in the documented order and every well-formed token list, the Pratt
    algorithm consumes the list and returns exactly the tree that nesting by
    grammar_encoded_prec.pest and walking it as grammar_encoded_prec.py yields. -/
theorem levels_parse_eq_encoded (L : Levels) (hL : L.Ordered) (ts : List Tok) (hw : cwf true ts = true) :
    ∃ t, encodedTree ts = some t ∧ parseExpr L.table ts = .ok t [] ∧ t.flatten = ts ∧ Shape t := by
  obtain ⟨t, h1, h2, h3⟩ := encodedTree_spec L hL ts hw
  exact ⟨t, h1, C18.parse_of_good L.table t h2 (shape_lex L t h3.shape) h3.good, h2, h3.shape⟩

theorem prattTree_eq_encodedTree (ts : List Tok) (hw : cwf true ts = true) :
    prattTree ts = encodedTree ts := by
  obtain ⟨t, h1, h2, _⟩ := levels_parse_eq_encoded prattLevels prattLevels_documented ts hw
  rw [h1, prattTree, prattTable_levels, h2]

/-- **The climbing loop on any documented table.**  Whatever numbers prec_climber.py uses, as
    long as its tables form a calculator-shaped table in the documented order and
    `Precedence.LOWEST` is not above the weakest operator, `parse_program` builds the
    grammar-encoded tree. -/
theorem climb_eq_pratt_of_table (C : ClimbCfg) (L : Levels) (hT : C.table = L.table) (hL : L.Ordered)
    (hlow : C.lowest ≤ L.add) (ts : List Tok) (hw : cwf true ts = true) :
    climbTreeOf C ts = encodedTree ts := by
  obtain ⟨t, h1, h2, h3⟩ := encodedTree_spec L hL ts hw
  have hwf : wf C.table true ts = true := by rw [hT]; exact cwf_wf L ts true hw
  have hc : expr L.table (ts.length + 1) ts C.lowest = .ok t [] :=
    expr_of_good L.table h2 (shape_lex L t h3.shape) h3.good fun x hx => by have := h3.le x hx; omega
  rw [h1, climbTreeOf, climbExpr_eq C _ _ _ hwf, hT, hc]
  rfl

theorem climbTree_eq_prattTree (ts : List Tok) (hw : cwf true ts = true) :
    climbTree ts = prattTree ts := by
  rw [prattTree_eq_encodedTree ts hw]
  exact climb_eq_pratt_of_table climbCfg climbLevels climbTable_levels climbLevels_documented.1
    climbLevels_documented.2 ts hw

/-- among *all* trees over the tokens, the grammar-encoded tree is the one and only tree
    that reads every token in its role and is `Good` for the documented table; so it is what
    the enumerate-and-filter reference finds. -/
theorem refTree_spec (ts : List Tok) (hw : cwf true ts = true) :
    refTree ts = encodedTree ts ∧
      ∀ t', t' ∈ Pratt.reference docTable ts ↔ some t' = encodedTree ts := by
  obtain ⟨t, h1, h2, _, _⟩ := levels_parse_eq_encoded docLevels docLevels_documented ts hw
  have hall := C18.reference_eq docTable ts t h2
  have hmem : ∀ t', t' ∈ Pratt.reference docTable ts ↔ some t' = encodedTree ts := by
    intro t'; rw [hall t', h1]; constructor
    · rintro rfl; rfl
    · intro h; injection h
  refine ⟨?_, hmem⟩
  rw [refTree, h1]
  cases hr : Pratt.reference docTable ts with
  | nil => have := (hall t).mpr rfl; simp [hr] at this
  | cons x xs =>
    have : x = t := (hall x).mp (by simp [hr])
    simp [this]

theorem calc_trees_agree (ts : List Tok) (hw : cwf true ts = true) :
    climbTree ts = prattTree ts ∧ prattTree ts = encodedTree ts ∧ prattTree ts = refTree ts :=
  ⟨climbTree_eq_prattTree ts hw, prattTree_eq_encodedTree ts hw,
    (prattTree_eq_encodedTree ts hw).trans (refTree_spec ts hw).1.symm⟩

/-! ### from trees to ASTs, through every level of parentheses -/

theorem implAt_eq_encoded (tree : List Tok → Option T)
    (h : ∀ ts, cwf true ts = true → tree ts = encodedTree ts) :
    ∀ (f : Nat) (ts : List Tok), cwf true ts = true → deepWfL ts = true →
      implAt tree f ts = implAt encodedTree f ts := by
  intro f
  induction f with
  | zero => intro ts _ _; rfl
  | succ f ih =>
    intro ts hw hd
    simp only [implAt]
    rw [h ts hw]
    obtain ⟨t, h1, h2, _⟩ := encodedTree_spec docLevels docLevels_documented ts hw
    rw [h1]
    simp only [Option.bind_some]
    apply build_congr
    intro c hc
    rw [h2] at hc
    obtain ⟨hcw, hcd⟩ := deepWf_mem ts c hd hc
    exact ih c hcw hcd

/-- **C17, calculator half.**  For every well-formed token list — integers, variables, the
    five binary operators, unary minus and factorial (also repeated), parentheses nested to
    any depth — the three bundled implementations build the same AST, and it is the AST of
    the reference for the documented precedence table. -/
theorem calc_three_agree (ts : List Tok) (h : WellFormed ts) :
    precClimb ts = pratt ts ∧ pratt ts = encoded ts ∧ pratt ts = reference ts := by
  obtain ⟨hw, hd⟩ := h
  have e1 := implAt_eq_encoded climbTree
    (fun ts hw => (climbTree_eq_prattTree ts hw).trans (prattTree_eq_encodedTree ts hw)) (depthL ts + 1) ts hw hd
  have e2 := implAt_eq_encoded prattTree prattTree_eq_encodedTree (depthL ts + 1) ts hw hd
  have e3 := implAt_eq_encoded refTree (fun ts hw => (refTree_spec ts hw).1) (depthL ts + 1) ts hw hd
  exact ⟨e1.trans e2.symm, e2, e2.trans e3.symm⟩

theorem implAt_total :
    ∀ (f : Nat) (ts : List Tok), depthL ts < f → cwf true ts = true → deepWfL ts = true →
      ∃ a, implAt encodedTree f ts = some a := by
  intro f
  induction f with
  | zero => intro ts h; omega
  | succ f ih =>
    intro ts hdep hw hd
    obtain ⟨t, h1, h2, h3⟩ := encodedTree_spec docLevels docLevels_documented ts hw
    simp only [implAt, h1, Option.bind_some]
    apply build_total _ t h3.shape
    intro c hc
    rw [h2] at hc
    obtain ⟨hcw, hcd⟩ := deepWf_mem ts c hd hc
    have := depth_mem ts c hc
    exact ih c (by omega) hcw hcd

/-- no implementation raises on a well-formed token list: the common answer is an AST -/
theorem calc_total (ts : List Tok) (h : WellFormed ts) : ∃ a, pratt ts = some a := by
  obtain ⟨a, ha⟩ := implAt_total (depthL ts + 1) ts (Nat.lt_succ_self _) h.1 h.2
  exact ⟨a, by rw [(calc_three_agree ts h).2.1]; exact ha⟩

/-- equal ASTs, equal values: under every environment the three implementations and the
    reference evaluate to the same result (a number, or the same failure) -/
theorem calc_values_agree (ts : List Tok) (h : WellFormed ts) (env : String → Option Int) :
    (precClimb ts).map (eval env) = (pratt ts).map (eval env) ∧
    (pratt ts).map (eval env) = (encoded ts).map (eval env) ∧
    (pratt ts).map (eval env) = (reference ts).map (eval env) := by
  obtain ⟨h1, h2, h3⟩ := calc_three_agree ts h
  exact ⟨by rw [h1], by rw [h2], by rw [h3]⟩

/-! ### the hypotheses are satisfiable, the readings are the documented ones, and the pinned
    climbing loop violates the property -/

section Examples

/-- `-2^2 = (-2)^2`, `-3! = -(3!)`, `2^3! = 2^(3!)`, `2^-3^2 = 2^((-3)^2)`, `1-2-3 = (1-2)-3` -/
example : pratt [.neg, .int 2, .pow, .int 2] = some (.bin .pow (.neg (.int 2)) (.int 2)) := by decide +kernel
example : pratt [.neg, .int 3, .fac] = some (.neg (.fac (.int 3))) := by decide +kernel
example : precClimb [.int 2, .pow, .int 3, .fac] = some (.bin .pow (.int 2) (.fac (.int 3))) := by decide +kernel
example : encoded [.int 2, .pow, .neg, .int 3, .pow, .int 2]
    = some (.bin .pow (.int 2) (.bin .pow (.neg (.int 3)) (.int 2))) := by decide +kernel
example : precClimb [.int 1, .sub, .int 2, .sub, .int 3]
    = some (.bin .sub (.bin .sub (.int 1) (.int 2)) (.int 3)) := by decide +kernel
example : reference [.int 1, .sub, .paren [.int 2, .sub, .int 3], .fac]
    = some (.bin .sub (.int 1) (.fac (.bin .sub (.int 2) (.int 3)))) := by decide +kernel
example : WellFormed [.neg, .neg, .var "x", .fac, .fac, .mul, .paren [.int 1, .add, .paren [.int 2]]] := by decide
example : ¬ WellFormed [.int 1, .add] ∧ ¬ WellFormed [.paren []] ∧ ¬ WellFormed [.int 1, .int 2] := by decide
example : eval (fun _ => none) (.bin .sub (.bin .sub (.int 1) (.int 2)) (.int 3)) = some (-4) := by decide

/-- the loop of the pinned commit: every operator climbed with its own precedence (so
    left-associative chains group to the right), postfix operators only after the last infix
    operator of the activation -/
def climbLoopOld (C : ClimbCfg) (rec : List Tok → Nat → CRes) (prec : Nat) : Nat → T → List Tok → CRes
  | 0, _, _ => .fuel
  | g + 1, left, ts =>
    match ts with
    | [] => .ok left []
    | tok :: ts' =>
      if C.isInfix tok then
        if C.precOf tok ≥ prec then
          match rec ts' (C.precOf tok) with
          | .ok right ts'' => climbLoopOld C rec prec g (.bin left tok right) ts''
          | e => e
        else .ok left (tok :: ts')
      else if C.isPostfix tok then
        -- the second `while`: postfix operators, then nothing else may follow
        let rec facs : Nat → T → List Tok → CRes
          | 0, _, _ => .fuel
          | _ + 1, l, [] => .ok l []
          | k + 1, l, t :: r => if C.isPostfix t then facs k (.post l t) r else .unexpected
        facs (g + 1) left (tok :: ts')
      else .unexpected

def climbExprOld (C : ClimbCfg) : Nat → List Tok → Nat → CRes
  | 0 => fun _ _ => .fuel
  | f + 1 => fun ts prec =>
    match ts with
    | [] => .eof
    | tok :: ts' =>
      if C.isPrefix tok then
        match climbExprOld C f ts' C.pre with
        | .ok r ts'' => climbLoopOld C (climbExprOld C f) prec f (.pre tok r) ts''
        | e => e
      else climbLoopOld C (climbExprOld C f) prec f (.leaf tok) ts'

def climbTreeOld (ts : List Tok) : Option T :=
  match climbExprOld climbCfg (ts.length + 1) ts climbCfg.lowest with
  | .ok t _ => some t
  | _ => none

/-- **the pinned prec_climber.py violates C17**: `1 - 2 - 3` is grouped to the right and
    `2! * 3` is refused; the repaired loop and the other implementations agree on both. -/
example : climbTreeOld [.int 1, .sub, .int 2, .sub, .int 3]
      = some (.bin (.leaf (.int 1)) .sub (.bin (.leaf (.int 2)) .sub (.leaf (.int 3)))) ∧
    prattTree [.int 1, .sub, .int 2, .sub, .int 3]
      = some (.bin (.bin (.leaf (.int 1)) .sub (.leaf (.int 2))) .sub (.leaf (.int 3))) ∧
    climbTreeOld [.int 2, .fac, .mul, .int 3] = none ∧
    climbTree [.int 2, .fac, .mul, .int 3] = prattTree [.int 2, .fac, .mul, .int 3] ∧
    (prattTree [.int 2, .fac, .mul, .int 3]).isSome = true := ⟨by rfl, by rfl, by rfl, by rfl, by rfl⟩

end Examples

/-! ## JSON: tokens, values, documents, prefix rejection, for both bundled grammars -/

open Json L0

/-! ### the regenerated rule tables contain the terms the lemmas are about -/

/-- `number` of examples/json/json.pest, as regenerated from the working tree, is the atomic
    rule whose body `Lemmas/Json.lean` reasons about -/
theorem examplesJson_number :
    Generated.examplesJson.lookup "number"
      = some { name := "number", mod := 4, body := exNumberBody, kind := .grammar } := by rfl

/-- `string` (compound-atomic), `inner` (atomic), `char` of examples/json/json.pest likewise -/
theorem examplesJson_string_rules : ExStringRules Generated.examplesJson :=
  ⟨⟨.grammar, by rfl⟩, ⟨.grammar, by rfl⟩, ⟨.grammar, by rfl⟩⟩

/-- **Every RFC 8259 number is one `number` token (examples/json/json.pest).**  From any
    state — atomic or not, any stack — at any position of any input that continues with the
    text of a number `n` (any spelling: sign, `0` or digits without leading zero, optional
    fraction, optional exponent with either case of `e` and optional sign) followed by
    something that does not extend it (not a digit, `.`, `e`, `E`; in a document: whitespace,
    `,`, `]`, `}` or the end), the rule `number` succeeds, consumes exactly the text of `n`,
    and yields exactly one childless pair `number` over it.  (`Conv`: with some fuel, hence with all more.) -/
theorem json_number_accepts (inp : Input) (s : S0) (n : Num) (post : Str)
    (hr : inp.toList.drop s.pos = numText n ++ post) (hf : HeadIs NumFollow post) :
    Conv Generated.examplesJson inp (.ident "number" none) s
      (.ok { s with pos := s.pos + (numText n).length }
        [mkPair "number" ATOMIC s.pos (s.pos + (numText n).length) []]) :=
  (ev_exNumber examplesJson_number s n hr hf).conv (by simp)

/-- **Every RFC 8259 string is one `string` token whose `inner` pair is the raw source slice
    (examples/json/json.pest).**  From any state, at any position of any input that continues
    with a string as written — raw characters `%x20-21 / %x23-5B / %x5D-10FFFF`, the eight
    two-character escapes, `\uXXXX` with hex digits of either case — the rule `string`
    succeeds, consumes exactly the quoted token, and yields the pair `string` over it with the
    single childless child `inner` spanning what stands between the quotes
    (`mirrorStr .examples`: the tree `Json.mirror` expects). -/
theorem json_string_accepts (inp : Input) (s : S0) (cs : SStr) (post : Str)
    (hr : inp.toList.drop s.pos = strText cs ++ post) :
    Conv Generated.examplesJson inp (.ident "string" none) s
      (.ok { s with pos := s.pos + (strText cs).length } [mirrorStr .examples s.pos cs]) :=
  (ev_exString examplesJson_string_rules s cs hr).conv (by simp)

/-- the hypotheses are met: `-12.50E+3` followed by `,`, from a non-atomic state at offset 1 -/
example :
    let n : Num := { neg := true, int := .nonzero 0 [2], frac := some (5, [0]),
                     exp := some { upper := true, sign := .plus, d := 3, ds := [] } }
    let inp : Input := (91 :: (numText n ++ [44, 49, 93])).toArray
    inp.toList.drop 1 = numText n ++ [44, 49, 93] ∧ HeadIs NumFollow [44, 49, 93] ∧
      numText n = [45, 49, 50, 46, 53, 48, 69, 43, 51] := by
  refine ⟨rfl, ?_, rfl⟩
  show ¬ IsDigit 44 ∧ (44 : CP) ≠ 46 ∧ (44 : CP) ≠ 101 ∧ (44 : CP) ≠ 69
  unfold IsDigit; decide

/-- `"a\"\u00e9"` : a raw character, an escape, a `\u` escape with mixed-case hex digits -/
example : strText [.raw 97 (by decide), .esc .quote, .u (.dig 0) (.dig 0) (.lower 4) (.dig 9)]
    = [34, 97, 92, 34, 92, 117, 48, 48, 101, 57, 34] := rfl

/-- `number`, `int`, `exp` of tests/grammars/json.pest, as regenerated -/
theorem testsJson_number_rules : TNumberRules Generated.testsJson :=
  ⟨⟨.grammar, by rfl⟩, ⟨.grammar, by rfl⟩, ⟨.grammar, by rfl⟩⟩

/-- `string`, `inner` (recursive), `escape`, `unicode` of tests/grammars/json.pest -/
theorem testsJson_string_rules : TStringRules Generated.testsJson :=
  ⟨⟨.grammar, by rfl⟩, ⟨.grammar, by rfl⟩, ⟨.grammar, by rfl⟩, ⟨.grammar, by rfl⟩⟩

/-- **Every RFC 8259 number is one `number` token (tests/grammars/json.pest)**: same statement
    as `json_number_accepts`; the pairs of the nested atomic rules `int` and `exp` are hidden. -/
theorem json_number_accepts_tests (inp : Input) (s : S0) (n : Num) (post : Str)
    (hr : inp.toList.drop s.pos = numText n ++ post) (hf : HeadIs NumFollow post) :
    Conv Generated.testsJson inp (.ident "number" none) s
      (.ok { s with pos := s.pos + (numText n).length }
        [mkPair "number" ATOMIC s.pos (s.pos + (numText n).length) []]) :=
  (ev_tNumber testsJson_number_rules s n hr hf).conv (by simp)

/-- **Every RFC 8259 string is one childless `string` token spanning the quotes
    (tests/grammars/json.pest)**; `inner` recurses once per escape. -/
theorem json_string_accepts_tests (inp : Input) (s : S0) (cs : SStr) (post : Str)
    (hr : inp.toList.drop s.pos = strText cs ++ post) :
    Conv Generated.testsJson inp (.ident "string" none) s
      (.ok { s with pos := s.pos + (strText cs).length } [mirrorStr .tests s.pos cs]) :=
  (ev_tString testsJson_string_rules s cs hr).conv (by simp)

/-- the whole regenerated rule table of examples/json/json.pest is the table
    `Lemmas/JsonDoc.lean` reasons about: implicit trivia is `WHITESPACE = _{ " " | "\t" | "\r" | "\n" }`
    only (no COMMENT, no fused SKIP), `json = _{ SOI ~ (object | array) ~ EOI }`, `value` silent, … -/
theorem examplesJson_rules : ExDocRules Generated.examplesJson where
  ws := ⟨⟨.grammar, by rfl⟩, by rfl, by rfl⟩
  strs := examplesJson_string_rules
  number := examplesJson_number
  object := by rfl
  array := by rfl
  pair := by rfl
  value := by rfl
  boolean := by rfl
  null := by rfl
  json := by rfl
  eoi := by rfl

/-- **Every RFC 8259 value (examples/json/json.pest).**  From any non-atomic state, at
    any position of any input that continues with the text of a value `v` — scalars in any
    spelling, arrays and objects nested to any depth, whitespace at every legal place, empty
    containers, duplicate names — followed by whitespace, `,`, `]`, `}` or the end, `value`
    succeeds, consumes exactly the text of `v`, and yields exactly `v.mirror` (the pairs
    `object[pair[string[inner], …]…]`, `array[…]`, `string[inner]`, `number`, `boolean`,
    `null` with the spans of the source). -/
theorem json_value_accepts (inp : Input) (v : Val) (s : S0) (post : Str) (hna : s.atomic = false)
    (hr : inp.toList.drop s.pos = v.text ++ post) (hf : HeadIs ValFollow post) :
    Conv Generated.examplesJson inp (.ident "value" none) s
      (.ok { s with pos := s.pos + v.text.length } [v.mirror .examples s.pos]) :=
  (val_ok examplesJson_rules v s post hna hr hf).conv (by simp)

/-- **`json_accepts` for examples/json/json.pest.**  For *every* RFC 8259 document
    whose top level is an array or object, written in any way the RFC allows, the
    specification of pest run on the regenerated grammar accepts the whole text and returns
    exactly the tree `mirror` (same nesting and member order as the document, number and
    string tokens spanning exactly their source text), for all sufficient fuel. -/
theorem json_accepts (d : Doc) (h : d.topLevelIsContainer) :
    ∃ N, ∀ n, N ≤ n →
      L0.parse Generated.examplesJson (render d).toArray n "json" 0
        = .ok ⟨(render d).length, [], false⟩ (mirror .examples d) :=
  parse_json_doc examplesJson_rules d h

/-- a concrete instance: ` [ -1.5e3 , { "a\n" : [ ] } ] ` with whitespace at every legal place -/
def exDoc : Doc :=
  { w1 := [.space],
    v := .arr (.cons [.space] (.num { neg := true, int := .nonzero 0 [], frac := some (5, []),
                                      exp := some { upper := false, sign := .none, d := 3, ds := [] } }) [.tab]
          (.one [.lf] (.obj (.one [.space] [.raw 97 (by decide), .esc .n] [.space] [.cr] (.arr0 [.space]) [.space]))
            [.space])),
    w2 := [.lf] }

example : exDoc.topLevelIsContainer := rfl
example : render exDoc = [32, 91, 32, 45, 49, 46, 53, 101, 51, 9, 44, 10, 123, 32, 34, 97, 92, 110, 34, 32, 58, 13,
    91, 32, 93, 32, 125, 32, 93, 10] := by decide +kernel

/-- the whole regenerated rule table of tests/grammars/json.pest: `json = { SOI ~ value ~ EOI }`,
    `value = { string | number | object | array | bool | null }` (a normal rule), the non-empty
    alternative of `object` / `array` first, the same trivia -/
theorem testsJson_rules : TDocRules Generated.testsJson where
  ws := ⟨⟨.grammar, by rfl⟩, by rfl, by rfl⟩
  strs := testsJson_string_rules
  nums := testsJson_number_rules
  object := by rfl
  array := by rfl
  pair := by rfl
  value := by rfl
  bool := by rfl
  null := by rfl
  json := by rfl
  eoi := by rfl

/-- every value for tests/grammars/json.pest: as `json_value_accepts`, every value wrapped in a
    `value` pair -/
theorem json_value_accepts_tests (inp : Input) (v : Val) (s : S0) (post : Str) (hna : s.atomic = false)
    (hr : inp.toList.drop s.pos = v.text ++ post) (hf : HeadIs ValFollow post) :
    Conv Generated.testsJson inp (.ident "value" none) s
      (.ok { s with pos := s.pos + v.text.length } [v.mirror .tests s.pos]) :=
  (tval_ok testsJson_rules v s post hna hr hf).conv (by simp)

/-- **`json_accepts` for tests/grammars/json.pest.**  Every RFC 8259 document (this
    grammar does not even need the top level to be a container) is accepted, with exactly the
    tree `mirror .tests`: `json[value[…], EOI]`. -/
theorem json_accepts_tests (d : Doc) :
    ∃ N, ∀ n, N ≤ n →
      L0.parse Generated.testsJson (render d).toArray n "json" 0
        = .ok ⟨(render d).length, [], false⟩ (mirror .tests d) :=
  parse_tjson_doc testsJson_rules d

def grammarOf : Flavour → Grammar
  | .examples => Generated.examplesJson
  | .tests => Generated.testsJson

/-- both regenerated tables pass the well-formedness check of the front end (evaluated once per table) -/
theorem wellFormed_json (fl : Flavour) : WF.wellFormed (grammarOf fl) = true := by
  cases fl <;> decide +kernel

/-- **C17, JSON half, acceptance.**  Every RFC 8259 JSON document whose top level is an array or
    object — every way of writing it — is accepted by both bundled grammars under the
    specification of pest's semantics, and the parse tree is `mirror`: the nesting and member
    order of the document, every number token spanning exactly the number as written, every
    string token (its `inner` pair, resp. its span minus the quotes) exactly the raw source
    slice. -/
theorem json_accepts_both (fl : Flavour) (d : Doc) (h : d.topLevelIsContainer) :
    ∃ N, ∀ n, N ≤ n →
      L0.parse (grammarOf fl) (render d).toArray n "json" 0
        = .ok ⟨(render d).length, [], false⟩ (mirror fl d) := by
  cases fl with
  | examples => exact json_accepts d h
  | tests => exact json_accepts_tests d

/-- **C17, JSON half, rejection.**  Every *proper prefix* of a rendered document
    whose top level is an array or object and which is written without trailing whitespace is
    rejected by both bundled grammars under the specification of pest's semantics: for all
    sufficient fuel the run of `json` on the prefix answers `.fail` — not success, not "stuck",
    not "out of fuel".  (Lemmas/JsonPrefix*.lean: wherever the input ends — inside whitespace,
    a literal, a string or an escape, a number, between the items of a container, before a
    colon — the construct that is cut fails, or, for a number, stops early with number
    characters left over; the enclosing loop `("," ~ item)*` then stops where neither a comma
    nor the closing bracket can follow, so every enclosing container fails, up to `json`.) -/
theorem json_rejects_prefix (fl : Flavour) (d : Doc) (h : d.topLevelIsContainer) (hw : d.noTrailingWs)
    (q : Str) (hq : q <+: render d) (hne : q ≠ render d) :
    ∃ N, ∀ n, N ≤ n → L0.parse (grammarOf fl) q.toArray n "json" 0 = .fail := by
  cases fl with
  | examples =>
    exact ex_parse_prefix_fail examplesJson_rules d h hw q
      (C07.spec_rule_total _ _ (wellFormed_json .examples) examplesJson_rules.number rfl none) hq hne
  | tests =>
    obtain ⟨_, hl⟩ := testsJson_number_rules.number
    exact t_parse_prefix_fail testsJson_rules d h hw q
      (C07.spec_rule_total _ _ (wellFormed_json .tests) hl (rfl : hasBit 4 SILENT = false) none) hq hne

/-- the hypotheses are met, e.g. by `exDoc` without its trailing line feed and its prefix
    ` [ -1.5e3 , { "a\n" : [ ]` (the closing `}` and `]` are missing) -/
example : ({ exDoc with w2 := [] } : Doc).noTrailingWs ∧
    (render { exDoc with w2 := [] }).take 25 <+: render { exDoc with w2 := [] } ∧
    (render { exDoc with w2 := [] }).take 25 ≠ render { exDoc with w2 := [] } := by
  refine ⟨rfl, List.take_prefix _ _, by decide⟩

/-! ## From the specification to the execution modes (models L1 = interpreter, LG = generated code)

  The theorems above are about L0.  C03 (`parse_agrees_with_spec`: L1 refines L0), C01/C07
  (`modes_agree`: LG = L1, no exception) and C02 (`optimizer_sound`: the optimized rule table
  means what the un-optimized one means) carry them to the models of the four execution modes.
  Their hypotheses are decidable checks on the rule table; they hold for both regenerated JSON
  tables and for their optimized versions (evaluated below), so nothing is assumed. -/

section Modes

/-- the rule table `Parser.from_grammar(text)` runs: the mirror of the optimizer with the
    exported default passes, applied to the regenerated table -/
def optOf (g : Grammar) : Grammar := (Opt.optimize g Opt.defaultPasses).getD g

theorem genShapeB_json (fl : Flavour) : C07.genShapeB (grammarOf fl) = true := by
  cases fl <;> decide +kernel

theorem callable_json (fl : Flavour) : C07.callable (grammarOf fl) "json" = true := by
  cases fl <;> decide +kernel

theorem wfCheck_json (fl : Flavour) : OptS.wfCheck (grammarOf fl) = true := by
  cases fl <;> decide +kernel

/-- the optimizer is run once on each table, and both checks are made on what it returns -/
theorem optimized_json (fl : Flavour) :
    (Opt.optimize (grammarOf fl) Opt.defaultPasses).any
      (fun g' => C07.genShapeB g' && C07.callable g' "json") = true := by
  cases fl <;> decide +kernel

example : C07.genShapeB Generated.examplesJson = true ∧ C07.genShapeB Generated.testsJson = true :=
  ⟨genShapeB_json .examples, genShapeB_json .tests⟩
example : C07.skipTotalB Generated.examplesJson = true ∧ C07.skipTotalB Generated.testsJson = true :=
  ⟨by decide +kernel, by decide +kernel⟩
example : C07.callable Generated.examplesJson "json" = true ∧ C07.callable Generated.testsJson "json" = true :=
  ⟨callable_json .examples, callable_json .tests⟩
example : OptS.wfCheck Generated.examplesJson = true ∧ OptS.wfCheck Generated.testsJson = true :=
  ⟨wfCheck_json .examples, wfCheck_json .tests⟩
example : WF.wellFormed Generated.examplesJson = true ∧ WF.wellFormed Generated.testsJson = true :=
  ⟨wellFormed_json .examples, wellFormed_json .tests⟩

theorem hyps_plain (fl : Flavour) :
    C07.GenShape (grammarOf fl) ∧ SkipTotal (grammarOf fl) ∧ C07.callable (grammarOf fl) "json" = true ∧
      C02.WF (grammarOf fl) :=
  have hwf := C02.wf_of_check (wfCheck_json fl)
  ⟨C07.genShape_of_genShapeB (genShapeB_json fl), C02.skipTotal_orig hwf, callable_json fl, hwf⟩

theorem hyps_opt (fl : Flavour) :
    Opt.optimize (grammarOf fl) Opt.defaultPasses = some (optOf (grammarOf fl)) ∧
      C07.GenShape (optOf (grammarOf fl)) ∧ SkipTotal (optOf (grammarOf fl)) ∧
      C07.callable (optOf (grammarOf fl)) "json" = true := by
  obtain ⟨g', hg', hchk⟩ := (Option.any_eq_true _ _).mp (optimized_json fl)
  rw [Bool.and_eq_true] at hchk
  rw [optOf, hg', Option.getD_some]
  exact ⟨rfl, C07.genShape_of_genShapeB hchk.1,
    C02.optimized_skip_total _ _ _ (fun p hp => hp) (hyps_plain fl).2.2.2 hg', hchk.2⟩

theorem gen_of_interp {g : Grammar} {inp : Input} (hgs : C07.GenShape g) (hsk : SkipTotal g)
    {start : String} (hcall : C07.callable g start = true) {n k : Nat} {m : Bool} {c : PState}
    {ps : List Pair} (h : L1.parse g inp n start k = .done m c ps) :
    ∃ cg psg, LG.parse g inp n start k = .done m cg psg ∧ (m = true → psg = ps ∧ cg.pos = c.pos) := by
  have hm := C07.modes_agree g inp hgs hsk start hcall n k
  rw [h] at hm
  revert hm
  cases LG.parse g inp n start k with
  | oof => intro hm; cases hm
  | exc e => intro hm; cases hm
  | done mg cg psg =>
    cases mg with
    | false =>
      rintro ⟨c1, ps1, hm, _⟩
      cases hm
      exact ⟨cg, psg, rfl, nofun⟩
    | true =>
      rintro ⟨c1, hm, hpos⟩
      cases hm
      exact ⟨cg, _, rfl, fun _ => ⟨rfl, hpos⟩⟩

/-- interpreter and generated code on one rule table, from what the specification says:
    success with the pairs `ps0` (up to tags) -/
theorem models_of_spec_ok (g : Grammar) (inp : Input) (hgs : C07.GenShape g) (hsk : SkipTotal g)
    {start : String} (hcall : C07.callable g start = true) {k : Nat} (s : S0) (ps0 : List Pair)
    (h : ∃ N, ∀ n, N ≤ n → L0.parse g inp n start k = .ok s ps0) :
    ∃ N, ∀ n, N ≤ n →
      (∃ c ps, L1.parse g inp n start k = .done true c ps ∧ eraseTagsL ps = ps0 ∧ c.pos = s.pos) ∧
      (∃ c ps, LG.parse g inp n start k = .done true c ps ∧ eraseTagsL ps = ps0 ∧ c.pos = s.pos) := by
  obtain ⟨N, h⟩ := h
  refine ⟨N, fun n hn => ?_⟩
  obtain ⟨c, ps, h1, hps, hpos⟩ := C02.interp_of_spec_ok g inp hsk (h n hn)
  obtain ⟨cg, psg, hg, hsame⟩ := gen_of_interp hgs hsk hcall h1
  obtain ⟨rfl, hcg⟩ := hsame rfl
  exact ⟨⟨c, psg, h1, hps, hpos⟩, cg, psg, hg, hps, hcg.trans hpos⟩

/-- … failure (`C07.modes_agree` relates verdict and furthest-failure position of a failed run,
    not the list the generated code was threading, so nothing is said about it) -/
theorem models_of_spec_fail (g : Grammar) (inp : Input) (hgs : C07.GenShape g) (hsk : SkipTotal g)
    {start : String} (hcall : C07.callable g start = true) {k : Nat}
    (h : ∃ N, ∀ n, N ≤ n → L0.parse g inp n start k = .fail) :
    ∃ N, ∀ n, N ≤ n →
      (∃ c, L1.parse g inp n start k = .done false c []) ∧
      (∃ c ps, LG.parse g inp n start k = .done false c ps) := by
  obtain ⟨N, h⟩ := h
  refine ⟨N, fun n hn => ?_⟩
  obtain ⟨c, h1⟩ := C02.interp_of_spec_fail g inp hsk (h n hn)
  obtain ⟨cg, psg, hg, _⟩ := gen_of_interp hgs hsk hcall h1
  exact ⟨⟨c, h1⟩, cg, psg, hg⟩

theorem spec_to_opt (fl : Flavour) (inp : Input) (r : R0) (hr : r ≠ .oof)
    (h : ∃ N, ∀ n, N ≤ n → L0.parse (grammarOf fl) inp n "json" 0 = r) :
    ∃ N, ∀ n, N ≤ n → L0.parse (optOf (grammarOf fl)) inp n "json" 0 = r := by
  obtain ⟨N, h⟩ := h
  obtain ⟨_, _, hcall, hwf⟩ := hyps_plain fl
  have hopt := (hyps_opt fl).1
  have hdef : (grammarOf fl).lookup "json" ≠ none := by
    intro e; simp [C07.callable, e] at hcall
  exact C02.parse_of_conv _ inp
    ((C02.optimizer_sound _ _ _ (fun p hp => hp) hwf hopt "json" hdef inp 0 (Nat.zero_le _) r).mp
      (C02.conv_of_parse _ inp (h N (Nat.le_refl _)) hr))

/-- What the specification says of `json` on one of the two tables it says of the optimized
    table (`spec_to_opt`); so whatever follows from it on a table with the three hypotheses
    (`models_of_spec_ok`, `models_of_spec_fail`) holds of both tables from one budget on. -/
theorem both_tables (fl : Flavour) (inp : Input) (r : R0) (hr : r ≠ .oof) (P : Grammar → Nat → Prop)
    (hP : ∀ g, C07.GenShape g → SkipTotal g → C07.callable g "json" = true →
      (∃ N, ∀ n, N ≤ n → L0.parse g inp n "json" 0 = r) → ∃ N, ∀ n, N ≤ n → P g n)
    (hspec : ∃ N, ∀ n, N ≤ n → L0.parse (grammarOf fl) inp n "json" 0 = r) :
    ∃ N, ∀ n, N ≤ n → P (grammarOf fl) n ∧ P (optOf (grammarOf fl)) n := by
  obtain ⟨hgs, hsk, hcall, _⟩ := hyps_plain fl
  obtain ⟨_, hgs', hsk', hcall'⟩ := hyps_opt fl
  obtain ⟨N1, h1⟩ := hP _ hgs hsk hcall hspec
  obtain ⟨N2, h2⟩ := hP _ hgs' hsk' hcall' (spec_to_opt fl _ _ hr hspec)
  exact ⟨max N1 N2, fun n hn =>
    ⟨h1 n (Nat.le_trans (Nat.le_max_left ..) hn), h2 n (Nat.le_trans (Nat.le_max_right ..) hn)⟩⟩

/-- **C17, JSON half, acceptance — the four execution modes (models).**  For every document
    whose top level is a container, with every sufficient recursion budget: the interpreter on
    the un-optimized table (`interp`), the interpreter on the optimized table (`opt`), the code
    generated from the un-optimized table (`gen`) and from the optimized table (`optgen`) all
    return pairs, and — tags aside — exactly the tree `mirror`, ending at the end of the text. -/
theorem json_modes_accept (fl : Flavour) (d : Doc) (h : d.topLevelIsContainer) :
    ∃ N, ∀ n, N ≤ n →
      (∃ c ps, L1.parse (grammarOf fl) (render d).toArray n "json" 0 = .done true c ps ∧
        eraseTagsL ps = mirror fl d ∧ c.pos = (render d).length) ∧
      (∃ c ps, LG.parse (grammarOf fl) (render d).toArray n "json" 0 = .done true c ps ∧
        eraseTagsL ps = mirror fl d ∧ c.pos = (render d).length) ∧
      (∃ c ps, L1.parse (optOf (grammarOf fl)) (render d).toArray n "json" 0 = .done true c ps ∧
        eraseTagsL ps = mirror fl d ∧ c.pos = (render d).length) ∧
      (∃ c ps, LG.parse (optOf (grammarOf fl)) (render d).toArray n "json" 0 = .done true c ps ∧
        eraseTagsL ps = mirror fl d ∧ c.pos = (render d).length) := by
  obtain ⟨N, hN⟩ := both_tables fl _ _ (by simp) _
    (fun g hgs hsk hcall hs => models_of_spec_ok g _ hgs hsk hcall _ _ hs) (json_accepts_both fl d h)
  exact ⟨N, fun n hn => and_assoc.1 (hN n hn)⟩

/-- **C17, JSON half, rejection — the four execution modes (models).**  Every proper prefix of
    such a document (written without trailing whitespace) makes all four raise
    `PestParsingError` (`.done false`), with every sufficient recursion budget. -/
theorem json_modes_reject_prefix (fl : Flavour) (d : Doc) (h : d.topLevelIsContainer) (hw : d.noTrailingWs)
    (q : Str) (hq : q <+: render d) (hne : q ≠ render d) :
    ∃ N, ∀ n, N ≤ n →
      (∃ c, L1.parse (grammarOf fl) q.toArray n "json" 0 = .done false c []) ∧
      (∃ c ps, LG.parse (grammarOf fl) q.toArray n "json" 0 = .done false c ps) ∧
      (∃ c, L1.parse (optOf (grammarOf fl)) q.toArray n "json" 0 = .done false c []) ∧
      (∃ c ps, LG.parse (optOf (grammarOf fl)) q.toArray n "json" 0 = .done false c ps) := by
  obtain ⟨N, hN⟩ := both_tables fl _ _ (by simp) _
    (fun g hgs hsk hcall hs => models_of_spec_fail g _ hgs hsk hcall hs)
    (json_rejects_prefix fl d h hw q hq hne)
  exact ⟨N, fun n hn => and_assoc.1 (hN n hn)⟩

end Modes

/-- the text of a document is as long as its pieces: the lengths the spans of `mirror` add up (not used above) -/
theorem render_length (d : Doc) :
    (render d).length = d.w1.length + d.v.text.length + d.w2.length := by
  simp [render, wsText]; omega

/-! ### what the theorems do *not* say, and what covers it on every run
    * L1, LG and `Opt` are hand-written models of the interpreter, of the generated code and of the
      optimizer; they are tied to the real code by the correspondence runs of C01–C04 (and, for the two
      JSON grammars in particular, by harness/eng_examples.py: the real parsers in the four modes against
      `mirror` through the driver, on generated documents and all their prefixes);
    * "mirrors json.loads": `mirror` is a statement about the document as written; that the spans it
      assigns decode to the values `json.loads` returns (numbers as floats, strings via the escapes) is
      checked by the harness on every generated document, not proved (there is no model of `json.loads`);
    * `Doc`/`render` (PestModel/Json.lean) is the model's reading of RFC 8259; the harness checks it against Python's
      `json` module on every generated document;
    * recursion budgets: "for all sufficient fuel" — Python's recursion limit is not modelled.
-/

end C17
end Pest
