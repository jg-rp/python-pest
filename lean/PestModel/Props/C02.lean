/-
  Props/C02.lean — property C02: "Optimizer passes never change what a grammar parses".

  Stated inside L0 (`Spec.lean`), fuel-independently (`L0.Conv`): for every pass list drawn from the
  exported default passes (any subset, order, repetition), every start rule, input, start
  position inside the input and result `r` (success with its end state and pairs, failure, or the
  `KeyError` of an undefined reference), the grammar `g` has meaning `r` iff the optimized
  grammar `g'` has.  The optimizer is `Opt.lean`, the mirror of `Optimizer.optimize` that the
  correspondence run compares tree-for-tree with the real one; L0 is what the interpreter (C03)
  and the generated code (C01) are proved to implement, for un-optimized and optimized rule
  tables alike — so the two readings of the property ("interpreted", "generated from the
  optimized rules") are the corollaries `opt_interp_agrees`, `optgen_agrees` below.

  The statement is an equivalence, so it also says: the optimized parser terminates exactly when
  the un-optimized one does (`terminates_of_conv`, once in each direction).  L0 has no tags; "the
  same parse tree" is up to tags.

  ## Hypotheses (`WF`, implied by the executable `OptS.wfCheck` of OptHyps.lean: `wf_of_check`)
  `_skip` has no `SkipUntil` branch, `inline_silent_rules` never inlines `WHITESPACE` / `COMMENT`,
  `_is_atomic` does not trust the name `SKIP` (`fix:` cd28459, ef95f87, a679cfa of /repo); with that
  the hypotheses are:
  * `nodes`  (`NodeOK`, Lemmas/OptSoundPass.lean, of every node of every rule body) — shapes the
      front end always builds: embedded rule objects are the built-ins, with the modifiers and
      bodies `inline_builtin` / `squash` / `skip` assume; a reference to a silent rule is to a rule
      whose modifier is `_` alone (one modifier per rule: `inline_silent_rules` tests the SILENT bit
      only, an `_@` rule would lose its atomicity); a `Choice` is not empty and a range is not
      reversed (neither can be loaded).
  * `noFused`  no grammar rule called `SKIP` has the modifier `SILENT+ATOMIC` by which
              `parse_trivia` recognises the fused rule (a rule called `SKIP` with any other
              modifier is an ordinary rule, and `_optimize_skip_rule` then leaves the table alone).
  * `skipRef`  `SKIP` is referenced only if the grammar defines it (else the reference is a
              `KeyError` un-optimized and the fused trivia rule optimized).
  * `wsProgress`  if `WHITESPACE` is fused, no alternative is the empty string (the un-optimized
              `parse_trivia` loop does not end on it, the fused regex does).
  * `k ≤ inp.size`  (`SkipUntil.parse` moves a position beyond the input *back* to its end).
  Every grammar shipped with the repository (examples/, tests/grammars/) satisfies `wfCheck`.
-/
import PestModel.Lemmas.OptSoundFinal
import PestModel.Props.C01
import PestModel.Lemmas.Refine

namespace Pest
namespace C02

open L0 OptS

abbrev WF (g : Grammar) : Prop := OptS.WF g

theorem wf_of_check {g : Grammar} (h : wfCheck g = true) : WF g := wfCheck_sound h

/-- the start state of `Parser.parse(start_rule, text, start_pos=k)` -/
abbrev s0 (k : Nat) : S0 := ⟨k, [], false⟩

/-- `optimize_sound` with no property of rule bodies to carry along -/
theorem optimize_sound_plain {g g' : Grammar} (hwf : WF g) (passes : List Opt.Pass)
    (hp : ∀ p ∈ passes, p ∈ Opt.defaultPasses) (h : Opt.optimize g passes = some g') :
    (∀ inp e s r, (g.lookup "SKIP" = none → NSR e) → s.pos ≤ inp.size →
      (Conv g inp e s r ↔ Conv g' inp e s r)) ∧ SkipTotal g' :=
  have hs := optimize_sound hwf passes hp (kept_true _) (fun _ _ => trivial) (fun _ => trivial)
    (fun _ _ => trivial) h
  ⟨hs.1, hs.2.1⟩

/-- C02 for every expression (not mentioning `SKIP`, unless the grammar defines it), from
    every state inside the input -/
theorem optimizer_sound_expr (g g' : Grammar) (passes : List Opt.Pass)
    (hp : ∀ p ∈ passes, p ∈ Opt.defaultPasses) (hwf : WF g) (h : Opt.optimize g passes = some g')
    (inp : Input) (e : Expr) (he : g.lookup "SKIP" = none → NSR e) (s : S0) (hs : s.pos ≤ inp.size) (r : R0) :
    Conv g inp e s r ↔ Conv g' inp e s r :=
  (optimize_sound_plain hwf passes hp h).1 inp e s r he hs

/-- **C02.**  The optimized grammar means what the un-optimized one means. -/
theorem optimizer_sound (g g' : Grammar) (passes : List Opt.Pass)
    (hp : ∀ p ∈ passes, p ∈ Opt.defaultPasses) (hwf : WF g) (h : Opt.optimize g passes = some g') :
    ∀ (start : String) (_ : g.lookup start ≠ none) (inp : Input) (k : Nat) (_ : k ≤ inp.size) (r : R0),
      Conv g inp (.ident start none) (s0 k) r ↔ Conv g' inp (.ident start none) (s0 k) r :=
  fun _ hs inp k hk r => optimizer_sound_expr g g' passes hp hwf h inp _ (NSR_start hs) (s0 k) hk r

/-- the fused trivia rule of the optimized grammar cannot fail, so C03 / C01 apply to it -/
theorem optimized_skip_total (g g' : Grammar) (passes : List Opt.Pass)
    (hp : ∀ p ∈ passes, p ∈ Opt.defaultPasses) (hwf : WF g) (h : Opt.optimize g passes = some g') :
    SkipTotal g' :=
  (optimize_sound_plain hwf passes hp h).2

theorem terminates_of_conv {g g' : Grammar} {inp : Input} {e e' : Expr} {s s' : S0}
    (h : ∀ r, Conv g inp e s r → Conv g' inp e' s' r) :
    (∃ n, run g inp n e s ≠ .oof) → ∃ n, run g' inp n e' s' ≠ .oof := by
  rintro ⟨n, hn⟩
  obtain ⟨m, hm, hr⟩ := h _ ⟨n, rfl, hn⟩
  exact ⟨m, by rw [hm]; exact hr⟩

/-- **Termination is preserved**: the optimized parser gives an answer (with enough recursion
    budget) exactly when the un-optimized one does -/
theorem optimizer_preserves_termination (g g' : Grammar) (passes : List Opt.Pass)
    (hp : ∀ p ∈ passes, p ∈ Opt.defaultPasses) (hwf : WF g) (h : Opt.optimize g passes = some g')
    (start : String) (hs : g.lookup start ≠ none) (inp : Input) (k : Nat) (hk : k ≤ inp.size) :
    (∃ n, run g inp n (.ident start none) (s0 k) ≠ .oof) ↔
    (∃ n, run g' inp n (.ident start none) (s0 k) ≠ .oof) := by
  have hsound := optimizer_sound g g' passes hp hwf h start hs inp k hk
  exact ⟨terminates_of_conv fun r => (hsound r).1, terminates_of_conv fun r => (hsound r).2⟩

/-- `optimize` keeps names and modifiers and adds at most the rule `SKIP` (no hypothesis) -/
theorem optimizer_keeps_signature (g g' : Grammar) (passes : List Opt.Pass)
    (h : Opt.optimize g passes = some g') (n : String) (hn : n ≠ "SKIP") :
    (g'.lookup n).map (fun r => (r.name, r.mod)) = (g.lookup n).map (fun r => (r.name, r.mod)) := by
  have := congrArg (Option.map fun t : String × Nat × RuleKind => (t.1, t.2.1)) (optimize_keeps_kind_ne h n hn)
  simp only [Option.map_map] at this
  exact this

/-- `optimize` keeps SOI-freeness (`soiFree` looks through embedded rule objects) -/
theorem optimizer_keeps_soiFree (g g' : Grammar) (passes : List Opt.Pass)
    (hp : ∀ p ∈ passes, p ∈ Opt.defaultPasses) (hwf : WF g) (h : Opt.optimize g passes = some g')
    (hs : soiFreeG g = true) : soiFreeG g' = true :=
  optimize_soiFree hwf hp h hs

/-! ### "interpreted" and "generated from the optimized rules" -/

theorem parse_eq_run (g : Grammar) (inp : Input) (fuel : Nat) (start : String) (k : Nat) :
    L0.parse g inp fuel start k = run g inp (fuel + 1) (.ident start none) (s0 k) :=
  parse_eq_callRule fuel start k

/-- an un-optimized table has no fused rule (`WF.noFused`): `SkipTotal` is vacuous for it -/
theorem skipTotal_orig {g : Grammar} (hwf : WF g) : SkipTotal g := .of_noFused hwf.noFused

theorem parse_of_conv (g : Grammar) (inp : Input) {start : String} {k : Nat} {r : R0}
    (hc : Conv g inp (.ident start none) (s0 k) r) :
    ∃ n, ∀ f, n ≤ f → L0.parse g inp f start k = r := by
  obtain ⟨n, hn, hne⟩ := hc
  refine ⟨n, fun f hf => ?_⟩
  rw [parse_eq_run]
  exact Conv.mono g inp hn hne (by omega)

theorem conv_of_parse (g : Grammar) (inp : Input) {start : String} {k f : Nat} {r : R0}
    (h0 : L0.parse g inp f start k = r) (hne : r ≠ .oof) :
    Conv g inp (.ident start none) (s0 k) r :=
  (parseC_iff none).1 ⟨f, h0, hne⟩

theorem interp_of_spec_ok (g : Grammar) (inp : Input) (hst : SkipTotal g) {f : Nat} {start : String}
    {k : Nat} {s : S0} {qs : List Pair} (h0 : L0.parse g inp f start k = .ok s qs) :
    ∃ c ps, L1.parse g inp f start k = .done true c ps ∧ eraseTagsL ps = qs ∧ c.pos = s.pos :=
  let ⟨c, ps, e, a, b⟩ := C08.obs_ok ((C08.parse_obs hst f start k).symm.trans h0)
  ⟨c, ps, e, b, a ▸ rfl⟩

theorem interp_of_spec_fail (g : Grammar) (inp : Input) (hst : SkipTotal g) {f : Nat} {start : String}
    {k : Nat} (h0 : L0.parse g inp f start k = .fail) :
    ∃ c, L1.parse g inp f start k = .done false c [] := by
  have hc := parse_rel g inp hst f start k
  rw [h0] at hc
  exact hc.of_fail

/-- Two tables, both `SkipTotal`, every meaning of the first a meaning of the second: whatever the
    interpreter answers on the first it answers on the second from some fuel on (same verdict, end
    position, pairs up to tags). -/
theorem interp_transfer {gA gB : Grammar} {inp : Input} (hA : SkipTotal gA) (hB : SkipTotal gB)
    {start : String} {k : Nat}
    (hE : ∀ r, Conv gA inp (.ident start none) (s0 k) r → Conv gB inp (.ident start none) (s0 k) r)
    {fuel : Nat} {m : Bool} {c : PState} {ps : List Pair}
    (hr : L1.parse gA inp fuel start k = .done m c ps) :
    ∃ fuel0, ∀ f, fuel0 ≤ f → ∃ c1 ps1, L1.parse gB inp f start k = .done m c1 ps1 ∧
      eraseTagsL ps1 = eraseTagsL ps ∧ (m = true → c1.pos = c.pos) := by
  have hc := parse_rel gA inp hA fuel start k
  rw [hr] at hc
  cases m with
  | true =>
    obtain ⟨n, hn⟩ := parse_of_conv gB inp (hE _ (conv_of_parse gA inp hc.1 (by simp)))
    refine ⟨n, fun f hf => ?_⟩
    obtain ⟨c1, ps1, e, he, hp1⟩ := interp_of_spec_ok gB inp hB (hn f hf)
    exact ⟨c1, ps1, e, he, fun _ => hp1⟩
  | false =>
    obtain ⟨n, hn⟩ := parse_of_conv gB inp (hE _ (conv_of_parse gA inp hc.1 (by simp)))
    refine ⟨n, fun f hf => ?_⟩
    obtain ⟨c1, e⟩ := interp_of_spec_fail gB inp hB (hn f hf)
    exact ⟨c1, [], e, by rw [hc.2.1], fun h => absurd h (by simp)⟩

/-- **The interpreter on the optimized rules.**  Whatever `Parser.parse` answers with the
    optimized rule table — pairs, failure, `KeyError` — is the meaning of the *un-optimized*
    grammar. -/
theorem opt_interp_agrees (g g' : Grammar) (passes : List Opt.Pass)
    (hp : ∀ p ∈ passes, p ∈ Opt.defaultPasses) (hwf : WF g) (h : Opt.optimize g passes = some g')
    (start : String) (hs : g.lookup start ≠ none) (inp : Input) (k : Nat) (hk : k ≤ inp.size) (fuel : Nat) :
    match L1.parse g' inp fuel start k with
    | .oof => True
    | .exc e => e = .keyError ∧ Conv g inp (.ident start none) (s0 k) .stuck
    | .done true c ps =>
      ∃ s, Conv g inp (.ident start none) (s0 k) (.ok s (eraseTagsL ps)) ∧ s.pos = c.pos ∧ s.stk = c.ustack.items
    | .done false _ ps => Conv g inp (.ident start none) (s0 k) .fail ∧ ps = [] := by
  have hst := optimized_skip_total g g' passes hp hwf h
  have hsound := optimizer_sound g g' passes hp hwf h start hs inp k hk
  have hc := parse_rel g' inp hst fuel start k
  rw [parse_eq_run] at hc
  have cv : run g' inp (fuel + 1) (.ident start none) (s0 k) ≠ .oof →
      Conv g inp (.ident start none) (s0 k) (run g' inp (fuel + 1) (.ident start none) (s0 k)) :=
    fun hne => (hsound _).2 ⟨fuel + 1, rfl, hne⟩
  generalize run g' inp (fuel + 1) (.ident start none) (s0 k) = r0 at hc cv
  generalize L1.parse g' inp fuel start k = r1 at hc
  revert cv
  exact hc.elim (fun _ => trivial) (fun cv => ⟨rfl, cv (by simp)⟩)
    (fun c ps _ cv => ⟨abs0 c, cv (by simp), rfl, rfl⟩) (fun c _ cv => ⟨cv (by simp), rfl⟩)

/-- … and then the interpreter on the un-optimized rules gives the same verdict, the same end
    position and the same pairs (up to tags), with every sufficiently large recursion budget. -/
theorem opt_interp_vs_plain (g g' : Grammar) (passes : List Opt.Pass)
    (hp : ∀ p ∈ passes, p ∈ Opt.defaultPasses) (hwf : WF g) (h : Opt.optimize g passes = some g')
    (start : String) (hs : g.lookup start ≠ none) (inp : Input) (k : Nat) (hk : k ≤ inp.size) (fuel : Nat)
    (m : Bool) (c : PState) (ps : List Pair) (hr : L1.parse g' inp fuel start k = .done m c ps) :
    ∃ fuel0, ∀ f, fuel0 ≤ f → ∃ c1 ps1, L1.parse g inp f start k = .done m c1 ps1 ∧
      eraseTagsL ps1 = eraseTagsL ps ∧ (m = true → c1.pos = c.pos) :=
  interp_transfer (optimized_skip_total g g' passes hp hwf h) (skipTotal_orig hwf)
    (fun r => (optimizer_sound g g' passes hp hwf h start hs inp k hk r).2) hr

/-- **Code generated from the optimized rules.**  Whatever the generated module's `parse()`
    answers is the meaning of the un-optimized grammar (and exactly what the interpreter on the
    optimized rules answers: C01). -/
theorem optgen_agrees (g g' : Grammar) (passes : List Opt.Pass)
    (hp : ∀ p ∈ passes, p ∈ Opt.defaultPasses) (hwf : WF g) (h : Opt.optimize g passes = some g')
    (start : String) (hs : g.lookup start ≠ none) (inp : Input) (k : Nat) (hk : k ≤ inp.size) (fuel : Nat) :
    match LG.parse g' inp fuel start k with
    | .done true cg ps =>
      ∃ s, Conv g inp (.ident start none) (s0 k) (.ok s (eraseTagsL ps)) ∧ s.pos = cg.pos
    | .done false _ _ => Conv g inp (.ident start none) (s0 k) .fail
    | _ => True := by
  have hst := optimized_skip_total g g' passes hp hwf h
  have hgen := C01.generated_parse_eq g' inp hst fuel start k
  have hint := opt_interp_agrees g g' passes hp hwf h start hs inp k hk fuel
  revert hgen
  cases LG.parse g' inp fuel start k with
  | oof => intro _; trivial
  | exc e => intro _; trivial
  | done m cg ps =>
    cases m with
    | true =>
      intro hgen
      obtain ⟨c1, h1, h2⟩ := hgen
      rw [h1] at hint
      obtain ⟨s, hc, hpos, _⟩ := hint
      exact ⟨s, hc, by rw [hpos, h2]⟩
    | false =>
      intro hgen
      obtain ⟨c1, ps1, h1, _⟩ := hgen
      rw [h1] at hint
      exact hint.1

/-! ### Non-vacuity: a grammar on which every pass and the fusion rewrite something -/

def anyN : Expr := .rule "ANY" 2 true .anyB
def digitN : Expr := .rule "ASCII_DIGIT" 2 true (.range 48 57)

/-- `WHITESPACE = _{ " " | "\t" }`, `r = { "a" ~ d+ ~ s? ~ tail }`, `d = _{ ASCII_DIGIT }`,
    `s = _{ "x" | "y" }`, `tail = @{ (!("/" | "#") ~ ANY)* }` -/
def demoG : Grammar :=
  { rules := [
      ⟨"WHITESPACE", SILENT, .choice [.str [32], .str [9]], .grammar⟩,
      ⟨"r", 0, .seq [.str [97], .rep1 (.ident "d" none), .opt (.ident "s" none), .ident "tail" none], .grammar⟩,
      ⟨"d", SILENT, digitN, .grammar⟩,
      ⟨"s", SILENT, .choice [.str [120], .str [121]], .grammar⟩,
      ⟨"tail", ATOMIC,
        .rep (.group (.seq [.notP (.group (.choice [.str [47], .str [35]]) none), anyN]) none), .grammar⟩] }

def optG (g : Grammar) : Grammar := (Opt.optimize g Opt.defaultPasses).getD g

mutual
/-- a sufficient test for `a = b` that returns the proof (there is no `DecidableEq Expr`), on the
    node kinds of `optG demoG`: the optimizer then runs once for all the examples about it -/
def sameExpr : (a b : Expr) → Option (PLift (a = b))
  | .str s, .str s' => if h : s = s' then some ⟨h ▸ rfl⟩ else none
  | .range lo hi, .range lo' hi' => if h : lo = lo' ∧ hi = hi' then some ⟨h.1 ▸ h.2 ▸ rfl⟩ else none
  | .ident n t, .ident n' t' => if h : n = n' ∧ t = t' then some ⟨h.1 ▸ h.2 ▸ rfl⟩ else none
  | .skipUntil ss, .skipUntil ss' => if h : ss = ss' then some ⟨h ▸ rfl⟩ else none
  | .optChoice al st, .optChoice al' st' => if h : al = al' ∧ st = st' then some ⟨h.1 ▸ h.2 ▸ rfl⟩ else none
  | .opt a, .opt b => match sameExpr a b with | some ⟨h⟩ => some ⟨h ▸ rfl⟩ | none => none
  | .rep a, .rep b => match sameExpr a b with | some ⟨h⟩ => some ⟨h ▸ rfl⟩ | none => none
  | .seq as, .seq bs => match sameExprs as bs with | some ⟨h⟩ => some ⟨h ▸ rfl⟩ | none => none
  | _, _ => none
def sameExprs : (as bs : List Expr) → Option (PLift (as = bs))
  | [], [] => some ⟨rfl⟩
  | a :: as, b :: bs =>
    match sameExpr a b, sameExprs as bs with
    | some ⟨h1⟩, some ⟨h2⟩ => some ⟨h1 ▸ h2 ▸ rfl⟩
    | _, _ => none
  | _, _ => none
end

def sameRules : (as bs : List Rule) → Option (PLift (as = bs))
  | [], [] => some ⟨rfl⟩
  | ⟨n, m, b, k⟩ :: as, ⟨n', m', b', k'⟩ :: bs =>
    if h : n = n' ∧ m = m' ∧ k = k' then
      match sameExpr b b', sameRules as bs with
      | some ⟨h1⟩, some ⟨h2⟩ => some ⟨h.1 ▸ h.2.1 ▸ h.2.2 ▸ h1 ▸ h2 ▸ rfl⟩
      | _, _ => none
    else none
  | _, _ => none

def sameGrammar (o : Option Grammar) (g' : Grammar) : Bool :=
  match o with
  | some g => decide (g.usets = g'.usets) && (sameRules g.rules g'.rules).isSome
  | none => false

theorem eq_of_sameGrammar {o : Option Grammar} {g' : Grammar} (h : sameGrammar o g' = true) : o = some g' := by
  cases o with
  | none => cases h
  | some g =>
    simp only [sameGrammar, Bool.and_eq_true, decide_eq_true_eq] at h
    cases g; cases g'
    cases hs : sameRules _ _ with
    | none => rw [hs] at h; cases h.2
    | some p => cases p.down; cases h.1; rfl

def demoOpt : Grammar :=
  { rules := [
      ⟨"WHITESPACE", 2, .optChoice [.lit [32] false, .lit [9] false] false, .grammar⟩,
      ⟨"r", 0, .seq [.str [97], .seq [.range 48 57, .rep (.range 48 57)],
        .opt (.optChoice [.lit [120] false, .lit [121] false] false), .ident "tail" none], .grammar⟩,
      ⟨"d", 2, .range 48 57, .grammar⟩,
      ⟨"s", 2, .optChoice [.lit [120] false, .lit [121] false] false, .grammar⟩,
      ⟨"tail", 4, .skipUntil [[47], [35]], .grammar⟩,
      ⟨"SKIP", 6, .optChoice [.lit [32] false, .lit [9] false] true, .grammar⟩] }

theorem optimize_demoG : Opt.optimize demoG Opt.defaultPasses = some demoOpt :=
  eq_of_sameGrammar (by decide +kernel)

theorem optG_demoG : optG demoG = demoOpt := by
  unfold optG
  rw [optimize_demoG]
  rfl

example : wfCheck demoG = true := by decide +kernel

/-- what the default optimizer makes of `demoG`: the fused `SKIP`, the unrolled and inlined `r`,
    the squashed `s`, the `SkipUntil` in `tail` -/
def demoRewritten (g' : Grammar) : Bool :=
  (match g'.lookup "SKIP" with
   | some ⟨_, 6, .optChoice [.lit [32] false, .lit [9] false] true, _⟩ => true | _ => false) &&
  (match g'.lookup "r" with
   | some ⟨_, _, .seq [.str [97], .seq [.range 48 57, .rep (.range 48 57)],
        .opt (.optChoice [.lit [120] false, .lit [121] false] false), .ident "tail" none], _⟩ => true
   | _ => false) &&
  (match g'.lookup "tail" with | some ⟨_, _, .skipUntil [[47], [35]], _⟩ => true | _ => false)

example : (Opt.optimize demoG Opt.defaultPasses).isSome = true ∧ demoRewritten (optG demoG) = true := by
  rw [optimize_demoG, optG_demoG]
  decide +kernel

def endOf : R0 → Option (Nat × Nat)
  | .ok s ps => some (s.pos, ps.length)
  | _ => none

/-- `a 12 y  hello/…`: both grammars consume up to the `/` and yield one pair -/
example : endOf (L0.parse demoG #[97, 32, 49, 50, 32, 121, 32, 104, 105, 47, 33] 30 "r" 0) = some (9, 1) ∧
    endOf (L0.parse (optG demoG) #[97, 32, 49, 50, 32, 121, 32, 104, 105, 47, 33] 30 "r" 0) = some (9, 1) := by
  rw [optG_demoG]
  decide +kernel

/-- a COMMENT-only grammar (fusion `SKIP = Repeat(COMMENT.expression)`), a built-in whose
    `with_children` makes a new object (`NEWLINE`), and an explicit reference to the silent trivia
    rule inside an atomic rule (which `inline_silent_rules` leaves alone) -/
def newlineN : Expr := .rule "NEWLINE" 2 false (.choice [.str [10], .str [13, 10], .str [13]])

def demoG2 : Grammar :=
  { rules := [
      ⟨"COMMENT", SILENT, .seq [.str [35], .rep (.group (.seq [.notP newlineN, anyN]) none)], .grammar⟩,
      ⟨"line", 0, .seq [.ident "word" none, .rep (.ident "word" none), newlineN], .grammar⟩,
      ⟨"word", ATOMIC, .seq [.rep1 (.rule "ASCII_ALPHA" 2 true (.choice [.range 97 122, .range 65 90])),
                             .opt (.ident "COMMENT" none)], .grammar⟩] }

example : wfCheck demoG2 = true ∧ (Opt.optimize demoG2 Opt.defaultPasses).isSome = true ∧
    (match (optG demoG2).lookup "SKIP", (optG demoG2).lookup "word" with
     | some ⟨_, 6, .rep (.seq [.str [35], .skipUntil [[10], [13, 10], [13]]]), _⟩,
       some ⟨_, _, .seq [.seq [.optChoice _ false, .rep (.optChoice _ false)],
                        .opt (.ident "COMMENT" none)], _⟩ => true
     | _, _ => false) = true := by decide +kernel

example : endOf (L0.parse demoG2 #[97, 98, 35, 120, 10, 99, 10] 40 "line" 0) = some (5, 1) ∧
    endOf (L0.parse (optG demoG2) #[97, 98, 35, 120, 10, 99, 10] 40 "line" 0) = some (5, 1) := by
  decide +kernel

/-! ### The grammars of `fix:` cd28459 (`_skip`), ef95f87 (`inline_silent_rules`), a679cfa (`_is_atomic`) of /repo: the optimizer keeps the result -/

/-- `x = @{ (!"a" ~ ANY)* }`, `y = @{ (!x ~ ANY)* }`: `_skip` does not walk from `!x` into the
    `SkipUntil` that `x` has become -/
def badChain : Grammar :=
  { rules := [
      ⟨"x", ATOMIC, .rep (.group (.seq [.notP (.str [97]), anyN]) none), .grammar⟩,
      ⟨"y", ATOMIC, .rep (.group (.seq [.notP (.ident "x" none), anyN]) none), .grammar⟩] }

example : wfCheck badChain = true ∧
    endOf (L0.parse badChain #[98, 98, 97] 20 "y" 0) = some (0, 1) ∧
    endOf (L0.parse (optG badChain) #[98, 98, 97] 20 "y" 0) = some (0, 1) := by decide +kernel

/-- `WHITESPACE = _{ "a" ~ "b" }`, `x = { "<" ~ WHITESPACE ~ ">" }`: the silent trivia rule is
    not inlined -/
def badInline : Grammar :=
  { rules := [
      ⟨"WHITESPACE", SILENT, .seq [.str [97], .str [98]], .grammar⟩,
      ⟨"x", 0, .seq [.str [60], .ident "WHITESPACE" none, .str [62]], .grammar⟩] }

example : wfCheck badInline = true ∧
    endOf (L0.parse badInline #[60, 97, 97, 98, 98, 62] 20 "x" 0) = none ∧
    endOf (L0.parse (optG badInline) #[60, 97, 97, 98, 98, 62] 20 "x" 0) = none := by decide +kernel

/-- `WHITESPACE = _{ " " }`, `SKIP = { (!"y" ~ ANY)* }`: a grammar rule that happens to be called
    `SKIP` is an ordinary rule -/
def badSkipName : Grammar :=
  { rules := [
      ⟨"WHITESPACE", SILENT, .str [32], .grammar⟩,
      ⟨"SKIP", 0, .rep (.group (.seq [.notP (.str [121]), anyN]) none), .grammar⟩] }

example : wfCheck badSkipName = true ∧
    endOf (L0.parse badSkipName #[97, 32, 121] 20 "SKIP" 0) = some (1, 1) ∧
    endOf (L0.parse (optG badSkipName) #[97, 32, 121] 20 "SKIP" 0) = some (1, 1) := by decide +kernel

/-! ### The hypotheses are needed: the mirrored optimizer changes the meaning without -/

/-- `COMMENT = _{ "#" }`, `x = { "a" ~ SKIP }`: an undefined reference to `SKIP` is a `KeyError`
    un-optimized and the fused trivia rule optimized (hypothesis `skipRef`) -/
def badSkipRef : Grammar :=
  { rules := [
      ⟨"COMMENT", SILENT, .str [35], .grammar⟩,
      ⟨"x", 0, .seq [.str [97], .ident "SKIP" none], .grammar⟩] }

example : wfCheck badSkipRef = false ∧
    endOf (L0.parse badSkipRef #[97, 35] 20 "x" 0) = none ∧
    endOf (L0.parse (optG badSkipRef) #[97, 35] 20 "x" 0) = some (2, 1) := by decide +kernel

/-- a rule called `SKIP` with the modifier `SILENT+ATOMIC` (the front end cannot build it) is what
    `parse_trivia` runs, but the optimizer does not know (hypothesis `noFused`) -/
def badFused : Grammar :=
  { rules := [
      ⟨"SKIP", SILENT + ATOMIC, .str [32], .grammar⟩,
      ⟨"x", 0, .rep (.group (.seq [.notP (.str [98]), anyN]) none), .grammar⟩] }

example : wfCheck badFused = false ∧
    endOf (L0.parse badFused #[97, 32, 98] 20 "x" 0) = some (1, 1) ∧
    endOf (L0.parse (optG badFused) #[97, 32, 98] 20 "x" 0) = some (2, 1) := by decide +kernel

/-- `WHITESPACE = _{ "" | " " }`: rejected by `wfCheck` (hypothesis `wsProgress`; the un-optimized
    `parse_trivia` loop does not terminate on it, which `decide` cannot show) -/
def badEmptyWS : Grammar :=
  { rules := [
      ⟨"WHITESPACE", SILENT, .choice [.str [], .str [32]], .grammar⟩,
      ⟨"x", 0, .seq [.str [97], .str [98]], .grammar⟩] }

example : wfCheck badEmptyWS = false := by decide +kernel

/-- a start position beyond the end of the input: `SkipUntil` moves it back (hypothesis `k ≤ inp.size`) -/
def beyond : Grammar :=
  { rules := [⟨"t", ATOMIC, .rep (.group (.seq [.notP (.str [97]), anyN]) none), .grammar⟩] }

example : wfCheck beyond = true ∧
    endOf (L0.parse beyond #[98] 20 "t" 3) = some (3, 1) ∧
    endOf (L0.parse (optG beyond) #[98] 20 "t" 3) = some (1, 1) := by decide +kernel

end C02
end Pest
