/-
  Props/AllModes.lean — the per-property theorems composed with C02, for the two OPTIMIZED
  execution modes.

  The four execution modes are: the interpreter (`L1.parse g`), generated code (`LG.parse g`),
  and the same two run on the optimized rule table `g'` (`Opt.optimize g passes = some g'`).
  The property files C06 / C07 / C13 / C16 / C04 / C05 are stated for an arbitrary rule table
  under hypotheses on *that* table (`SkipTotal`, `SOIFree`, …).  Here those hypotheses are
  discharged for `g'` from hypotheses on the ORIGINAL grammar `g` only, through the optimizer
  theorems of C02.  Standing hypotheses everywhere:

      hwf : OptS.WF g                          (implied by `OptS.wfCheck g = true`: `wfCheck_sound`)
      hp  : ∀ p ∈ passes, p ∈ Opt.defaultPasses
      h   : Opt.optimize g passes = some g'

  plus what the base theorem needs of `g`; of `g'` only `opt_parse_total` asks something (the
  shape hypotheses of C07's generated half).
-/
import PestModel.Props.C01
import PestModel.Props.C02
import PestModel.Props.C03
import PestModel.Props.C04
import PestModel.Props.C05
import PestModel.Props.C06
import PestModel.Props.C07
import PestModel.Props.C13
import PestModel.Props.C16
import PestModel.Lemmas.OptSoundKeeps

namespace Pest
namespace AllModes

open L0 OptS

section
variable {g g' : Grammar} {passes : List Opt.Pass}

theorem opt_skipTotal (hwf : OptS.WF g) (hp : ∀ p ∈ passes, p ∈ Opt.defaultPasses)
    (h : Opt.optimize g passes = some g') : SkipTotal g' :=
  C02.optimized_skip_total g g' passes hp hwf h

theorem opt_interp_spec (hwf : OptS.WF g) (hp : ∀ p ∈ passes, p ∈ Opt.defaultPasses)
    (h : Opt.optimize g passes = some g') (inp : Input) (fuel : Nat) (start : String)
    (hs : g.lookup start ≠ none) (k : Nat) (hk : k ≤ inp.size) (c : PState) (ps : List Pair)
    (hr : L1.parse g' inp fuel start k = .done true c ps) :
    ∃ n s, L0.parse g inp n start k = .ok s (eraseTagsL ps) ∧ s.pos = c.pos := by
  have ha := C02.opt_interp_agrees g g' passes hp hwf h start hs inp k hk fuel
  rw [hr] at ha
  obtain ⟨s, hc, hpos, _⟩ := ha
  obtain ⟨n, hn⟩ := C02.parse_of_conv g inp hc
  exact ⟨n, s, hn n (Nat.le_refl _), hpos⟩

/-! ### C06 — parse trees of the optimized modes are well-formed -/

/-- **C06, interpreter on the optimized table.**  `SkipTotal g'` is `C02.optimized_skip_total`. -/
theorem opt_interp_tree_wf (hwf : OptS.WF g) (hp : ∀ p ∈ passes, p ∈ Opt.defaultPasses)
    (h : Opt.optimize g passes = some g') (inp : Input) (fuel : Nat) (start : String) (k : Nat)
    (c : PState) (ps : List Pair) (hr : L1.parse g' inp fuel start k = .done true c ps)
    (hk : k ≤ inp.size) : C06.GoodTree g' inp start k c.pos ps :=
  C06.interp_tree_wf g' inp (opt_skipTotal hwf hp h) fuel start k c ps hr hk

/-- **C06, code generated from the optimized table.** -/
theorem opt_gen_tree_wf (hwf : OptS.WF g) (hp : ∀ p ∈ passes, p ∈ Opt.defaultPasses)
    (h : Opt.optimize g passes = some g') (inp : Input) (fuel : Nat) (start : String) (k : Nat)
    (cg : PState) (ps : List Pair) (hr : LG.parse g' inp fuel start k = .done true cg ps)
    (hk : k ≤ inp.size) : C06.GoodTree g' inp start k cg.pos ps :=
  C06.gen_tree_wf g' inp (opt_skipTotal hwf hp h) fuel start k cg ps hr hk

def OrigName (g : Grammar) (nm : String) : Prop :=
  (∃ r ∈ g.rules, r.name = nm ∧ hasBit r.mod SILENT = false) ∨ nm = "EOI"

/-- what `C06.GNameOK g nm` ("`nm` names a non-silent rule of the table, or a non-silent rule object
    embedded in a rule body") comes to under `OptS.WF g`: the only non-silent embedded rule object
    is `EOI` (`NodeOK`) -/
theorem gNameOK_orig (hwf : OptS.WF g) {nm : String} (hn : C06.GNameOK g nm) : OrigName g nm := by
  rcases hn with hn | ⟨mod, sm, body, hr, hS⟩
  · exact Or.inl hn
  · have ha : AllN (NodeOK (sigOf g)) (.rule nm mod sm body) :=
      allN_sub hwf.nodes hr.rule_sub ⟨trivial, trivial⟩
    have hnode : NodeOK (sigOf g) (.rule nm mod sm body) := ha.1
    by_cases he : nm = "EOI"
    · exact Or.inr he
    · have := (hnode.plainSilent he).1
      rw [hS] at this
      cases this

/-- **Names, against the original grammar** (interpreter on the optimized table): every pair at
    every depth carries a name `C06.GNameOK g` accepts — hence the name of a non-silent rule of
    the table of `g`, or `EOI`.  (Not via the rule table of `g'`: the pairs *are* the pairs of an
    L0 run of `g`, by C02.) -/
theorem opt_interp_names (hwf : OptS.WF g) (hp : ∀ p ∈ passes, p ∈ Opt.defaultPasses)
    (h : Opt.optimize g passes = some g') (inp : Input) (fuel : Nat) (start : String)
    (hs : g.lookup start ≠ none) (k : Nat) (hk : k ≤ inp.size) (c : PState) (ps : List Pair)
    (hr : L1.parse g' inp fuel start k = .done true c ps) :
    AllPairs (fun p => C06.GNameOK g p.name) ps ∧ AllPairs (fun p => OrigName g p.name) ps := by
  obtain ⟨n, s, h0, _⟩ := opt_interp_spec hwf hp h inp fuel start hs k hk c ps hr
  have h1 : AllPairs (fun p => C06.GNameOK g p.name) ps := C06.names_of_spec g inp h0
  exact ⟨h1, h1.mono fun p hp' => gNameOK_orig hwf hp'⟩

/-- the same for code generated from the optimized table -/
theorem opt_gen_names (hwf : OptS.WF g) (hp : ∀ p ∈ passes, p ∈ Opt.defaultPasses)
    (h : Opt.optimize g passes = some g') (inp : Input) (fuel : Nat) (start : String)
    (hs : g.lookup start ≠ none) (k : Nat) (hk : k ≤ inp.size) (cg : PState) (ps : List Pair)
    (hr : LG.parse g' inp fuel start k = .done true cg ps) :
    AllPairs (fun p => C06.GNameOK g p.name) ps ∧ AllPairs (fun p => OrigName g p.name) ps := by
  obtain ⟨c1, h1, _⟩ := C06.gen_same_tree g' inp fuel start k cg ps hr
  exact opt_interp_names hwf hp h inp fuel start hs k hk c1 ps h1

/-- in particular the fused trivia rule never names a pair (when `g` has no rule `SKIP` of its own) -/
theorem opt_interp_no_skip_pair (hwf : OptS.WF g) (hp : ∀ p ∈ passes, p ∈ Opt.defaultPasses)
    (h : Opt.optimize g passes = some g') (hns : g.lookup "SKIP" = none) (inp : Input) (fuel : Nat)
    (start : String) (hs : g.lookup start ≠ none) (k : Nat) (hk : k ≤ inp.size) (c : PState)
    (ps : List Pair) (hr : L1.parse g' inp fuel start k = .done true c ps) :
    ∀ p ∈ flattenL ps, p.name ≠ "SKIP" := by
  intro p hp' he
  have hn := (opt_interp_names hwf hp h inp fuel start hs k hk c ps hr).2.flatten p hp'
  rw [he] at hn
  rcases hn with ⟨r, hr', hnm, _⟩ | hn
  · unfold Grammar.lookup at hns
    rw [List.find?_eq_none] at hns
    exact hns r hr' (by simp [hnm])
  · exact absurd hn (by decide)

/-- **One root pair, against the original grammar**: a start rule that is non-silent *in `g`*
    yields one root pair with that rule's name and modifier, spanning `[k, end]` -/
theorem opt_interp_root_single (hwf : OptS.WF g) (hp : ∀ p ∈ passes, p ∈ Opt.defaultPasses)
    (h : Opt.optimize g passes = some g') (inp : Input) (fuel : Nat) (start : String) (k : Nat)
    (hk : k ≤ inp.size) (c : PState) (ps : List Pair) (r : Rule) (hl : g.lookup start = some r)
    (hS : hasBit r.mod SILENT = false) (hr : L1.parse g' inp fuel start k = .done true c ps) :
    ∃ ch t, ps = [.mk r.name r.mod k c.pos ch t] := by
  obtain ⟨n, s, h0, hpos⟩ := opt_interp_spec hwf hp h inp fuel start (by rw [hl]; simp) k hk c ps hr
  rw [← hpos]
  exact C06.root_of_spec g inp hl hS h0

theorem opt_gen_root_single (hwf : OptS.WF g) (hp : ∀ p ∈ passes, p ∈ Opt.defaultPasses)
    (h : Opt.optimize g passes = some g') (inp : Input) (fuel : Nat) (start : String) (k : Nat)
    (hk : k ≤ inp.size) (cg : PState) (ps : List Pair) (r : Rule) (hl : g.lookup start = some r)
    (hS : hasBit r.mod SILENT = false) (hr : LG.parse g' inp fuel start k = .done true cg ps) :
    ∃ ch t, ps = [.mk r.name r.mod k cg.pos ch t] := by
  obtain ⟨c1, h1, hpos⟩ := C06.gen_same_tree g' inp fuel start k cg ps hr
  rw [hpos]
  exact opt_interp_root_single hwf hp h inp fuel start k hk c1 ps r hl hS h1

/-! ### C16 — shift invariance and no look-behind for the optimized modes -/

theorem opt_soiFree (hwf : OptS.WF g) (hp : ∀ p ∈ passes, p ∈ Opt.defaultPasses)
    (h : Opt.optimize g passes = some g') (hsoi : soiFreeG g = true) : SOIFree g' :=
  (soiFreeG_iff g').1 (C02.optimizer_keeps_soiFree g g' passes hp hwf h hsoi)

/-- **C16, interpreter on the optimized table** -/
theorem opt_parse_shift (hwf : OptS.WF g) (hp : ∀ p ∈ passes, p ∈ Opt.defaultPasses)
    (h : Opt.optimize g passes = some g') (hsoi : soiFreeG g = true) (inp : Input) {k : Nat}
    (hk : k ≤ inp.size) (fuel : Nat) (start : String) :
    match L1.parse g' (inp.extract k inp.size) fuel start 0 with
    | .oof => L1.parse g' inp fuel start k = .oof
    | .exc e => L1.parse g' inp fuel start k = .exc e
    | .done true c' ps' =>
      ∃ c, L1.parse g' inp fuel start k = .done true c (shiftL k ps') ∧ c.pos = c'.pos + k
    | .done false c' ps' =>
      ∃ c, L1.parse g' inp fuel start k = .done false c (shiftL k ps') ∧
        ((c.fpos = -1 ∧ c'.fpos = -1) ∨ (0 ≤ c'.fpos ∧ c.fpos = c'.fpos + k)) ∧
        c.fexp = c'.fexp ∧ c.funexp = c'.funexp ∧ c.fstack = c'.fstack :=
  C16.parse_shift g' inp (opt_soiFree hwf hp h hsoi) hk fuel start

/-- **C16, code generated from the optimized table** -/
theorem opt_gen_parse_shift (hwf : OptS.WF g) (hp : ∀ p ∈ passes, p ∈ Opt.defaultPasses)
    (h : Opt.optimize g passes = some g') (hsoi : soiFreeG g = true) (inp : Input) {k : Nat}
    (hk : k ≤ inp.size) (fuel : Nat) (start : String) :
    match LG.parse g' (inp.extract k inp.size) fuel start 0 with
    | .oof => LG.parse g' inp fuel start k = .oof
    | .exc e => LG.parse g' inp fuel start k = .exc e
    | .done true c' ps' =>
      ∃ c, LG.parse g' inp fuel start k = .done true c (shiftL k ps') ∧ c.pos = c'.pos + k
    | .done false c' ps' =>
      ∃ c, LG.parse g' inp fuel start k = .done false c (shiftL k ps') ∧
        ((c.fpos = -1 ∧ c'.fpos = -1) ∨ (0 ≤ c'.fpos ∧ c.fpos = c'.fpos + k)) ∧
        c.fexp = c'.fexp ∧ c.funexp = c'.funexp ∧ c.fstack = c'.fstack :=
  C16.gen_parse_shift g' inp (opt_soiFree hwf hp h hsoi) hk fuel start

/-- **No look-behind, optimized modes**: texts that agree from `k` on give identical results -/
theorem opt_no_lookbehind (hwf : OptS.WF g) (hp : ∀ p ∈ passes, p ∈ Opt.defaultPasses)
    (h : Opt.optimize g passes = some g') (hsoi : soiFreeG g = true) (inp₁ inp₂ : Input) {k : Nat}
    (h₁ : k ≤ inp₁.size) (h₂ : k ≤ inp₂.size)
    (hsuf : inp₁.extract k inp₁.size = inp₂.extract k inp₂.size) (fuel : Nat) (start : String) :
    L1.parse g' inp₁ fuel start k = L1.parse g' inp₂ fuel start k :=
  C16.no_lookbehind g' (opt_soiFree hwf hp h hsoi) inp₁ inp₂ h₁ h₂ hsuf fuel start

theorem opt_gen_no_lookbehind (hwf : OptS.WF g) (hp : ∀ p ∈ passes, p ∈ Opt.defaultPasses)
    (h : Opt.optimize g passes = some g') (hsoi : soiFreeG g = true) (inp₁ inp₂ : Input) {k : Nat}
    (h₁ : k ≤ inp₁.size) (h₂ : k ≤ inp₂.size)
    (hsuf : inp₁.extract k inp₁.size = inp₂.extract k inp₂.size) (fuel : Nat) (start : String) :
    LG.parse g' inp₁ fuel start k = LG.parse g' inp₂ fuel start k :=
  C16.gen_no_lookbehind g' (opt_soiFree hwf hp h hsoi) inp₁ inp₂ h₁ h₂ hsuf fuel start

/-! ### C07 — the optimized modes terminate and answer `Pairs` / `PestParsingError` -/

/-- **Termination of the specification on the optimized table**, from well-formedness of the
    ORIGINAL grammar: `C07.parse_terminates` for `g`, carried over by
    `C02.optimizer_preserves_termination`. -/
theorem opt_parse_terminates (hwf : OptS.WF g) (hp : ∀ p ∈ passes, p ∈ Opt.defaultPasses)
    (h : Opt.optimize g passes = some g') (hwfg : Pest.WF.wellFormed g = true) (inp : Input)
    (start : String) (hs : g.lookup start ≠ none) (k : Nat) (hk : k ≤ inp.size) :
    ∃ n, L0.run g' inp n (.ident start none) ⟨k, [], false⟩ ≠ .oof :=
  (C02.optimizer_preserves_termination g g' passes hp hwf h start hs inp k hk).1
    (C07.parse_terminates g inp hwfg start k hk)

/-- **The interpreter on the optimized table terminates and returns `Pairs` or raises
    `PestParsingError`** — the stable form: there is a recursion budget from which on
    `Parser.parse` answers `.done` (never `.oof`, never an exception). -/
theorem opt_interp_terminates (hwf : OptS.WF g) (hp : ∀ p ∈ passes, p ∈ Opt.defaultPasses)
    (h : Opt.optimize g passes = some g') (hwfg : Pest.WF.wellFormed g = true) (inp : Input)
    (start : String) (hs : g.lookup start ≠ none) (k : Nat) (hk : k ≤ inp.size) :
    ∃ n, ∀ fuel, n ≤ fuel → ∃ m c ps, L1.parse g' inp fuel start k = .done m c ps := by
  obtain ⟨n, hn⟩ := opt_parse_terminates hwf hp h hwfg inp start hs k hk
  refine ⟨n, fun fuel hf => C08.interp_done_of_spec (opt_skipTotal hwf hp h) ?_ fun hm => ?_⟩
  · rw [C02.parse_eq_run, L0.run_mono g' inp (by omega : n ≤ fuel + 1) _ _ hn]; exact hn
  -- `stuck` on `g'` would be `stuck` on `g` (C02), which a closed grammar never is
  · obtain ⟨m', hm', _⟩ := (C02.optimizer_sound g g' passes hp hwf h start hs inp k hk _).2
      (C02.conv_of_parse g' inp hm (by simp))
    cases m' with
    | zero => exact absurd hm' (by simp [L0.run])
    | succ m' =>
      rw [← C02.parse_eq_run] at hm'
      exact C07.parse_no_stuck g inp (C07.closed_of_wellFormed hwfg) start (Option.isSome_iff_ne_none.2 hs) m' k hm'

theorem opt_interp_answers (hwf : OptS.WF g) (hp : ∀ p ∈ passes, p ∈ Opt.defaultPasses)
    (h : Opt.optimize g passes = some g') (hwfg : Pest.WF.wellFormed g = true) (inp : Input)
    (start : String) (hs : g.lookup start ≠ none) (k : Nat) (hk : k ≤ inp.size) :
    ∃ n, ∀ fuel, n ≤ fuel → L1.parse g' inp fuel start k ≠ .oof := by
  obtain ⟨n, hn⟩ := opt_interp_terminates hwf hp h hwfg inp start hs k hk
  refine ⟨n, fun fuel hf => ?_⟩
  obtain ⟨m, c, ps, e⟩ := hn fuel hf
  rw [e]; simp

/-- **Code generated from the optimized table** answers from the same budget on: never `.oof`;
    `.done` with exactly the interpreter's verdict / pairs / furthest-failure position, or one of
    the exceptions C01 cannot exclude without a shape hypothesis on the table the generator is
    given (see `opt_parse_total`). -/
theorem opt_gen_answers (hwf : OptS.WF g) (hp : ∀ p ∈ passes, p ∈ Opt.defaultPasses)
    (h : Opt.optimize g passes = some g') (hwfg : Pest.WF.wellFormed g = true) (inp : Input)
    (start : String) (hs : g.lookup start ≠ none) (k : Nat) (hk : k ≤ inp.size) :
    ∃ n, ∀ fuel, n ≤ fuel →
      match LG.parse g' inp fuel start k with
      | .oof => False
      | .exc e => benign e = true ∨ e = .keyError
      | .done true cg ps => ∃ c1, L1.parse g' inp fuel start k = .done true c1 ps ∧ cg.pos = c1.pos
      | .done false cg _ =>
        ∃ c1 ps1, L1.parse g' inp fuel start k = .done false c1 ps1 ∧ cg.fpos = c1.fpos := by
  obtain ⟨n, hn⟩ := opt_interp_terminates hwf hp h hwfg inp start hs k hk
  refine ⟨n, fun fuel hf => ?_⟩
  obtain ⟨m, c, ps, e⟩ := hn fuel hf
  have hgen := C01.generated_parse_eq_all g' inp fuel start k
  revert hgen
  cases LG.parse g' inp fuel start k with
  | oof => intro hgen; rw [e] at hgen; cases hgen
  | exc x => exact id
  | done mg cg psg => cases mg <;> exact id

/-- **C07 for both optimized modes.**  The generated half needs the shape hypothesis of C07 on the
    table the generator is given, `GenShape g'`, and a generated function for the start rule,
    `callable g' start` — both decidable (`genShapeB`, `callable`).  `opt_parse_total'`
    (Lemmas/OptSoundKeepsAll.lean) derives the two from the same hypotheses on `g`. -/
theorem opt_parse_total (hwf : OptS.WF g) (hp : ∀ p ∈ passes, p ∈ Opt.defaultPasses)
    (h : Opt.optimize g passes = some g') (hwfg : Pest.WF.wellFormed g = true)
    (hg' : C07.GenShape g') (inp : Input) (start : String) (hs : g.lookup start ≠ none)
    (hst : C07.callable g' start = true) (k : Nat) (hk : k ≤ inp.size) :
    ∃ n, ∀ fuel, n ≤ fuel →
      (∃ m c ps, L1.parse g' inp fuel start k = .done m c ps) ∧
      (∃ m c ps, LG.parse g' inp fuel start k = .done m c ps) := by
  obtain ⟨n, hn⟩ := opt_interp_terminates hwf hp h hwfg inp start hs k hk
  exact ⟨n, fun fuel hf =>
    ⟨hn fuel hf, C07.gen_done_of_interp_done g' inp hg' start hst fuel k (hn fuel hf)⟩⟩

/-! ### C02 / C04 / C05 — one statement for the two optimized modes -/

/-- **Same verdict, same end position, same pairs up to tags.**  Whatever the interpreter on the
    optimized table, or code generated from it, answers (with any fuel), the interpreter on the
    ORIGINAL table answers with every sufficiently large fuel: the same verdict and — on success —
    the same end position and the same pairs, tags aside.  So every law C04 / C05 state about
    `L1.parse g` / L0 on `g` describes the results of the optimized modes. -/
theorem opt_same_verdict_and_tree (hwf : OptS.WF g) (hp : ∀ p ∈ passes, p ∈ Opt.defaultPasses)
    (h : Opt.optimize g passes = some g') (inp : Input) (start : String) (hs : g.lookup start ≠ none)
    (k : Nat) (hk : k ≤ inp.size) :
    (∀ fuel m c ps, L1.parse g' inp fuel start k = .done m c ps →
      ∃ fuel0, ∀ f, fuel0 ≤ f → ∃ c1 ps1, L1.parse g inp f start k = .done m c1 ps1 ∧
        eraseTagsL ps1 = eraseTagsL ps ∧ (m = true → c1.pos = c.pos)) ∧
    (∀ fuel m cg ps, LG.parse g' inp fuel start k = .done m cg ps →
      ∃ fuel0, ∀ f, fuel0 ≤ f → ∃ c1 ps1, L1.parse g inp f start k = .done m c1 ps1 ∧
        (m = true → eraseTagsL ps1 = eraseTagsL ps ∧ c1.pos = cg.pos)) := by
  refine ⟨fun fuel m c ps hr => C02.opt_interp_vs_plain g g' passes hp hwf h start hs inp k hk fuel m c ps hr,
    fun fuel m cg ps hr => ?_⟩
  have hgen := C01.generated_parse_eq_all g' inp fuel start k
  rw [hr] at hgen
  cases m with
  | true =>
    obtain ⟨c1, h1, hpos⟩ := hgen
    obtain ⟨fuel0, hf0⟩ := C02.opt_interp_vs_plain g g' passes hp hwf h start hs inp k hk fuel true c1 ps h1
    refine ⟨fuel0, fun f hf => ?_⟩
    obtain ⟨c2, ps2, e, he, hp2⟩ := hf0 f hf
    exact ⟨c2, ps2, e, fun _ => ⟨he, by rw [hp2 rfl, hpos]⟩⟩
  | false =>
    obtain ⟨c1, ps1, h1, _⟩ := hgen
    obtain ⟨fuel0, hf0⟩ := C02.opt_interp_vs_plain g g' passes hp hwf h start hs inp k hk fuel false c1 ps1 h1
    refine ⟨fuel0, fun f hf => ?_⟩
    obtain ⟨c2, ps2, e, _, _⟩ := hf0 f hf
    exact ⟨c2, ps2, e, fun hm => absurd hm (by simp)⟩

/-- **The converse for the interpreter**: whatever `L1.parse g` answers, `L1.parse g'` answers with
    every sufficiently large fuel (same verdict, end position, pairs up to tags). -/
theorem plain_vs_opt_interp (hwf : OptS.WF g) (hp : ∀ p ∈ passes, p ∈ Opt.defaultPasses)
    (h : Opt.optimize g passes = some g') (inp : Input) (start : String) (hs : g.lookup start ≠ none)
    (k : Nat) (hk : k ≤ inp.size) (fuel : Nat) (m : Bool) (c : PState) (ps : List Pair)
    (hr : L1.parse g inp fuel start k = .done m c ps) :
    ∃ fuel0, ∀ f, fuel0 ≤ f → ∃ c1 ps1, L1.parse g' inp f start k = .done m c1 ps1 ∧
      eraseTagsL ps1 = eraseTagsL ps ∧ (m = true → c1.pos = c.pos) :=
  C02.interp_transfer (C02.skipTotal_orig hwf) (opt_skipTotal hwf hp h)
    (fun r => (C02.optimizer_sound g g' passes hp hwf h start hs inp k hk r).1) hr

/-- **Every expression, every state** (C03 ∘ C02): what the interpreter model computes on the
    optimized table for an expression of the original grammar, from any state inside the input,
    is the meaning of that expression in the ORIGINAL grammar — which is what C04 (trivia,
    modifiers) and C05 (stack) describe. -/
theorem opt_interp_run_agrees (hwf : OptS.WF g) (hp : ∀ p ∈ passes, p ∈ Opt.defaultPasses)
    (h : Opt.optimize g passes = some g') (inp : Input) (n : Nat) (e : Expr)
    (he : g.lookup "SKIP" = none → NSR e) (c : PState) (p : Pre c) (hc : c.pos ≤ inp.size) :
    match L1.run g' inp n e c with
    | .oof => True
    | .exc x => x = .keyError ∧ Conv g inp e (abs0 c) .stuck
    | .done true c' ps => Conv g inp e (abs0 c) (.ok (abs0 c') (eraseTagsL ps))
    | .done false _ ps => Conv g inp e (abs0 c) .fail ∧ ps = [] := by
  have hr := C03.interp_refines_spec g' inp (opt_skipTotal hwf hp h) n e c p
  have hsound := C02.optimizer_sound_expr g g' passes hp hwf h inp e he (abs0 c) hc
  revert hr
  cases L1.run g' inp n e c with
  | oof => intro _; trivial
  | exc x => intro hr; exact ⟨hr.1, (hsound _).2 ⟨n, hr.2, by simp⟩⟩
  | done m c' ps =>
    cases m with
    | true => intro hr; exact (hsound _).2 ⟨n, hr.1, by simp⟩
    | false => intro hr; exact ⟨(hsound _).2 ⟨n, hr.1, by simp⟩, hr.2.1⟩

/-- **C05 on the optimized table** (worked corollary, direct): a stack terminal that fails leaves
    position and stack exactly as it found them.  C05's laws are stated for every rule table under
    `SkipTotal`; `C02.optimized_skip_total` supplies it for `g'`. -/
theorem opt_failed_op_is_identity (hwf : OptS.WF g) (hp : ∀ p ∈ passes, p ∈ Opt.defaultPasses)
    (h : Opt.optimize g passes = some g') (inp : Input) (k : Nat) (rec : Sem1) (rec0 : Sem0)
    (hg : Good rec rec0) (e : Expr) (he : C05.isStackOp e = true) (c c' : PState) (ps : List Pair)
    (p : Pre c) (hf : L1.step g' inp k rec e c = .done false c' ps) :
    c'.pos = c.pos ∧ c'.ustack.items = c.ustack.items ∧ ps = [] :=
  C05.failed_op_is_identity g' inp (opt_skipTotal hwf hp h) k rec rec0 hg e he
    c c' ps p hf

theorem opt_stack_ops_never_raise (hwf : OptS.WF g) (hp : ∀ p ∈ passes, p ∈ Opt.defaultPasses)
    (h : Opt.optimize g passes = some g') (inp : Input) (k : Nat) (rec : Sem1) (rec0 : Sem0)
    (hg : Good rec rec0) (e : Expr) (he : C05.isStackOp e = true) (c : PState) (p : Pre c) :
    ∃ m c' ps, L1.step g' inp k rec e c = .done m c' ps :=
  C05.stack_ops_never_raise g' inp (opt_skipTotal hwf hp h) k rec rec0 hg e he c p

/-- **C04 on the optimized table** (worked corollary, through the L0 equivalence
    `C02.optimizer_sound_expr`): a sequence `e ~ e' ~ …` evaluated against the optimized table
    means `e`, then implicit trivia, then the rest — *of the original grammar*
    (`C04.seq_trivia_between` for `g`). -/
theorem opt_seq_trivia_between (hwf : OptS.WF g) (hp : ∀ p ∈ passes, p ∈ Opt.defaultPasses)
    (h : Opt.optimize g passes = some g') (inp : Input) (e e' : Expr) (rest : List Expr)
    (he : g.lookup "SKIP" = none → NSR (.seq (e :: e' :: rest))) (s : S0) (hs : s.pos ≤ inp.size)
    (r : R0) :
    Conv g' inp (.seq (e :: e' :: rest)) s r ↔
      r ≠ .oof ∧ ∃ n,
        (match L0.run g inp n e s with
         | .ok s1 ps =>
           (match L0.skip g (L0.run g inp n) n s1 with
            | .ok s2 tps => L0.seqL g (L0.run g inp n) n (e' :: rest) s2 (ps ++ tps)
            | .fail => L0.seqL g (L0.run g inp n) n (e' :: rest) s1 ps
            | r => r)
         | r => r) = r := by
  rw [← C02.optimizer_sound_expr g g' passes hp hwf h inp _ he s hs r]
  have key : ∀ n, L0.run g inp (n + 1) (.seq (e :: e' :: rest)) s =
      (match L0.run g inp n e s with
       | .ok s1 ps =>
         (match L0.skip g (L0.run g inp n) n s1 with
          | .ok s2 tps => L0.seqL g (L0.run g inp n) n (e' :: rest) s2 (ps ++ tps)
          | .fail => L0.seqL g (L0.run g inp n) n (e' :: rest) s1 ps
          | r => r)
       | r => r) := by
    intro n
    have := C04.seq_trivia_between g (L0.run g inp n) n e e' rest s []
    simp only [List.nil_append] at this
    exact this
  constructor
  · rintro ⟨n, hn, hne⟩
    cases n with
    | zero => exact absurd hn.symm hne
    | succ n => exact ⟨hne, n, by rw [← key]; exact hn⟩
  · rintro ⟨hne, n, hn⟩
    exact ⟨n + 1, by rw [key]; exact hn, hne⟩

/-! ### C13 — failure reports of the optimized modes

  C13's theorems put no hypothesis on the rule table, so they hold of `g'` as they stand (the
  `example`s); what is added is the reading of the reported names against the ORIGINAL grammar. -/

example (inp : Input) (fuel : Nat) (start : String) (k : Nat) (c' : PState) (ps : List Pair)
    (hr : L1.parse g' inp fuel start k = .done false c' ps) (hk : k ≤ inp.size) :
    c'.fpos = -1 ∨ ((k : Int) ≤ c'.fpos ∧ c'.fpos ≤ (inp.size : Int)) :=
  C13.fpos_in_range g' inp fuel start k c' ps hr hk

example (inp : Input) (fuel : Nat) (start : String) (k : Nat) (c' : PState) (ps : List Pair)
    (hr : LG.parse g' inp fuel start k = .done false c' ps) (hk : k ≤ inp.size) :
    c'.fpos = -1 ∨ ((k : Int) ≤ c'.fpos ∧ c'.fpos ≤ (inp.size : Int)) :=
  C13.gen_fpos_in_range g' inp fuel start k c' ps hr hk

example (inp : Input) (fuel : Nat) (start : String) (k : Nat) (c' : PState) (ps : List Pair)
    (hr : L1.parse g' inp fuel start k = .done false c' ps) :
    (∀ p ∈ c'.fexp ++ c'.funexp, p.1 ∈ FailPos.knownNames g') ∧
      (∀ n ∈ c'.fstack, n ∈ FailPos.knownNames g') :=
  C13.failure_names_known g' inp fuel start k c' ps hr

example (inp : Input) (fuel : Nat) (start : String) (k : Nat) (c' : PState) (ps : List Pair)
    (hr : L1.parse g' inp fuel start k = .done false c' ps) (hk : k ≤ inp.size) :
    (LineCol.errorContext inp.toList c'.fpos).isSome = true :=
  C13.error_context_defined_on_failure g' inp fuel start k c' ps hr hk

end

section names
open FailPos

def nodeName : Expr → List String
  | .rule n _ _ _ => [n]
  | _ => []

/-- `List.flatMap` with `flatC f [x] = f x` by definition (as `OptS.allC`) -/
def flatC (f : Expr → List String) : List Expr → List String
  | [] => []
  | [x] => f x
  | x :: xs => f x ++ flatC f xs

theorem mem_flatC {f : Expr → List String} {n : String} : ∀ {l : List Expr}, n ∈ flatC f l ↔ ∃ c ∈ l, n ∈ f c
  | [] => by simp [flatC]
  | [x] => by simp [flatC]
  | x :: y :: l => by
    show n ∈ f x ++ flatC f (y :: l) ↔ _
    rw [List.mem_append, mem_flatC (l := y :: l)]
    constructor
    · rintro (h | ⟨c, hc, h⟩)
      · exact ⟨x, List.mem_cons_self, h⟩
      · exact ⟨c, List.mem_cons_of_mem _ hc, h⟩
    · rintro ⟨c, hc, h⟩
      rcases List.mem_cons.1 hc with rfl | hc
      · exact .inl h
      · exact .inr ⟨c, hc, h⟩

theorem embNamesL_eq : ∀ es, embNamesL es = flatC embNames es
  | [] => rfl
  | [_] => List.append_nil _
  | x :: y :: es => congrArg (embNames x ++ ·) (embNamesL_eq (y :: es))

theorem embNames_eq (e : Expr) : embNames e = nodeName e ++ flatC embNames (Opt.children e) := by
  cases e
  case seq es | choice es => exact embNamesL_eq es
  all_goals rfl

theorem namesOK_iff (N : String → Prop) (e : Expr) :
    namesOK N e ↔ (∀ n ∈ nodeName e, N n) ∧ ∀ c ∈ Opt.children e, namesOK N c := by
  unfold namesOK
  rw [embNames_eq]
  simp only [List.mem_append, mem_flatC]
  exact ⟨fun h => ⟨fun n hn => h n (.inl hn), fun c hc n hn => h n (.inr ⟨c, hc, hn⟩)⟩,
    fun h n hn => hn.elim (h.1 n) fun ⟨c, hc, hn⟩ => h.2 c hc n hn⟩

/-- no rewrite of the optimizer embeds a rule object that was not there: "every embedded rule
    name satisfies `N`" is kept -/
theorem namesOK_kept (F : Feat) (N : String → Prop) : Kept F (namesOK N) := by
  intro G a e e' h hG
  have nil : ∀ n ∈ ([] : List String), N n := fun _ h => (List.not_mem_nil h).elim
  refine h.keeps (namesOK_iff N) (fun _ _ _ h => ?_) (fun _ => nil) (fun _ => nil) (fun _ => nil)
    (fun _ _ _ => nil) (fun _ => nil) (fun n r hl _ _ => hG n r hl)
  cases h with
  | term _ | ident | rule | ruleC _ _ => exact id
  | _ => exact fun _ => nil

variable {g g' : Grammar} {passes : List Opt.Pass}

/-- **the known names of the optimized table** are known names of the original grammar, or `SKIP`:
    rule names by `C02.optimizer_keeps_signature`, embedded rule objects by `namesOK_kept` -/
theorem opt_knownNames (hwf : OptS.WF g) (hp : ∀ p ∈ passes, p ∈ Opt.defaultPasses)
    (h : Opt.optimize g passes = some g') :
    ∀ n ∈ knownNames g', n ∈ knownNames g ∨ n = "SKIP" := by
  intro n hn
  rcases (C13.mem_knownNames g').mp hn with ⟨r, hr, rfl⟩ | ⟨r, hr, hnb⟩
  · by_cases hsk : r.name = "SKIP"
    · exact Or.inr hsk
    · left
      have hl' : g'.lookup r.name ≠ none := by
        unfold Grammar.lookup
        intro hnone
        rw [List.find?_eq_none] at hnone
        exact hnone r hr (by simp)
      have hsig := C02.optimizer_keeps_signature g g' passes h r.name hsk
      cases hl : g.lookup r.name with
      | none =>
        rw [hl] at hsig
        cases hl2 : g'.lookup r.name with
        | none => exact absurd hl2 hl'
        | some r2 => rw [hl2] at hsig; cases hsig
      | some r0 =>
        rw [← Prim.lookup_name hl]
        exact rule_name_known (Prim.lookup_mem hl)
  · left
    have hall := (optimize_sound hwf passes hp (namesOK_kept Fall (· ∈ knownNames g))
      (fun e he => he.mk_rep) (fun _ x hx => by simp [embNames] at hx)
      (fun r hr => rule_body_namesIn hr) h).2.2
    exact hall r hr n hnb

/-- **C13, rule names, interpreter on the optimized table**: every rule name a failure report
    lists as expected or unexpected, and every entry of the reported rule stack, is a known name
    of the ORIGINAL grammar (a rule of its table or a built-in embedded in it) — or `SKIP`. -/
theorem opt_failure_names_known (hwf : OptS.WF g) (hp : ∀ p ∈ passes, p ∈ Opt.defaultPasses)
    (h : Opt.optimize g passes = some g') (inp : Input) (fuel : Nat) (start : String) (k : Nat)
    (c' : PState) (ps : List Pair) (hr : L1.parse g' inp fuel start k = .done false c' ps) :
    (∀ p ∈ c'.fexp ++ c'.funexp, p.1 ∈ knownNames g ∨ p.1 = "SKIP") ∧
    (∀ n ∈ c'.fstack, n ∈ knownNames g ∨ n = "SKIP") := by
  have hk := C13.failure_names_known g' inp fuel start k c' ps hr
  exact ⟨fun p hp' => opt_knownNames hwf hp h _ (hk.1 p hp'),
    fun n hn => opt_knownNames hwf hp h _ (hk.2 n hn)⟩

/-- the same for code generated from the optimized table -/
theorem opt_gen_failure_names_known (hwf : OptS.WF g) (hp : ∀ p ∈ passes, p ∈ Opt.defaultPasses)
    (h : Opt.optimize g passes = some g') (inp : Input) (fuel : Nat) (start : String) (k : Nat)
    (c' : PState) (ps : List Pair) (hr : LG.parse g' inp fuel start k = .done false c' ps) :
    (∀ p ∈ c'.fexp ++ c'.funexp, p.1 ∈ knownNames g ∨ p.1 = "SKIP") ∧
    (∀ n ∈ c'.fstack, n ∈ knownNames g ∨ n = "SKIP") := by
  have hk := C13.gen_failure_names_known g' inp fuel start k c' ps hr
  exact ⟨fun p hp' => opt_knownNames hwf hp h _ (hk.1 p hp'),
    fun n hn => opt_knownNames hwf hp h _ (hk.2 n hn)⟩

end names

/-! ### Non-vacuity: `C02.demoG` (silent `WHITESPACE`, every pass and the fusion rewrite something)
    meets every hypothesis used above, and its optimized table is run in both modes -/

abbrev demoG' : Grammar := C02.optG C02.demoG

theorem demo_wf : OptS.WF C02.demoG := C02.wf_of_check (by decide +kernel)

theorem demoG'_eq : demoG' = C02.demoOpt := C02.optG_demoG

theorem demo_opt : Opt.optimize C02.demoG Opt.defaultPasses = some demoG' := by
  rw [demoG'_eq]
  exact C02.optimize_demoG

example : OptS.wfCheck C02.demoG = true := by decide +kernel
example : (C02.demoG.lookup "WHITESPACE").isSome = true ∧ (demoG'.fusedSkip).isSome = true := by
  rw [demoG'_eq]
  decide +kernel
example : soiFreeG C02.demoG = true := by decide +kernel
example : Pest.WF.wellFormed C02.demoG = true := by decide +kernel
example : C07.genShapeB demoG' = true ∧ C07.callable demoG' "r" = true := by
  rw [demoG'_eq]
  decide +kernel

/-- `a 12 y  hi/!` on the optimized table, fuel 20: matched up to the `/`, one root pair `r[0,9]`
    with the child `tail`, no pair called `SKIP` -/
def demoInp : Input := #[97, 32, 49, 50, 32, 121, 32, 104, 105, 47, 33]

def demoOk (endPos : Nat) (ps : List Pair) : Bool :=
  endPos == 9 && wfForestB 0 endPos ps && (flattenL ps).map Pair.name == ["r", "tail"]

example : (match L1.parse demoG' demoInp 20 "r" 0 with
    | .done true c ps => demoOk c.pos ps | _ => false) = true := by
  rw [demoG'_eq]
  decide +kernel
example : (match LG.parse demoG' demoInp 20 "r" 0 with
    | .done true c ps => demoOk c.pos ps | _ => false) = true := by
  rw [demoG'_eq]
  decide +kernel
/-- … and a failing input (`b`): both optimized modes fail at 0, expecting inside `r` -/
example : (match L1.parse demoG' #[98] 20 "r" 0, LG.parse demoG' #[98] 20 "r" 0 with
    | .done false c _, .done false cg _ => c.fpos == 0 && cg.fpos == 0 && c.fstack == ["r"]
    | _, _ => false) = true := by
  rw [demoG'_eq]
  decide +kernel

-- the theorems apply to the demo: all hypotheses are met
example (inp : Input) (fuel k : Nat) (c : PState) (ps : List Pair) (hk : k ≤ inp.size)
    (hr : L1.parse demoG' inp fuel "r" k = .done true c ps) :
    C06.GoodTree demoG' inp "r" k c.pos ps ∧ AllPairs (fun p => OrigName C02.demoG p.name) ps ∧
      (∀ p ∈ flattenL ps, p.name ≠ "SKIP") ∧ ∃ ch t, ps = [.mk "r" 0 k c.pos ch t] :=
  ⟨opt_interp_tree_wf demo_wf (fun _ hp => hp) demo_opt inp fuel "r" k c ps hr hk,
   (opt_interp_names demo_wf (fun _ hp => hp) demo_opt inp fuel "r" (by decide) k hk c ps hr).2,
   opt_interp_no_skip_pair demo_wf (fun _ hp => hp) demo_opt (by decide) inp fuel "r" (by decide) k hk c ps hr,
   opt_interp_root_single demo_wf (fun _ hp => hp) demo_opt inp fuel "r" k hk c ps
     ⟨"r", 0, .seq [.str [97], .rep1 (.ident "d" none), .opt (.ident "s" none), .ident "tail" none],
       .grammar⟩ (by rfl) (by decide) hr⟩

example (inp : Input) (k : Nat) (hk : k ≤ inp.size) :
    ∃ n, ∀ fuel, n ≤ fuel →
      (∃ m c ps, L1.parse demoG' inp fuel "r" k = .done m c ps) ∧
      (∃ m c ps, LG.parse demoG' inp fuel "r" k = .done m c ps) :=
  opt_parse_total demo_wf (fun _ hp => hp) demo_opt (by decide +kernel)
    (C07.genShape_of_genShapeB (by rw [demoG'_eq]; decide +kernel)) inp "r" (by decide)
    (by rw [demoG'_eq]; decide +kernel) k hk

example (inp₁ inp₂ : Input) (k : Nat) (h₁ : k ≤ inp₁.size) (h₂ : k ≤ inp₂.size)
    (hsuf : inp₁.extract k inp₁.size = inp₂.extract k inp₂.size) (fuel : Nat) :
    L1.parse demoG' inp₁ fuel "r" k = L1.parse demoG' inp₂ fuel "r" k :=
  opt_no_lookbehind demo_wf (fun _ hp => hp) demo_opt (by decide +kernel) inp₁ inp₂ h₁ h₂ hsuf fuel "r"

end AllModes
end Pest
