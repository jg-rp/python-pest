/-
  Props/C11Blowup.lean — the open finding `huge-repetition-bound` (C11) as theorems about the mirror
  of the optimizer (`Opt.unroll`; the correspondence run `O` of C02, harness/eng_core.py, compares the
  mirror's output tree-for-tree with that of `Optimizer.optimize`).

  `unroll` rewrites `e+` to `e ~ e*` and `e{n}` to `e ~ … ~ e`: both copy the operand.  Applied bottom-up
  (as `DEFAULT_OPTIMIZER_PASSES` does) a tower of `n` postfix `+` makes what it stands over at least `2^n`
  times as large, and a tower of bounds `e{k}{k}…{k}` at least `k^n` times (`unroll_plus_tower`,
  `unroll_exact_tower`; over a literal these are `2^n` and `k^n` nodes): the time and memory
  `Parser.from_grammar` needs are exponential in the length of the grammar text.  Nothing here is a proof
  obligation of C11; it states for every `n` what the check can only show for the `n` it tries.
-/
import PestModel.Opt

namespace Pest
namespace C11Blowup
open Opt

def plusTower : Nat → Expr → Expr
  | 0, e => e
  | n + 1, e => .rep1 (plusTower n e)

def exactTower (k : Nat) : Nat → Expr → Expr
  | 0, e => e
  | n + 1, e => .repExact (exactTower k n e) k

theorem sizeL_replicate (n : Nat) (e : Expr) : size.sizeL (List.replicate n e) = n * size e := by
  induction n with
  | zero => simp [size.sizeL]
  | succ n ih => simp [List.replicate_succ, size.sizeL, ih, Nat.succ_mul, Nat.add_comm]

/-- one `+` at least doubles, whatever the operand: an untagged group loses its own node (`2n+1`),
anything else is copied whole (`2n+2`) -/
theorem size_unroll_rep1 (inner : Expr) : 2 * size inner ≤ size (unroll (.rep1 inner)) := by
  dsimp only [unroll]
  split
  · rename_i x
    show 2 * (1 + size x) ≤ 1 + (size x + ((1 + (1 + size x)) + 0))
    omega
  · show _ ≤ 1 + (size inner + ((1 + size inner) + 0))
    omega

theorem unroll_plusTower_succ (n : Nat) (e : Expr) :
    mapBottomUp unroll (plusTower (n + 1) e) =
      unroll (.rep1 (mapBottomUp unroll (plusTower n e))) := rfl

theorem unroll_exactTower_succ (k n : Nat) (e : Expr) :
    mapBottomUp unroll (exactTower k (n + 1) e) =
      .seq (List.replicate k (mapBottomUp unroll (exactTower k n e))) := rfl

theorem unroll_plus_tower (e : Expr) (n : Nat) :
    2 ^ n * size (mapBottomUp unroll e) ≤ size (mapBottomUp unroll (plusTower n e)) := by
  induction n with
  | zero => exact Nat.le_of_eq (Nat.one_mul _)
  | succ n ih =>
    rw [unroll_plusTower_succ, Nat.pow_succ, Nat.mul_comm _ 2, Nat.mul_assoc]
    exact Nat.le_trans (Nat.mul_le_mul_left 2 ih) (size_unroll_rep1 _)

/-- **every stacked `+` doubles**: `"x"` under `n` postfix `+` is unrolled to at least `2^n` nodes -/
theorem unroll_plus_tower_exponential (s : Str) (n : Nat) :
    2 ^ n ≤ size (mapBottomUp unroll (plusTower n (.str s))) := by
  have h := unroll_plus_tower (.str s) n
  rwa [show size (mapBottomUp unroll (.str s)) = 1 from rfl, Nat.mul_one] at h

theorem unroll_exact_tower (e : Expr) (k n : Nat) :
    k ^ n * size (mapBottomUp unroll e) ≤ size (mapBottomUp unroll (exactTower k n e)) := by
  induction n with
  | zero => exact Nat.le_of_eq (Nat.one_mul _)
  | succ n ih =>
    rw [unroll_exactTower_succ]
    show _ ≤ 1 + size.sizeL (List.replicate k (mapBottomUp unroll (exactTower k n e)))
    rw [sizeL_replicate]
    calc k ^ (n + 1) * size (mapBottomUp unroll e)
        = k * (k ^ n * size (mapBottomUp unroll e)) := by
          rw [Nat.pow_succ, Nat.mul_comm _ k, Nat.mul_assoc]
      _ ≤ k * size (mapBottomUp unroll (exactTower k n e)) := Nat.mul_le_mul_left _ ih
      _ ≤ _ := by omega

/-- **stacked bounds multiply**: `"x"` under `n` postfix `{k}` is unrolled to at least `k^n` nodes -/
theorem unroll_exact_tower_exponential (s : Str) (k n : Nat) :
    k ^ n ≤ size (mapBottomUp unroll (exactTower k n (.str s))) := by
  have h := unroll_exact_tower (.str s) k n
  rwa [show size (mapBottomUp unroll (.str s)) = 1 from rfl, Nat.mul_one] at h

/-- the text of the tower is `n` characters longer than the literal's: 30 `+` are 2^30 nodes -/
example : 2 ^ 30 ≤ size (mapBottomUp unroll (plusTower 30 (.str [120]))) :=
  unroll_plus_tower_exponential _ _

/-- a single large bound is the case `n = 1`: `"x"{4000000000}` is four thousand million nodes -/
example : 4000000000 ≤ size (mapBottomUp unroll (exactTower 4000000000 1 (.str [120]))) := by
  simpa using unroll_exact_tower_exponential [120] 4000000000 1

end C11Blowup
end Pest
