/-
  Props/C07.lean — property C07, exception part: "parse() in every execution mode … either
  returns Pairs or raises PestParsingError — never IndexError, UnboundLocalError,
  AssertionError or any other exception — and repeating the call returns an equal result."

  What is proved here, for both models of the code (L1 = interpreter, LG = generated module):
  under syntactic hypotheses on the rule table (every reference is defined; a fused `SKIP` rule,
  if the optimizer has made one, has a body that cannot fail: `SkipTotal`, Lemmas/Refine.lean,
  which C02 proves of optimized tables; for generated code additionally: every embedded rule
  object is a silent non-scoped built-in other than EOI and every rule called by name has a
  generated function) the answer of `parse` is
  `.oof` (out of fuel: the real code exceeds its recursion budget or loops — the property's
  "nesting stays within the budget" proviso; the last section proves that on a `WF.wellFormed` grammar
  a finite budget always suffices) or `.done _ _ _` (`Pairs` when matched, `PestParsingError` otherwise).  No
  `.exc _` of any kind.

  Route.  L0: a `stuck` answer needs a reference to an undefined rule (`big_no_stuck`, by
  induction on the big-step derivation of Lemmas/Big.lean; `no_stuck` at the fuelled run).
  L1: by the refinement `L1 ⊑ L0`, read as `C08.parse_obs` (Lemmas/Refine.lean), the only
  exception of L1 is the `KeyError` that corresponds to `stuck`.  LG: by `LG ≈ L1` the only exceptions of LG are the
  "outside the model" markers `.other` / `.nameError`, which `shapeOk` excludes
  (`no_benign`, an instance of the traversal of Lemmas/Kit.lean), and the `KeyError` of `parse` itself.
-/
import PestModel.Hyps
import PestModel.Props.C01
import PestModel.Lemmas.Term

namespace Pest
namespace C07

/-! ### "free of references to undefined rules" -/

def Closed (g : Grammar) : Prop := ∀ r ∈ g.rules, refsDefined g r.body = true

theorem closedB_iff {g : Grammar} : closedB g = true ↔ Closed g := by
  simp only [closedB, List.all_eq_true]
  exact Iff.rfl

theorem closed_of_closedB {g : Grammar} (h : closedB g = true) : Closed g := closedB_iff.1 h

theorem closedB_of_closed {g : Grammar} (h : Closed g) : closedB g = true := closedB_iff.2 h

theorem refsDefinedL_iff (g : Grammar) (es : List Expr) :
    refsDefinedL g es = true ↔ ∀ e ∈ es, refsDefined g e = true :=
  Prim.allL_iff rfl (fun _ _ => rfl) es

theorem refsDefined_unrolled {g : Grammar} {e : Expr} {es : List Expr} (h : refsDefined g e = true)
    (hu : L1.unrolled e = some es) : ∀ x ∈ es, refsDefined g x = true :=
  Prim.unrolled_all (f := refsDefined g) (fun _ => rfl) (fun _ => rfl) (fun _ => rfl) (fun _ _ => rfl)
    (fun _ _ => rfl) (fun _ _ => rfl) (fun _ _ _ => rfl) hu h

/-! ### L0 is never stuck on a closed grammar -/

section L0
open L0

theorem refsDefined_seqView {g : Grammar} {e : Expr} {es : List Expr} (h : refsDefined g e = true)
    (hv : seqView e = some es) : ∀ x ∈ es, refsDefined g x = true := by
  rcases seqView_cases hv with rfl | hu
  · exact (refsDefinedL_iff g _).1 h
  · exact refsDefined_unrolled h hu

section
variable {g : Grammar} {inp : Input}

/-- a job that holds no reference to an undefined rule is not stuck: the only rule of `Big` that
    answers `stuck` by itself is `identNone` -/
theorem big_no_stuck (hc : Closed g) {j : Job} {s : S0} {r : R0} (h : Big g inp j s r) :
    j.All (fun e => refsDefined g e = true) → r ≠ .stuck := by
  induction h with
  | leaf _ => exact fun _ => LeafAct.run0_ne_stuck _ _
  | @identNone n t s hl =>
    intro hd
    have hd : (g.lookup n).isSome = true := hd
    rw [hl] at hd
    cases hd
  | ident hl _ ih => exact fun _ => ih (hc _ (Prim.lookup_mem hl))
  | ruleE _ ih | group _ ih | gapSkip _ ih => exact ih
  | seqE hv _ ih => exact fun hd => ih (refsDefined_seqView hd hv)
  | choiceE _ ih => exact fun hd => ih ((refsDefinedL_iff g _).1 hd)
  | repE _ ih => exact ih
  | opt _ ih | andP _ ih | notP _ ih | push _ ih => exact fun hd h => ih hd (stuck_of_answer h nofun nofun nofun)
  | rule _ ih => exact fun hd h => ih hd (stuck_of_answer h (wrapK_ok_ne nofun) nofun nofun)
  | seqNil | seqLast _ _ | choiceNil | gapFirst | skipAtomic _ | skipNoTrivia _ _ | attemptNone
  | loopDone _ _ _ _ => exact fun _ => R0.noConfusion
  | seqStop _ _ ih | choiceStop _ _ ih => exact fun hd => ih (hd _ List.mem_cons_self)
  | seqMore _ _ _ _ _ ih | seqSkipFail _ _ _ _ _ ih | choiceNext _ _ _ ih =>
    exact fun hd => ih fun x hx => hd x (List.mem_cons_of_mem _ hx)
  | seqSkipStuck _ _ _ ih => exact fun _ => ih trivial
  | repGapStop _ _ ih => exact fun _ h => ih trivial (stuck_of_answer h nofun nofun nofun)
  | repStop _ _ _ _ ih => exact fun hd h => ih hd (stuck_of_answer h nofun nofun nofun)
  | repMore _ _ _ _ _ ih => exact ih
  | skipFused _ hf _ ih => exact fun _ => ih (hc _ (Prim.fusedSkip_mem hf))
  | skipLoop _ _ _ _ ih =>
    exact fun _ => ih ⟨fun r hr => hc r (Prim.lookup_mem hr), fun r hr => hc r (Prim.lookup_mem hr)⟩
  | attemptSome _ ih => exact fun hd => ih (hd _ rfl)
  | loopWs _ _ _ ih | loopCm _ _ _ _ _ ih => exact ih
  | loopWsStuck _ ih => exact fun hd => ih hd.1
  | loopCmStuck _ _ _ ih => exact fun hd => ih hd.2

end

variable (g : Grammar) (inp : Input)

/-- `stuck` is exactly "reference to an undefined rule" -/
theorem no_stuck (hc : Closed g) (n : Nat) (e : Expr) (s : S0) (hd : refsDefined g e = true) :
    L0.run g inp n e s ≠ .stuck :=
  fun h => big_no_stuck hc (.of_run h nofun) hd rfl

theorem parse_no_stuck (hc : Closed g) (start : String) (hst : (g.lookup start).isSome = true)
    (fuel k : Nat) : L0.parse g inp fuel start k ≠ .stuck :=
  no_stuck g inp hc (fuel + 1) (.ident start none) ⟨k, [], false⟩ hst

end L0

/-! ### The interpreter model raises nothing -/

section L1
variable (g : Grammar) (inp : Input)

/-- **run level**: from any reachable state, a closed expression of a closed grammar makes the
    interpreter model raise nothing at all (no `IndexError` from the rule stack / user stack /
    `_pos_history`, no `KeyError`) -/
theorem interp_run_no_exc (hc : Closed g) (hs : SkipTotal g) (n : Nat) (e : Expr) (c : PState)
    (hd : refsDefined g e = true) (p : Pre c) (x : PyExc) : L1.run g inp n e c ≠ .exc x :=
  C08.not_exc_of_obs (C08.interp_obs hs n e c p) (no_stuck g inp hc n e (abs0 c) hd) x

/-- **`Parser.parse` raises nothing** (other than `PestParsingError`, which is `.done false`) -/
theorem interp_no_exc (hc : Closed g) (hs : SkipTotal g) (start : String)
    (hst : (g.lookup start).isSome = true) (fuel k : Nat) (x : PyExc) :
    L1.parse g inp fuel start k ≠ .exc x :=
  C08.not_exc_of_obs (C08.parse_obs hs fuel start k) (parse_no_stuck g inp hc start hst fuel k) x

end L1

/-! ### Generated code raises nothing -/

/-- the hypothesis on the rule table for generated code: every body has a shape the generator
    handles, and the trivia rules `parse_trivia` calls by name (if defined) have a function -/
structure GenShape (g : Grammar) : Prop where
  bodies : ∀ r ∈ g.rules, shapeOk g r.body = true
  trivia : ∀ n ∈ triviaNames, (g.lookup n).isSome = true → callable g n = true

theorem genShape_of_genShapeB {g : Grammar} (h : genShapeB g = true) : GenShape g := by
  simp only [genShapeB, Bool.and_eq_true, List.all_eq_true, Bool.or_eq_true,
    Bool.not_eq_true'] at h
  refine ⟨h.1, ?_⟩
  intro n hn hd
  rcases h.2 n hn with h' | h'
  · rw [hd] at h'; cases h'
  · exact h'

/-- the uniform (simplest) sufficient condition: the only built-in kept in the rule table is
    EOI (true of every table the front end builds: the other built-ins are embedded as rule
    objects, never referenced by name); then "callable" is just "defined" -/
def OnlyEOI (g : Grammar) : Prop := ∀ r ∈ g.rules, (r.kind == .builtin && r.name != "EOI") = false

theorem callable_isSome {g : Grammar} {n : String} (h : callable g n = true) :
    (g.lookup n).isSome = true := by
  unfold callable at h
  cases hl : g.lookup n with
  | none => rw [hl] at h; cases h
  | some r => rfl

theorem callable_of_onlyEOI {g : Grammar} (hu : OnlyEOI g) {n : String}
    (h : (g.lookup n).isSome = true) : callable g n = true := by
  unfold callable
  cases hl : g.lookup n with
  | none => rw [hl] at h; cases h
  | some r => simp only [hu r (Prim.lookup_mem hl), Bool.not_false]

theorem shapeOkL_iff (g : Grammar) (es : List Expr) :
    shapeOkL g es = true ↔ ∀ e ∈ es, shapeOk g e = true :=
  Prim.allL_iff rfl (fun _ _ => rfl) es

mutual
theorem refsDefined_of_shapeOk (g : Grammar) (e : Expr) (h : shapeOk g e = true) :
    refsDefined g e = true :=
  match e, h with
  | .ident _ _, h => callable_isSome h
  | .rule _ _ _ b, h => refsDefined_of_shapeOk g b (Bool.and_eq_true_iff.1 h).2
  | .seq es, h | .choice es, h => refsDefinedL_of_shapeOkL g es h
  | .opt e, h | .rep e, h | .rep1 e, h | .repExact e _, h | .repMin e _, h | .repMax e _, h
  | .repMinMax e _ _, h | .andP e, h | .notP e, h | .group e _, h | .push e, h =>
    refsDefined_of_shapeOk g e h
  | .str _, _ | .ci _, _ | .range _ _, _ | .pushLit _, _ | .peek, _ | .pop, _ | .drop, _ | .peekAll, _
  | .popAll, _ | .peekSlice _ _, _ | .anyB, _ | .soiB, _ | .eoiB, _ | .uprop _, _ | .skipUntil _, _
  | .optChoice _ _, _ => rfl

theorem refsDefinedL_of_shapeOkL (g : Grammar) :
    ∀ es : List Expr, shapeOkL g es = true → refsDefinedL g es = true :=
  fun es h => match es, h with
  | [], _ => rfl
  | e :: es, h =>
    Bool.and_eq_true_iff.2 ⟨refsDefined_of_shapeOk g e (Bool.and_eq_true_iff.1 h).1,
      refsDefinedL_of_shapeOkL g es (Bool.and_eq_true_iff.1 h).2⟩
end

theorem GenShape.closed {g : Grammar} (h : GenShape g) : Closed g :=
  fun r hr => refsDefined_of_shapeOk g r.body (h.bodies r hr)

section LG
variable (g : Grammar) (inp : Input)

def NB : RG → Prop
  | .exc x => benign x = false
  | _ => True

theorem NB_iff (r : RG) : NB r ↔ (r ≠ .exc .other ∧ r ≠ .exc .nameError) := by
  cases r with
  | oof => simp [NB]
  | done m c ps => simp [NB]
  | exc x => cases x <;> simp [NB, benign]

def NoBenign (rec : SemG) : Prop := ∀ e c ps, shapeOk g e = true → NB (rec e c ps)

theorem noBenign_iff (rec : SemG) :
    NoBenign g rec ↔
      ∀ e c ps, shapeOk g e = true → rec e c ps ≠ .exc .other ∧ rec e c ps ≠ .exc .nameError := by
  constructor
  · intro h e c ps hs; exact (NB_iff _).mp (h e c ps hs)
  · intro h e c ps hs; exact (NB_iff _).mpr (h e c ps hs)

theorem shapeOk_sub {g : Grammar} {x c : Expr} (h : shapeOk g x = true) (s : L0.Sub x c) :
    shapeOk g c = true := by
  cases s with
  | rule => exact (Bool.and_eq_true_iff.1 h).2
  | seq hc => exact (shapeOkL_iff g _).mp h _ hc
  | choice hc => exact (shapeOkL_iff g _).mp h _ hc
  | _ => exact h

/-- the kit of Lemmas/Kit.lean that claims nothing of states and pairs, for the handled shapes:
    what is left of its traversal is which exceptions come out -/
def nbKit : HKit where
  D := fun e => shapeOk g e = true
  W := fun _ => True
  T := fun _ => True
  Φ := fun _ _ _ => True
  sub := shapeOk_sub
  hdr := fun _ => trivial
  identTag := fun _ => trivial
  groupTag := fun _ => trivial
  refl := fun _ => trivial
  trans := fun _ _ => trivial
  drop := fun _ => trivial
  ustack := fun _ => trivial
  negDepth := fun _ => trivial
  suppress := fun _ => trivial
  ok_after := fun _ => trivial
  restore_after := fun _ => trivial
  fail := fun _ _ => trivial
  scope := fun _ _ _ _ _ => trivial
  tag := fun _ _ => trivial

/-- the two markers come from a call of a rule without a generated function and from an
    embedded rule object of a shape the generator does not inline: `shapeOk` excludes both -/
theorem nbKit_exc (hg : GenShape g) : (nbKit g).Exc g fun x => benign x = false where
  index := rfl
  call := fun hD hc => Bool.noConfusion (hD.symm.trans hc)
  trivia := fun n hn hd hc => Bool.noConfusion ((hg.trivia n hn hd).symm.trans hc)
  rule := fun {n m sm b} hD hb => by
    have := (Bool.and_eq_true_iff.1 (hD : (!(n == "EOI" || !hasBit m SILENT || L1.ruleScoped n m)
      && shapeOk g b) = true)).1
    rw [hb] at this; cases this

theorem NB_iff_post {c : PState} {r : RG} : NB r ↔ (nbKit g).PostG (fun x => benign x = false) c r := by
  cases r with
  | exc x => exact Iff.rfl
  | oof => exact Iff.rfl
  | done m c' ps => exact Iff.rfl

theorem noBenign_iff_bal {rec : SemG} :
    NoBenign g rec ↔ (nbKit g).BalG (fun x => benign x = false) rec :=
  ⟨fun h e c ps hs => (NB_iff_post g).mp (h e c ps hs), fun h e c ps hs => (NB_iff_post g).mpr (h e c ps hs)⟩

theorem ruleG_nb {rec : SemG} (h : NoBenign g rec) (name : String) (mod : Nat) (body : Expr)
    (c : PState) (ps : List Pair) (hb : shapeOk g body = true) : NB (LG.ruleG rec name mod body c ps) :=
  (NB_iff_post g).mpr
    (HKit.ruleG_post (X := fun x => benign x = false) rfl ((noBenign_iff_bal g).mp h) mod trivial hb c ps)

theorem run_nb (hg : GenShape g) (n : Nat) : NoBenign g (LG.run g inp n) :=
  (noBenign_iff_bal g).mpr
    (HKit.run_balG (nbKit_exc g hg) (fun r hr => ⟨trivial, hg.bodies r hr⟩) (fun _ _ => trivial) n)

/-- **run level**: on handled shapes generated code never answers with one of the markers -/
theorem no_benign (hg : GenShape g) (n : Nat) (e : Expr) (c : PState) (ps : List Pair)
    (hs : shapeOk g e = true) :
    LG.run g inp n e c ps ≠ .exc .other ∧ LG.run g inp n e c ps ≠ .exc .nameError :=
  (NB_iff _).mp (run_nb g inp hg n e c ps hs)

/-- an answer that is related to one of the interpreter (where only the markers have no
    counterpart) and is not a marker is not an exception -/
theorem not_exc_of_genRel {cg : PState} {ps0 : List Pair} {rg : RG} {r1 : R1}
    (h1 : GenRel cg ps0 rg r1) (h2 : NB rg) (x : PyExc) : rg ≠ .exc x := by
  intro hx
  rw [hx] at h1 h2
  exact Bool.false_ne_true (h2.symm.trans h1)

/-- no hypothesis on the trivia rule is needed (`run_gen`) -/
theorem gen_run_no_exc_all (hg : GenShape g) (n : Nat) (e : Expr) (cg c1 : PState)
    (ps0 : List Pair) (hs : shapeOk g e = true) (s : SRel cg c1) (pg : PreG cg) (p1 : Pre c1)
    (x : PyExc) : LG.run g inp n e cg ps0 ≠ .exc x :=
  not_exc_of_genRel ((run_gen g inp n).rel e cg c1 ps0 s pg p1) (run_nb g inp hg n e cg ps0 hs) x

/-- **run level**: from related reachable states, a handled expression makes the generated-code
    model raise nothing at all -/
theorem gen_run_no_exc (hg : GenShape g) (hsk : SkipTotal g) (n : Nat) (e : Expr) (cg c1 : PState)
    (ps0 : List Pair) (hs : shapeOk g e = true) (s : SRel cg c1) (pg : PreG cg) (p1 : Pre c1)
    (x : PyExc) : LG.run g inp n e cg ps0 ≠ .exc x :=
  gen_run_no_exc_all g inp hg n e cg c1 ps0 hs s pg p1 x

theorem gen_no_exc_callable_all (hg : GenShape g) (start : String)
    (hst : callable g start = true) (fuel k : Nat) (x : PyExc) :
    LG.parse g inp fuel start k ≠ .exc x := by
  unfold LG.parse
  unfold callable at hst
  cases hl : g.lookup start with
  | none => rw [hl] at hst; cases hst
  | some r =>
    rw [hl] at hst
    simp only [Bool.not_eq_true'] at hst
    simp only [hst, Bool.false_eq_true, ↓reduceIte]
    exact not_exc_of_genRel
      (rule_gen (run_gen g inp fuel) (frameBal_run g inp fuel) r.name r.mod r.body
        (.init k) (.init k) [] (C01.srel_refl_init k) DStack.inv_empty (preW_init k))
      (ruleG_nb g (run_nb g inp hg fuel) r.name r.mod r.body (.init k) []
        (hg.bodies r (Prim.lookup_mem hl))) x

/-- **the generated module's `parse()` raises nothing** (other than `PestParsingError`, which is
    `.done false`), for every start rule that has a generated function -/
theorem gen_no_exc_callable (hg : GenShape g) (hsk : SkipTotal g) (start : String)
    (hst : callable g start = true) (fuel k : Nat) (x : PyExc) :
    LG.parse g inp fuel start k ≠ .exc x :=
  gen_no_exc_callable_all g inp hg start hst fuel k x

/-- the same in the uniform formulation: the only built-in in the table is EOI, so every
    defined start rule has a generated function -/
theorem gen_no_exc_closed (hg : GenShape g) (hu : OnlyEOI g) (hsk : SkipTotal g) (start : String)
    (hst : (g.lookup start).isSome = true) (fuel k : Nat) (x : PyExc) :
    LG.parse g inp fuel start k ≠ .exc x :=
  gen_no_exc_callable g inp hg hsk start (callable_of_onlyEOI hu hst) fuel k x

end LG

/-! ### Both execution modes: `Pairs`, `PestParsingError`, or the budget is exceeded -/

theorem r1_oof_or_done {r : R1} (h : ∀ x, r ≠ .exc x) : r = .oof ∨ ∃ m c ps, r = .done m c ps := by
  cases r with
  | oof => exact .inl rfl
  | done m c ps => exact .inr ⟨m, c, ps, rfl⟩
  | exc x => exact absurd rfl (h x)

theorem rg_oof_or_done {r : RG} (h : ∀ x, r ≠ .exc x) : r = .oof ∨ ∃ m c ps, r = .done m c ps := by
  cases r with
  | oof => exact .inl rfl
  | done m c ps => exact .inr ⟨m, c, ps, rfl⟩
  | exc x => exact absurd rfl (h x)

section Combined
variable (g : Grammar) (inp : Input)

/-- **C07, exception part.**  On a grammar without undefined references whose trees have the
    shapes the generator handles (and `SkipTotal`), for every defined start rule (with a generated function),
    input, start position and fuel: each of the two models answers `.oof` (recursion budget
    exceeded / no termination: the property's proviso) or `.done _ _ _` (`Pairs` if matched,
    `PestParsingError` otherwise) — never an exception. -/
theorem parse_never_raises (hg : GenShape g) (hsk : SkipTotal g) (start : String)
    (hst : callable g start = true) (fuel k : Nat) :
    (L1.parse g inp fuel start k = .oof ∨ ∃ m c ps, L1.parse g inp fuel start k = .done m c ps) ∧
    (LG.parse g inp fuel start k = .oof ∨ ∃ m c ps, LG.parse g inp fuel start k = .done m c ps) :=
  ⟨r1_oof_or_done (interp_no_exc g inp hg.closed hsk start (callable_isSome hst) fuel k),
    rg_oof_or_done (gen_no_exc_callable g inp hg hsk start hst fuel k)⟩

/-- the interpreter half alone needs `Closed` in place of `GenShape` -/
theorem interp_parse_never_raises (hc : Closed g) (hsk : SkipTotal g) (start : String)
    (hst : (g.lookup start).isSome = true) (fuel k : Nat) :
    L1.parse g inp fuel start k = .oof ∨ ∃ m c ps, L1.parse g inp fuel start k = .done m c ps :=
  r1_oof_or_done (interp_no_exc g inp hc hsk start hst fuel k)

/-- moreover the two modes agree (C01): same verdict, same pairs, same furthest-failure position;
    of the table only the shapes the generator handles are asked -/
theorem modes_agree_all (hg : GenShape g) (start : String) (hst : callable g start = true) (fuel k : Nat) :
    match LG.parse g inp fuel start k with
    | .oof => L1.parse g inp fuel start k = .oof
    | .exc _ => False
    | .done true cg ps => ∃ c1, L1.parse g inp fuel start k = .done true c1 ps ∧ cg.pos = c1.pos
    | .done false cg _ => ∃ c1 ps1, L1.parse g inp fuel start k = .done false c1 ps1 ∧ cg.fpos = c1.fpos := by
  have h := C01.generated_parse_eq_all g inp fuel start k
  have hx := gen_no_exc_callable_all g inp hg start hst fuel k
  revert h hx
  cases LG.parse g inp fuel start k with
  | oof => intro h _; exact h
  | exc x => intro _ hx; exact absurd rfl (hx x)
  | done m cg ps => intro h _; cases m <;> exact h

theorem modes_agree (hg : GenShape g) (hsk : SkipTotal g) (start : String)
    (hst : callable g start = true) (fuel k : Nat) :
    match LG.parse g inp fuel start k with
    | .oof => L1.parse g inp fuel start k = .oof
    | .exc _ => False
    | .done true cg ps => ∃ c1, L1.parse g inp fuel start k = .done true c1 ps ∧ cg.pos = c1.pos
    | .done false cg _ => ∃ c1 ps1, L1.parse g inp fuel start k = .done false c1 ps1 ∧ cg.fpos = c1.fpos :=
  modes_agree_all g inp hg start hst fuel k

/-- so the generated code finishes with whatever fuel lets the interpreter finish -/
theorem gen_done_of_interp_done (hg : GenShape g) (start : String) (hst : callable g start = true)
    (fuel k : Nat) (h1 : ∃ m c ps, L1.parse g inp fuel start k = .done m c ps) :
    ∃ m c ps, LG.parse g inp fuel start k = .done m c ps := by
  have h := modes_agree_all g inp hg start hst fuel k
  obtain ⟨m1, c1, ps1, e1⟩ := h1
  revert h
  cases LG.parse g inp fuel start k with
  | oof => intro h; rw [e1] at h; cases h
  | exc x => intro h; exact h.elim
  | done m cg ps => intro _; exact ⟨m, cg, ps, rfl⟩

/-! ### "repeating the call returns an equal result"

  The models are functions of (grammar, input, start rule, start position): whatever a call
  returns, the next call with the same arguments returns the same.  That the *real* `parse`
  is such a function — no state survives a call: a fresh `ParserState` per call, the rule
  table and the shared built-in objects are not mutated by parsing — is property C15's
  business (Props/C15.lean), not restated here. -/

theorem interp_deterministic (fuel : Nat) (start : String) (k : Nat) (r r' : R1)
    (h : L1.parse g inp fuel start k = r) (h' : L1.parse g inp fuel start k = r') : r = r' :=
  h.symm.trans h'

theorem gen_deterministic (fuel : Nat) (start : String) (k : Nat) (r r' : RG)
    (h : LG.parse g inp fuel start k = r) (h' : LG.parse g inp fuel start k = r') : r = r' :=
  h.symm.trans h'

end Combined

/-! ### Non-vacuity: concrete grammars meet the hypotheses; the hypotheses are needed -/

theorem skipTotal_of_skipTotalB {g : Grammar} (h : skipTotalB g = true) : SkipTotal g := by
  intro r hr
  simp only [skipTotalB, hr] at h
  exact h

theorem onlyEOI_of_onlyEOIB {g : Grammar} (h : onlyEOIB g = true) : OnlyEOI g := by
  intro r hr
  simp only [onlyEOIB, List.all_eq_true, Bool.not_eq_true'] at h
  exact h r hr

/-- an unoptimised table: EOI (the one built-in kept by name), a tagged reference, an embedded
    built-in rule object, a bounded repetition, a predicate, implicit whitespace -/
def demoG : Grammar :=
  { rules := [⟨"EOI", 0, .eoiB, .builtin⟩,
              ⟨"r", 0, .seq [.str [97], .opt (.ident "s" (some "tt")),
                             .repMin (.rule "ASCII_DIGIT" 2 true (.range 48 57)) 1,
                             .notP (.str [33]), .ident "EOI" none], .grammar⟩,
              ⟨"s", 0, .choice [.str [120], .str [121]], .grammar⟩,
              ⟨"WHITESPACE", SILENT, .str [32], .grammar⟩] }

/-- an optimised table: the fused trivia rule `SKIP` (modifier `SILENT + ATOMIC`) is present -/
def demoS : Grammar :=
  { rules := [⟨"r", 0, .seq [.str [97], .rep (.ident "d" none)], .grammar⟩,
              ⟨"d", SILENT, .rule "ASCII_DIGIT" 2 true (.range 48 57), .grammar⟩,
              ⟨"WHITESPACE", SILENT, .str [32], .grammar⟩,
              ⟨"SKIP", SILENT + ATOMIC, .optChoice [.lit [32] false] true, .grammar⟩] }

example : Closed demoG := closed_of_closedB (by decide +kernel)
example : GenShape demoG := genShape_of_genShapeB (by decide +kernel)
example : OnlyEOI demoG := onlyEOI_of_onlyEOIB (by decide +kernel)
example : SkipTotal demoG := skipTotal_of_skipTotalB (by decide +kernel)
example : (demoG.lookup "r").isSome = true := by decide +kernel
example : callable demoG "r" = true := by decide +kernel
example : callable demoG "EOI" = true := by decide +kernel

example : Closed demoS := closed_of_closedB (by decide +kernel)
example : GenShape demoS := genShape_of_genShapeB (by decide +kernel)
example : OnlyEOI demoS := onlyEOI_of_onlyEOIB (by decide +kernel)
example : SkipTotal demoS := skipTotal_of_skipTotalB (by decide +kernel)
example : demoS.fusedSkip.isSome = true := by decide +kernel
example : callable demoS "r" = true := by decide +kernel

def isDone1 : R1 → Bool → Bool
  | .done m _ _, b => m == b
  | _, _ => false
def isDoneG : RG → Bool → Bool
  | .done m _ _, b => m == b
  | _, _ => false
def isExc1 : R1 → PyExc → Bool
  | .exc x, y => x == y
  | _, _ => false
def isExcG : RG → PyExc → Bool
  | .exc x, y => x == y
  | _, _ => false

-- "a y 12" parses (Pairs) in both modes, "a y !" does not (PestParsingError) — nothing raises
example : isDone1 (L1.parse demoG #[97, 32, 121, 32, 49, 50] 30 "r" 0) true = true := by decide +kernel
example : isDoneG (LG.parse demoG #[97, 32, 121, 32, 49, 50] 30 "r" 0) true = true := by decide +kernel
example : isDone1 (L1.parse demoG #[97, 32, 121, 32, 33] 30 "r" 0) false = true := by decide +kernel
example : isDoneG (LG.parse demoG #[97, 32, 121, 32, 33] 30 "r" 0) false = true := by decide +kernel
example : isDone1 (L1.parse demoS #[97, 32, 49, 32, 50] 30 "r" 0) true = true := by decide +kernel
example : isDoneG (LG.parse demoS #[97, 32, 49, 32, 50] 30 "r" 0) true = true := by decide +kernel

/-- the hypotheses are needed: an undefined reference raises `KeyError` in the interpreter model
    (the real code: `state.parser.rules[name]`) … -/
def badRef : Grammar := { rules := [⟨"r", 0, .seq [.str [97], .ident "nope" none], .grammar⟩] }

example : closedB badRef = false := by decide +kernel
example : isExc1 (L1.parse badRef #[97, 98] 30 "r" 0) .keyError = true := by decide +kernel
example : (match L0.parse badRef #[97, 98] 30 "r" 0 with | .stuck => true | _ => false) = true := by
  decide +kernel

/-- … and a built-in other than EOI that is referenced *by name* has no generated function:
    the generated module raises (the front end never builds such a tree) -/
def badShape : Grammar :=
  { rules := [⟨"r", 0, .ident "ANY" none, .grammar⟩, ⟨"ANY", SILENT, .anyB, .builtin⟩] }

example : closedB badShape = true := by decide +kernel
example : genShapeB badShape = false := by decide +kernel
example : isExcG (LG.parse badShape #[97] 30 "r" 0) .nameError = true := by decide +kernel
example : isDone1 (L1.parse badShape #[97] 30 "r" 0) true = true := by decide +kernel

/-- a built-in other than EOI as *start rule*: the interpreter parses (`Parser.rules` holds the
    built-ins too), the generated module has no `_RULE_MAP` entry for it (`KeyError`).
    `callable g start` excludes this; "every start rule of that grammar" is read as: a rule the
    grammar text defines, or EOI. -/
example : isExcG (LG.parse badShape #[97] 30 "ANY" 0) .keyError = true := by decide +kernel
example : isDone1 (L1.parse badShape #[97] 30 "ANY" 0) true = true := by decide +kernel

/-! ### Termination

  `WF.wellFormed` (PestModel/WF.lean) is the decidable check "free of left recursion, of
  references to undefined rules and of repetitions over expressions that can match empty" —
  with pest's implicit trivia taken into account (the trivia rules are left-called wherever a
  sequence can reach its second element without having consumed anything, and must not be
  nullable).  `Term.parse_terminates` (Lemmas/Term.lean) proves that on such a grammar the
  specification L0 converges for every start rule, input and start position inside the input;
  where it answers, and not `stuck`, the interpreter answers `.done _ _ _` (`Pairs` or
  `PestParsingError`: `C08.interp_done_of_spec`), and where the interpreter does, so does the
  generated code (`gen_done_of_interp_done`).
  The fuel needed is finite but unbounded in the grammar/input (nesting depth): that is the
  property's proviso "every input whose nesting stays within the interpreter's recursion
  budget"; *within* the budget the real call returns what the model returns. -/

/-- `.oof` is simultaneous in the three layers, so termination of L0 is termination of both
    execution modes -/
theorem oof_together (g : Grammar) (inp : Input) (hg : GenShape g) (hsk : SkipTotal g)
    (start : String) (hst : callable g start = true) (fuel k : Nat) :
    (L0.parse g inp fuel start k = .oof ↔ L1.parse g inp fuel start k = .oof) ∧
    (L1.parse g inp fuel start k = .oof ↔ LG.parse g inp fuel start k = .oof) := by
  constructor
  · rw [C08.parse_obs hsk fuel start k]
    exact C08.obs_oof
  · have h := modes_agree g inp hg hsk start hst fuel k
    revert h
    cases LG.parse g inp fuel start k with
    | oof => intro h; simp [h]
    | exc x => intro h; exact absurd h id
    | done m cg ps =>
      intro h
      cases m with
      | true => obtain ⟨c1, h1, _⟩ := h; simp [h1]
      | false => obtain ⟨c1, ps1, h1, _⟩ := h; simp [h1]


section
open WF

mutual
theorem refsDefined_of_wfE (g : Grammar) (N : List String) (e : Expr) (h : wfE g N e = true) :
    refsDefined g e = true :=
  match e, h with
  | .ident _ _, h => h
  | .seq es, h | .choice es, h => refsDefinedL_of_wfEL g N es h
  | .rep e, h | .rep1 e, h | .repMin e _, h => refsDefined_of_wfE g N e (Bool.and_eq_true_iff.1 h).1
  | .rule _ _ _ e, h | .opt e, h | .repExact e _, h | .repMax e _, h | .repMinMax e _ _, h | .andP e, h
  | .notP e, h | .group e _, h | .push e, h => refsDefined_of_wfE g N e h
  | .str _, _ | .ci _, _ | .range _ _, _ | .pushLit _, _ | .peek, _ | .pop, _ | .drop, _ | .peekAll, _
  | .popAll, _ | .peekSlice _ _, _ | .anyB, _ | .soiB, _ | .eoiB, _ | .uprop _, _ | .skipUntil _, _
  | .optChoice _ _, _ => rfl

theorem refsDefinedL_of_wfEL (g : Grammar) (N : List String) :
    ∀ es : List Expr, wfEL g N es = true → refsDefinedL g es = true :=
  fun es h => match es, h with
  | [], _ => rfl
  | e :: es, h =>
    Bool.and_eq_true_iff.2 ⟨refsDefined_of_wfE g N e (Bool.and_eq_true_iff.1 h).1,
      refsDefinedL_of_wfEL g N es (Bool.and_eq_true_iff.1 h).2⟩
end

end

theorem closed_of_wellFormed {g : Grammar} (h : WF.wellFormed g = true) : Closed g := by
  intro r hr
  exact refsDefined_of_wfE g _ r.body ((Term.wfg_of_wellFormed g h).wf r hr)

section Termination
variable (g : Grammar) (inp : Input)

/-- **Termination of the specification.**  (The property's own range
    `0 ≤ start_pos ≤ len(text)` is a hypothesis: started beyond the end, `SkipUntil` moves
    the position *back* to `len(text)`, which the progress argument does not cover.) -/
theorem parse_terminates (h : WF.wellFormed g = true) (start : String) (k : Nat) (hk : k ≤ inp.size) :
    ∃ n, L0.run g inp n (.ident start none) ⟨k, [], false⟩ ≠ .oof :=
  Term.parse_terminates g inp h start k hk

theorem run_terminates (h : WF.wellFormed g = true) (e : Expr)
    (he : WF.wfE g (WF.nullSet g) e = true) (s : S0) (hs : s.pos ≤ inp.size) :
    ∃ n, L0.run g inp n e s ≠ .oof :=
  Term.run_terminates g inp h e he s hs

/-- **Total correctness of the specification.**  An expression of a well-formed grammar, started
    anywhere inside the input, has an answer, neither `stuck` nor out of fuel: it fails, or it
    matches and ends inside the input, not before where it began, with the atomicity flag as it
    found it. -/
theorem spec_total (h : WF.wellFormed g = true) {e : Expr} (he : WF.wfE g (WF.nullSet g) e = true)
    (s : S0) (hs : s.pos ≤ inp.size) :
    ∃ r, L0.Big g inp (.expr e) s r ∧
      (r = .fail ∨ ∃ s2 ps, r = .ok s2 ps ∧ s2.atomic = s.atomic ∧ s.pos ≤ s2.pos ∧ s2.pos ≤ inp.size) := by
  obtain ⟨r, hb⟩ := Term.T_iff.1 (Term.run_terminates g inp h e he s hs)
  refine ⟨r, hb, ?_⟩
  cases r with
  | fail => exact .inl rfl
  | oof => exact absurd rfl hb.ne_oof
  | stuck => exact absurd rfl (big_no_stuck (closed_of_wellFormed h) hb (refsDefined_of_wfE g _ e he))
  | ok s2 ps =>
    have hp := hb.prog (Term.wfg_of_wellFormed g h).ncl hs s2 ps rfl
    exact .inr ⟨s2, ps, rfl, hb.atomic, hp.1, hp.2.1⟩

/-- … and a call of a rule that is not silent yields one pair -/
theorem spec_rule_total (h : WF.wellFormed g = true) {name : String} {rl : Rule}
    (hl : g.lookup name = some rl) (hS : hasBit rl.mod SILENT = false) (t : Option String) (s : S0)
    (hs : s.pos ≤ inp.size) :
    ∃ r, L0.Big g inp (.expr (.ident name t)) s r ∧
      (r = .fail ∨ ∃ s2 p, r = .ok s2 [p] ∧ s2.atomic = s.atomic ∧ s.pos ≤ s2.pos ∧ s2.pos ≤ inp.size) := by
  obtain ⟨r, h1, h2⟩ := spec_total g inp h ((Term.wfg_of_wellFormed g h).wf _ (Prim.lookup_mem hl))
    { s with atomic := L0.ruleAtomic rl.name rl.mod s.atomic } hs
  have hb := L0.Big.ident (t := t) hl (.rule h1)
  rcases h2 with rfl | ⟨s2, ps, rfl, _, h3, h4⟩
  · exact ⟨.fail, hb, .inl rfl⟩
  · refine ⟨_, hb, .inr ⟨{ s2 with atomic := s.atomic },
      .mk rl.name rl.mod s.pos s2.pos (if hasBit rl.mod ATOMIC then visibleList ps else ps) none, ?_, rfl, h3, h4⟩⟩
    exact L0.ruleWrap_pair hS

/-- **The interpreter terminates and returns `Pairs` or raises `PestParsingError`**: with
    enough fuel (recursion budget) — and then with any larger amount — `Parser.parse` answers
    `.done`, for every defined start rule, input and start position inside the input. -/
theorem interp_terminates (h : WF.wellFormed g = true) (hsk : SkipTotal g) (start : String)
    (hst : (g.lookup start).isSome = true) (k : Nat) (hk : k ≤ inp.size) :
    ∃ n, ∀ fuel, n ≤ fuel → ∃ m c ps, L1.parse g inp fuel start k = .done m c ps := by
  obtain ⟨n, x, hx, hstab⟩ := Term.parse_terminates_stable g inp h start k hk
  exact ⟨n, fun fuel hf => C08.interp_done_of_spec hsk (hstab fuel hf ▸ hx)
    (parse_no_stuck g inp (closed_of_wellFormed h) start hst fuel k)⟩

/-- **C07, both execution modes**: on a well-formed grammar whose trees have the shapes the
    generator handles (and `SkipTotal`), for every start rule with a generated function, every input and every
    start position inside it, there is a recursion budget from which on both `Parser.parse`
    and the generated `parse()` return `Pairs` (`.done true`) or raise `PestParsingError`
    (`.done false`) — nothing else — and they agree (same verdict, same pairs, same
    furthest-failure position: `modes_agree`). -/
theorem parse_total (h : WF.wellFormed g = true) (hg : GenShape g) (hsk : SkipTotal g)
    (start : String) (hst : callable g start = true) (k : Nat) (hk : k ≤ inp.size) :
    ∃ n, ∀ fuel, n ≤ fuel →
      (∃ m c ps, L1.parse g inp fuel start k = .done m c ps) ∧
      (∃ m c ps, LG.parse g inp fuel start k = .done m c ps) := by
  obtain ⟨n, hn⟩ := interp_terminates g inp h hsk start (callable_isSome hst) k hk
  exact ⟨n, fun fuel hf => ⟨hn fuel hf, gen_done_of_interp_done g inp hg start hst fuel k (hn fuel hf)⟩⟩

end Termination

/-- recursion through `value → array → value`, an optional, nested repetitions, an atomic rule,
    SOI/EOI, implicit whitespace -/
def jsonish : Grammar :=
  { rules := [⟨"file", 0, .seq [.rule "SOI" 2 true .soiB, .ident "value" none, .ident "EOI" none], .grammar⟩,
              ⟨"value", 0, .choice [.ident "array" none, .ident "number" none], .grammar⟩,
              ⟨"array", 0, .seq [.str [91], .opt (.seq [.ident "value" none,
                  .rep (.seq [.str [44], .ident "value" none])]), .str [93]], .grammar⟩,
              ⟨"number", ATOMIC, .rep1 (.rule "ASCII_DIGIT" 2 true (.range 48 57)), .grammar⟩,
              ⟨"EOI", 0, .eoiB, .builtin⟩,
              ⟨"WHITESPACE", SILENT, .str [32], .grammar⟩] }

example : WF.wellFormed jsonish = true := by decide +kernel
example : GenShape jsonish := genShape_of_genShapeB (by decide +kernel)
example : SkipTotal jsonish := skipTotal_of_skipTotalB (by decide +kernel)
example : callable jsonish "file" = true := by decide +kernel
example : WF.rankTable jsonish = [("file", 2), ("value", 1), ("array", 0), ("number", 0), ("EOI", 0),
    ("WHITESPACE", 0)] := by decide +kernel
example : WF.wellFormed demoG = true := by decide +kernel
example : WF.wellFormed demoS = true := by decide +kernel
-- "[1, [2,3] ]": parsed by both modes with fuel 40
example : isDone1 (L1.parse jsonish #[91, 49, 44, 32, 91, 50, 44, 51, 93, 32, 93] 40 "file" 0) true = true := by
  decide +kernel
example : isDoneG (LG.parse jsonish #[91, 49, 44, 32, 91, 50, 44, 51, 93, 32, 93] 40 "file" 0) true = true := by
  decide +kernel

/-- left recursion (direct, and through a nullable prefix), a repetition over a nullable body, a
    nullable trivia rule, left recursion through implicit trivia, an undefined reference: rejected -/
def lrDirect : Grammar :=
  { rules := [⟨"e", 0, .choice [.seq [.ident "e" none, .str [43], .str [49]], .str [49]], .grammar⟩] }
def lrNullablePrefix : Grammar :=
  { rules := [⟨"e", 0, .seq [.opt (.str [45]), .ident "e" none], .grammar⟩] }
def repNullable : Grammar :=
  { rules := [⟨"e", 0, .rep (.opt (.str [97])), .grammar⟩] }
def nullableWs : Grammar :=
  { rules := [⟨"e", 0, .seq [.str [97], .str [98]], .grammar⟩, ⟨"WHITESPACE", SILENT, .rep (.str [32]), .grammar⟩] }
def lrThroughTrivia : Grammar :=
  { rules := [⟨"e", NONATOMIC, .seq [.opt (.str [97]), .str [98]], .grammar⟩,
              ⟨"WHITESPACE", SILENT, .choice [.str [32], .seq [.ident "e" none, .str [33]]], .grammar⟩] }

example : WF.wellFormed lrDirect = false := by decide +kernel
example : WF.wellFormed lrNullablePrefix = false := by decide +kernel
example : WF.wellFormed repNullable = false := by decide +kernel
example : WF.wellFormed nullableWs = false := by decide +kernel
example : WF.wellFormed lrThroughTrivia = false := by decide +kernel
example : WF.wellFormed badRef = false := by decide +kernel

/-- … and rightly so: the specification and the interpreter model run out of fuel on them
    (shown for fuel 40; with `e` not marked `!` the last grammar would terminate, because trivia
    rules are atomic and implicit trivia is off inside them — the check does not track atomicity
    and would reject it all the same: it is conservative there) -/
def isOof0 : R0 → Bool
  | .oof => true
  | _ => false
def isOof1 : R1 → Bool
  | .oof => true
  | _ => false
example : isOof1 (L1.parse lrDirect #[49] 40 "e" 0) = true := by decide +kernel
example : isOof1 (L1.parse repNullable #[98] 40 "e" 0) = true := by decide +kernel
example : isOof1 (L1.parse nullableWs #[97, 98] 40 "e" 0) = true := by decide +kernel
example : isOof0 (L0.parse lrThroughTrivia #[99, 98] 40 "e" 0) = true := by decide +kernel
example : isOof1 (L1.parse lrThroughTrivia #[99, 98] 40 "e" 0) = true := by decide +kernel

end C07
end Pest
