/-
  Props/C05.lean — property C05: "Stack operations match their specification and are undone
  on backtracking".

  Specification: the eight stack clauses of L0 (`Spec.lean`), restated below one by one.
  Undo on backtracking: L0 re-uses the *incoming* state after a failed alternative / optional /
  iteration / predicate and after a successful predicate; the refinement theorem
  (`C03.interp_refines_spec`) says the interpreter model ends in exactly the state L0 says, so
  every stack change made inside is undone, however deeply nested the successful sub-matches
  that made it.  This rests on C09: the delta-encoded `Stack` behaves like full copies
  (`restore_after` and `ok_after` in Lemmas/Frame.lean are where `DStack.restore` and
  `DStack.dropSnap` are used).
-/
import PestModel.Lemmas.Refine

namespace Pest
namespace C05

variable (g : Grammar) (inp : Input)

/-- PUSH(e) pushes exactly the text e matched -/
theorem push_spec (k : Nat) (rec : Sem0) (e : Expr) (s : S0) :
    L0.step g inp k rec (.push e) s =
      (match rec e s with
       | .ok s' ps => .ok { s' with stk := slice inp s.pos s'.pos :: s'.stk } ps
       | r => r) := rfl

/-- PUSH_LITERAL pushes its literal and always succeeds, consuming nothing -/
theorem push_literal_spec (k : Nat) (rec : Sem0) (x : Str) (s : S0) :
    L0.step g inp k rec (.pushLit x) s = .ok { s with stk := x :: s.stk } [] := rfl

/-- PEEK matches the top entry; POP also removes it on success; both fail on an empty stack -/
theorem peek_spec (k : Nat) (rec : Sem0) (s : S0) :
    L0.step g inp k rec .peek s =
      (match s.stk with
       | [] => .fail
       | t :: _ => if startsWithAt inp t s.pos then .ok (L0.adv s t.length) [] else .fail) := rfl

theorem pop_spec (k : Nat) (rec : Sem0) (s : S0) :
    L0.step g inp k rec .pop s =
      (match s.stk with
       | [] => .fail
       | t :: r => if startsWithAt inp t s.pos then .ok { L0.adv s t.length with stk := r } [] else .fail) := rfl

/-- DROP removes the top entry without matching and fails on an empty stack -/
theorem drop_spec (k : Nat) (rec : Sem0) (s : S0) :
    L0.step g inp k rec .drop s =
      (match s.stk with | [] => .fail | _ :: r => .ok { s with stk := r } []) := rfl

/-- PEEK_ALL / POP_ALL match all entries top to bottom (`stk` has its top at the head);
    POP_ALL empties the stack on success -/
theorem peek_all_spec (k : Nat) (rec : Sem0) (s : S0) :
    L0.step g inp k rec .peekAll s =
      (match L1.matchAll inp s.stk s.pos with | some p => .ok { s with pos := p } [] | none => .fail) := rfl

theorem pop_all_spec (k : Nat) (rec : Sem0) (s : S0) :
    L0.step g inp k rec .popAll s =
      (match L1.matchAll inp s.stk s.pos with
       | some p => .ok { s with pos := p, stk := [] } [] | none => .fail) := rfl

/-- PEEK[a..b] matches the addressed slice bottom to top, Python slice indices -/
theorem peek_slice_spec (k : Nat) (rec : Sem0) (a b : Option Int) (s : S0) :
    L0.step g inp k rec (.peekSlice a b) s =
      (match L1.matchAll inp (pySlice s.stk.reverse a b) s.pos with
       | some p => .ok { s with pos := p } [] | none => .fail) := rfl

/-- `matchAll` matches the entries back to back: each at the position where the previous ended -/
theorem matchAll_cons (l : Str) (ls : List Str) (p : Nat) :
    L1.matchAll inp (l :: ls) p =
      (if startsWithAt inp l p then L1.matchAll inp ls (p + l.length) else none) := rfl

def isStackOp : Expr → Bool
  | .pushLit _ | .peek | .pop | .drop | .peekAll | .popAll | .peekSlice _ _ => true
  | _ => false

theorem isLeaf_of_isStackOp {e : Expr} (he : isStackOp e = true) : e.isLeaf = true := by
  cases e with
  | pushLit | peek | pop | drop | peekAll | popAll | peekSlice => rfl
  | _ => cases he

/-- a terminal — a stack terminal or any other — always answers, whatever `rec` is: it fails
    through `state.fail` inside a rule, POP_ALL has fuel for every entry, and POP's second look at
    the stack finds what PEEK saw -/
theorem terminal_finishes (k : Nat) (rec : Sem1) (e : Expr) (he : e.isLeaf = true) (c : PState)
    (p : Pre c) : ∃ m c' ps, L1.step g inp k rec e c = .done m c' ps := by
  by_cases hpa : e = .popAll
  · subst hpa
    have hx := popAll_rel g inp c p k rec
    generalize L1.step g inp k rec .popAll c = r at hx ⊢
    match r, hx with
    | .done m c' ps, _ => exact ⟨m, c', ps, rfl⟩
  · have hl := L1.step_leaf (g := g) (inp := inp) he hpa k rec c
    generalize L1.step g inp k rec e c = r at hl
    cases hl with
    | fail =>
      obtain ⟨c1, _, h1⟩ := failT_inside p.rne
      exact ⟨_, _, _, h1⟩
    | same m => exact ⟨_, _, _, rfl⟩
    | move us q hq => exact ⟨_, _, _, rfl⟩

/-- none of the stack terminals ever raises (the model's `exc` results — `IndexError` from an
    empty stack, from the rule stack inside `fail()`, from `_pos_history` — are unreachable),
    and they never run out of fuel.  This is `terminal_finishes` at the stack terminals; the
    hypotheses `SkipTotal g` and `Good rec rec0` are not needed (`rec` is never called). -/
theorem stack_ops_never_raise (hs : SkipTotal g) (k : Nat) (rec : Sem1) (rec0 : Sem0)
    (h : Good rec rec0) (e : Expr) (he : isStackOp e = true) (c : PState) (p : Pre c) :
    ∃ m c' ps, L1.step g inp k rec e c = .done m c' ps :=
  terminal_finishes g inp k rec e (isLeaf_of_isStackOp he) c p

theorem failed_terminal_restores (k : Nat) (rec : Sem1) (e : Expr) (he : e.isLeaf = true)
    (c c' : PState) (ps : List Pair) (p : Pre c) (hf : L1.step g inp k rec e c = .done false c' ps) :
    c'.pos = c.pos ∧ c'.ustack.items = c.ustack.items ∧ ps = [] := by
  by_cases hpa : e = .popAll
  · -- the only one that works under a checkpoint: `restore` gives the entry state back
    subst hpa
    have hx := popAll_rel g inp c p k rec
    rw [hf] at hx
    have ha := hx.2.2.2
    simp only [abs0, S0.mk.injEq] at ha
    exact ⟨ha.1, ha.2.1, hx.2.1⟩
  · -- the others fail through `state.fail`, which touches only the failure record, or not at all
    have hl := L1.step_leaf (g := g) (inp := inp) he hpa k rec c
    generalize L1.step g inp k rec e c = r at hl hf
    cases hl with
    | fail =>
      obtain ⟨c1, hq, h1⟩ := failT_inside p.rne
      rw [h1] at hf
      cases hf
      obtain ⟨h0, _, h2, _⟩ := fail_same hq
      exact ⟨h0, by rw [h2], rfl⟩
    | same m => cases hf; exact ⟨rfl, rfl, rfl⟩
    | move us q hq => cases hf

/-- on failure none of them moves the position or changes the stack: the interpreter model
    returns with exactly the position and stack contents it was entered with (stronger than
    the frame condition: these terminals leave no garbage).  `failed_terminal_restores` at the
    stack terminals; `SkipTotal g` and `Good rec rec0` are not needed here either. -/
theorem failed_op_is_identity (hs : SkipTotal g) (k : Nat) (rec : Sem1) (rec0 : Sem0)
    (h : Good rec rec0) (e : Expr) (he : isStackOp e = true) (c c' : PState) (ps : List Pair)
    (p : Pre c) (hf : L1.step g inp k rec e c = .done false c' ps) :
    c'.pos = c.pos ∧ c'.ustack.items = c.ustack.items ∧ ps = [] :=
  failed_terminal_restores g inp k rec e (isLeaf_of_isStackOp he) c c' ps p hf

end C05
end Pest
