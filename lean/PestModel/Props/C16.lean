/-
  Props/C16.lean — property C16: "For grammars that do not use SOI, parsing text at
  start_pos=k gives exactly the result of parsing text[k:] at 0 with every position shifted
  by k - trees and failure positions alike - for every 0 <= k <= len(text), in every execution
  mode.  Characters before start_pos are never consulted."

  Proved for the interpreter model L1 and, by a traversal of its own (only the nodes without
  sub-expressions are shared: both models carry out the decision of `leafAct`), for the
  generated-code model LG: C01
  relates LG to L1 only up to `GenRel` (related, not equal, end states: the rule stack and the
  keys of the failure record differ), so going through it would weaken the conclusion.  Optimised
  grammars are grammars too (the optimizer-made nodes `skipUntil` / `optChoice` are node kinds of
  `Expr` and are covered), so "every execution mode" is: {L1, LG} × {any SOI-free rule table}.

  Definitions (Lemmas/Shift.lean):
  `SOIFree g`      no rule body of the table contains the `_SOI` node (the front end embeds the
                   built-in as `.rule "SOI" 2 true .soiB`; `soiFree` looks inside embedded rules).
  `ShiftRel k c c'` `c` is `c'` with position, position history and furthest-failure position
                   moved by `k` (the sentinel `-1` stays `-1`); all other components equal.
  `shiftL k ps`    `ps` with `k` added to every start/stop, at every depth.
  `ResRel k r r'`  same verdict (out of fuel / the same exception / matched / failed),
                   `ShiftRel`-related end states, `pairs = shiftL k pairs'`.

  Lemmas/Shift.lean proves the equations `run … (c'.shift k) = (run … c').shift k`; the relations
  follow because the furthest-failure position never drops below the sentinel (`fposKit`).
-/
import PestModel.Lemmas.Shift
import PestModel.Lemmas.FailPos

namespace Pest
namespace C16

variable (g : Grammar) (inp : Input)

/-- the furthest-failure position is the sentinel `-1` or a real position, and stays so: what
    turns "running commutes with `shift`" into the relations `ShiftRel` / `ResRel` -/
def fposKit : FailPos.Kit g inp where
  I c := -1 ≤ c.fpos
  N _ := True
  core h cc := by rw [cc.fp]; exact h
  setPos _ h _ := h
  checkpoint h := h
  ok h := h
  restore h := h
  push _ h _ := h
  pop h _ := h
  fail := fun {c c' _ _} (h : -1 ≤ c.fpos) _ hf => by
    show -1 ≤ c'.fpos
    rcases FailPos.fail_fpos hf with e | e
    · rw [e]; exact h
    · rw [e]; exact Int.le_trans (by decide) (Int.natCast_nonneg _)
  rule _ _ := ⟨trivial, .of_forall (fun _ => trivial) _⟩

/-- **Shift invariance, every SOI-free expression, every pair of related states, equal fuel**
    (interpreter model).  Running on `inp` from a state whose positions are all `≥ k` is
    running on `inp[k:]` from the state moved back by `k`. -/
theorem shift_invariance (hg : SOIFree g) {k : Nat} (hk : k ≤ inp.size) (n : Nat) (e : Expr)
    (c c' : PState) (he : soiFree e = true) (s : ShiftRel k c c') :
    ResRel k (L1.run g inp n e c) (L1.run g (inp.extract k inp.size) n e c') := by
  rw [s.eq_shift, run_shift g (shifted_extract hk) hg n e c' he]
  exact ResRel.of_shift fun m d ps hd =>
    FailPos.run_inv (fposKit g _) n (.of_forall (fun _ => trivial) e) hd s.fpos_ge

/-- the same for the generated-code model; the caller's list is threaded -/
theorem gen_shift_invariance (hg : SOIFree g) {k : Nat} (hk : k ≤ inp.size) (n : Nat) (e : Expr)
    (c c' : PState) (ps' : List Pair) (he : soiFree e = true) (s : ShiftRel k c c') :
    ResRelG k (LG.run g inp n e c (shiftL k ps')) (LG.run g (inp.extract k inp.size) n e c' ps') := by
  rw [s.eq_shift, runG_shift g (shifted_extract hk) hg n e c' ps' he]
  exact ResRelG.of_shift fun m d ps hd =>
    FailPos.runG_inv (fposKit g _) n (.of_forall (fun _ => trivial) e) hd s.fpos_ge

/-- `Parser.parse(start, text, start_pos=k)` is `Parser.parse(start, text[k:])` shifted by `k` -/
theorem parse_eq_shift (hg : SOIFree g) {k : Nat} (hk : k ≤ inp.size) (fuel : Nat) (start : String) :
    L1.parse g inp fuel start k = (L1.parse g (inp.extract k inp.size) fuel start 0).shift k := by
  simpa using parse_shifted g (shifted_extract hk) hg fuel start 0

theorem gen_parse_eq_shift (hg : SOIFree g) {k : Nat} (hk : k ≤ inp.size) (fuel : Nat)
    (start : String) :
    LG.parse g inp fuel start k = (LG.parse g (inp.extract k inp.size) fuel start 0).shift k := by
  simpa using gen_parse_shifted g (shifted_extract hk) hg fuel start 0

theorem parse_fpos_ge {fuel j : Nat} {start : String} {m : Bool} {c : PState} {ps : List Pair}
    (h : L1.parse g inp fuel start j = .done m c ps) : -1 ≤ c.fpos :=
  FailPos.parse_inv (fposKit g inp) (Int.le_refl _) h

theorem gen_parse_fpos_ge {fuel j : Nat} {start : String} {m : Bool} {c : PState} {ps : List Pair}
    (h : LG.parse g inp fuel start j = .done m c ps) : -1 ≤ c.fpos :=
  FailPos.parseG_inv (fposKit g inp) (Int.le_refl _) h

/-- `Parser.parse(start, text, start_pos=k)` vs `Parser.parse(start, text[k:])`, as a relation -/
theorem parse_shift_rel (hg : SOIFree g) {k : Nat} (hk : k ≤ inp.size) (fuel : Nat) (start : String) :
    ResRel k (L1.parse g inp fuel start k) (L1.parse g (inp.extract k inp.size) fuel start 0) := by
  rw [parse_eq_shift g inp hg hk]
  exact ResRel.of_shift fun _ _ _ => parse_fpos_ge g _

theorem gen_parse_shift_rel (hg : SOIFree g) {k : Nat} (hk : k ≤ inp.size) (fuel : Nat) (start : String) :
    ResRelG k (LG.parse g inp fuel start k) (LG.parse g (inp.extract k inp.size) fuel start 0) := by
  rw [gen_parse_eq_shift g inp hg hk]
  exact ResRelG.of_shift fun _ _ _ => gen_parse_fpos_ge g _

theorem resRel_left_unique {k : Nat} {r₁ r₂ r' : R1} (h₁ : ResRel k r₁ r') (h₂ : ResRel k r₂ r') :
    r₁ = r₂ :=
  h₁.eq_shift.trans h₂.eq_shift.symm

theorem resRelG_left_unique {k : Nat} {r₁ r₂ r' : RG} (h₁ : ResRelG k r₁ r') (h₂ : ResRelG k r₂ r') :
    r₁ = r₂ :=
  h₁.eq_shift.trans h₂.eq_shift.symm

/-- **C16 for `Parser.parse`, spelled out.**  Whatever parsing `text[k:]` at 0 gives, parsing
    `text` at `k` gives the same shifted by `k`: out of fuel together; the same exception
    (only `KeyError` for an undefined rule, by C03); the same tree with every span moved by
    `k`, ending `k` further; or failure with the furthest-failure position moved by `k`
    (both the sentinel `-1` when nothing was recorded) and the same expected / unexpected rule
    names and rule stack. -/
theorem parse_shift (hg : SOIFree g) {k : Nat} (hk : k ≤ inp.size) (fuel : Nat) (start : String) :
    match L1.parse g (inp.extract k inp.size) fuel start 0 with
    | .oof => L1.parse g inp fuel start k = .oof
    | .exc e => L1.parse g inp fuel start k = .exc e
    | .done true c' ps' =>
      ∃ c, L1.parse g inp fuel start k = .done true c (shiftL k ps') ∧ c.pos = c'.pos + k
    | .done false c' ps' =>
      ∃ c, L1.parse g inp fuel start k = .done false c (shiftL k ps') ∧
        ((c.fpos = -1 ∧ c'.fpos = -1) ∨ (0 ≤ c'.fpos ∧ c.fpos = c'.fpos + k)) ∧
        c.fexp = c'.fexp ∧ c.funexp = c'.funexp ∧ c.fstack = c'.fstack := by
  rw [parse_eq_shift g inp hg hk]
  cases hp : L1.parse g (inp.extract k inp.size) fuel start 0 with
  | oof => rfl
  | exc e => rfl
  | done m c' ps' =>
    cases m with
    | true => exact ⟨_, rfl, rfl⟩
    | false => exact ⟨_, rfl, (shiftRel_shift (parse_fpos_ge g _ hp)).fp, rfl, rfl, rfl⟩

/-- the same for the generated module's `parse()` -/
theorem gen_parse_shift (hg : SOIFree g) {k : Nat} (hk : k ≤ inp.size) (fuel : Nat) (start : String) :
    match LG.parse g (inp.extract k inp.size) fuel start 0 with
    | .oof => LG.parse g inp fuel start k = .oof
    | .exc e => LG.parse g inp fuel start k = .exc e
    | .done true c' ps' =>
      ∃ c, LG.parse g inp fuel start k = .done true c (shiftL k ps') ∧ c.pos = c'.pos + k
    | .done false c' ps' =>
      ∃ c, LG.parse g inp fuel start k = .done false c (shiftL k ps') ∧
        ((c.fpos = -1 ∧ c'.fpos = -1) ∨ (0 ≤ c'.fpos ∧ c.fpos = c'.fpos + k)) ∧
        c.fexp = c'.fexp ∧ c.funexp = c'.funexp ∧ c.fstack = c'.fstack := by
  rw [gen_parse_eq_shift g inp hg hk]
  cases hp : LG.parse g (inp.extract k inp.size) fuel start 0 with
  | oof => rfl
  | exc e => rfl
  | done m c' ps' =>
    cases m with
    | true => exact ⟨_, rfl, rfl⟩
    | false => exact ⟨_, rfl, (shiftRel_shift (gen_parse_fpos_ge g _ hp)).fp, rfl, rfl, rfl⟩

/-! ### Characters before `start_pos` are never consulted -/

/-- **No look-behind.**  Two texts that agree from `k` on give *identical* results when parsed
    from `k`: same verdict, same tree, same final state — furthest-failure position, expected /
    unexpected names and all. -/
theorem no_lookbehind (hg : SOIFree g) (inp₁ inp₂ : Input) {k : Nat} (h₁ : k ≤ inp₁.size)
    (h₂ : k ≤ inp₂.size) (hsuf : inp₁.extract k inp₁.size = inp₂.extract k inp₂.size)
    (fuel : Nat) (start : String) :
    L1.parse g inp₁ fuel start k = L1.parse g inp₂ fuel start k := by
  rw [parse_eq_shift g inp₁ hg h₁, parse_eq_shift g inp₂ hg h₂, hsuf]

theorem gen_no_lookbehind (hg : SOIFree g) (inp₁ inp₂ : Input) {k : Nat} (h₁ : k ≤ inp₁.size)
    (h₂ : k ≤ inp₂.size) (hsuf : inp₁.extract k inp₁.size = inp₂.extract k inp₂.size)
    (fuel : Nat) (start : String) :
    LG.parse g inp₁ fuel start k = LG.parse g inp₂ fuel start k := by
  rw [gen_parse_eq_shift g inp₁ hg h₁, gen_parse_eq_shift g inp₂ hg h₂, hsuf]

theorem prefix_irrelevant (hg : SOIFree g) (pre₁ pre₂ suffix : List CP) (hlen : pre₁.length = pre₂.length)
    (fuel : Nat) (start : String) :
    L1.parse g (pre₁ ++ suffix).toArray fuel start pre₁.length
      = L1.parse g (pre₂ ++ suffix).toArray fuel start pre₁.length := by
  apply no_lookbehind g hg
  · simp
  · simp; omega
  · apply Array.ext'
    simp [hlen]

/-- trivia, a tag, an embedded built-in, the stack, a predicate, an optimizer-made node -/
def demoG : Grammar :=
  { rules := [⟨"r", 0, .seq [.push (.ident "w" (some "t")), .rep (.rule "ASCII_DIGIT" 2 true (.range 48 57)),
                              .notP (.str [33]), .pop, .ident "EOI" none], .grammar⟩,
              ⟨"w", 0, .choice [.str [120], .optChoice [.lit [121] false, .lit [122, 122] true] false], .grammar⟩,
              ⟨"EOI", 0, .eoiB, .builtin⟩,
              ⟨"WHITESPACE", SILENT, .str [32], .grammar⟩] }

example : SOIFree demoG := (soiFreeG_iff demoG).1 (by decide)

mutual
def spans : Pair → List (String × Nat × Nat × Option String)
  | .mk n _ s e ch t => (n, s, e, t) :: spansL ch
def spansL : List Pair → List (String × Nat × Nat × Option String)
  | [] => []
  | p :: ps => spans p ++ spansL ps
end

/-- Boolean reading of `parse_shift` on a concrete pair of results -/
def shiftedOk (k : Nat) : R1 → R1 → Bool
  | .done true c ps, .done true c' ps' =>
    c.pos == c'.pos + k && spansL ps == (spansL ps').map (fun (n, s, e, t) => (n, s + k, e + k, t))
      && ps'.length == 1
  | _, _ => false

def shiftedFail (k : Nat) (f : Int) : R1 → R1 → Bool
  | .done false c _, .done false c' _ => c.fpos == c'.fpos + k && c.fexp == c'.fexp && c'.fpos == f
  | _, _ => false

def shiftedOkG (k : Nat) : RG → RG → Bool
  | .done true c ps, .done true c' ps' =>
    c.pos == c'.pos + k && spansL ps == (spansL ps').map (fun (n, s, e, t) => (n, s + k, e + k, t))
      && ps'.length == 1
  | _, _ => false

-- text "??x 1 2 x", start_pos 2: matches to the end, three pairs (r, w tagged t, EOI) shifted by 2
example : shiftedOk 2 (L1.parse demoG #[63, 63, 120, 32, 49, 32, 50, 32, 120] 30 "r" 2)
    (L1.parse demoG (#[63, 63, 120, 32, 49, 32, 50, 32, 120].extract 2 9) 30 "r" 0) = true := by
  decide +kernel
example : shiftedOkG 2 (LG.parse demoG #[63, 63, 120, 32, 49, 32, 50, 32, 120] 30 "r" 2)
    (LG.parse demoG (#[63, 63, 120, 32, 49, 32, 50, 32, 120].extract 2 9) 30 "r" 0) = true := by
  decide +kernel
-- text "??x 1!": fails, furthest failure at 3 in the suffix and at 5 in the text
example : shiftedFail 2 3 (L1.parse demoG #[63, 63, 120, 32, 49, 33] 30 "r" 2)
    (L1.parse demoG (#[63, 63, 120, 32, 49, 33].extract 2 6) 30 "r" 0) = true := by
  decide +kernel
-- k = len(text): empty suffix, both fail at the (shifted) start
example : shiftedFail 2 0 (L1.parse demoG #[63, 63] 30 "r" 2)
    (L1.parse demoG (#[63, 63].extract 2 2) 30 "r" 0) = true := by
  decide +kernel

/-- the hypothesis is needed: with SOI the two runs differ -/
def soiG : Grammar :=
  { rules := [⟨"r", 0, .seq [.rule "SOI" 2 true .soiB, .str [120]], .grammar⟩] }

def verdict : R1 → Option Bool
  | .done m _ _ => some m
  | _ => none

example : soiFreeG soiG = false := by decide
example : verdict (L1.parse soiG #[63, 120] 10 "r" 1) = some false
    ∧ verdict (L1.parse soiG (#[63, 120].extract 1 2) 10 "r" 0) = some true := by
  decide +kernel

end C16
end Pest
