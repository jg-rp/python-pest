/-
  Props/C08.lean — property C08: "Rewriting a grammar in ways that cannot change its meaning —
  singly or in any combination, at any nesting — leaves every parse result unchanged: adding
  redundant parentheses, re-associating nested sequences or choices, extracting a
  sub-expression into a new silent rule, and replacing e by (e | e), by ((e ~ NEVER) | e) or
  by ((!e ~ NEVER) | e) where NEVER is a literal that cannot occur in the input."

  What is proved, about the specification L0 (`Spec.lean`), for every grammar, input and state,
  with the fuel-independent meaning `L0.Conv` (a `Group` node costs one level of fuel, an
  extracted rule two, so equal-fuel statements would be false):

    (1)–(3)   `group_id`, `seq_assoc`/`seq_flatten`, `choice_assoc`/`choice_flatten`,
              `dup_choice`                                                       unconditional
    (4),(5)   `never_seq`, `never_notpred`      when NEVER does not occur in the input and
              implicit trivia is total (`TriviaTotal`); the exact forms `never_seq_fwd/bwd`,
              `never_notpred_fwd/bwd`, without `TriviaTotal`, say what happens otherwise
    (6)       `extract_silent` (the new rule means what the expression meant),
              `extract_silent_away` (nothing else changes), `extract_silent_grammar` (the
              complete rewrite: add the rule and replace occurrences in rule bodies)
    (7)       `equiv_in_ctx` (one-hole contexts), `rewrites_preserve_expr` (any number of
              rewrites at any depth of an expression), `rewrites_preserve_parse` (any number of
              rewrites at any depth of any rule bodies: same result of `Parser.parse` for every
              start rule and start position); chains of such steps compose (`GEquiv.trans`)
    (8)       carried to the code's models: a run of L1 that finishes is an answer of L0
              (`interp_conv`, `parse_conv`, by the refinement `run_good`), so two finished runs
              agree once the answers of the first are answers of the second (`interp_eq_of_conv`,
              `parse_eq_of_conv`); hence `rewrites_preserve_interp`,
              `grammar_rewrites_preserve_interp` (L1) and
              `grammar_rewrites_preserve_gen` (LG, via `C01.generated_parse_eq`): whenever both
              runs finish, same verdict and, on success, same end state as L0 sees it and same
              trees up to tags.  (Tags are outside L0: a rewrite that wraps a tagged node in a
              group may change which pair receives the tag; that is not claimed either way.)

  Why the hypotheses of (4)/(5).  `e ~ NEVER` runs implicit trivia after `e` (and `!e ~ NEVER`
  runs it where `e` failed) before NEVER fails.  Plain `e` does not.  If a trivia rule refers to
  an undefined rule, the rewritten expression raises `KeyError` (L0: `stuck`) where `e` simply
  answers; if a trivia rule can match the empty string, the rewritten expression loops forever
  where `e` answers.  `TriviaTotal g inp` — implicit trivia answers from every state — excludes
  both; in a grammar without a fused `SKIP` rule, `triviaTotal_of_progress` (Lemmas/Algebra.lean)
  shows it holds as soon as WHITESPACE and COMMENT always answer and consume at least one
  character when they match (what pest's validator asks of trivia rules), `triviaTotal_of_none`
  that it holds when there are no trivia rules.

  Why the shape of (2).  `a ~ () ~ c` (an *empty* parenthesised sequence) runs implicit trivia
  twice between `a` and `c`; the flattening law is therefore stated, and true, for non-empty
  inner sequences `b :: bs` only.  Choices flatten also when the inner choice is empty.

  Props/Tags.lean is imported although nothing below uses it: the checks audit its theorems (the
  tag clauses of C08) through this module.
-/
import PestModel.Props.Tags
import PestModel.Lemmas.Algebra
import PestModel.Props.C01
import PestModel.Lemmas.Refine

namespace Pest
namespace C08

open L0 (Conv EquivAt EquivE TriviaTotal NeverAt SkipOK SkipC Cong Ctx Rewrite GrammarRel GEquiv ParseC
  addRule Unreferenced mentions RefTo)

variable {g : Grammar} {inp : Input}

/-- (1) redundant parentheses (a `Group` node) change nothing -/
theorem group_id (e : Expr) (s : S0) (r : R0) :
    Conv g inp (.group e none) s r ↔ Conv g inp e s r := L0.group_id e none s r

/-- (2) a parenthesised non-empty sequence inside a sequence: nested ↔ flat -/
theorem seq_assoc (as : List Expr) (b : Expr) (bs cs : List Expr) (s : S0) (r : R0) :
    Conv g inp (.seq (as ++ [.group (.seq (b :: bs)) none] ++ cs)) s r ↔
      Conv g inp (.seq (as ++ (b :: bs) ++ cs)) s r := L0.seq_assoc as b bs cs none s r

theorem seq_assoc_right (a b c : Expr) (s : S0) (r : R0) :
    Conv g inp (.seq [a, .group (.seq [b, c]) none]) s r ↔ Conv g inp (.seq [a, b, c]) s r :=
  L0.seq_assoc_right a b c none s r

theorem seq_assoc_left (a b c : Expr) (s : S0) (r : R0) :
    Conv g inp (.seq [.group (.seq [a, b]) none, c]) s r ↔ Conv g inp (.seq [a, b, c]) s r :=
  L0.seq_assoc_left a b c none s r

/-- (2) … and a directly nested sequence (no `Group` node) -/
theorem seq_flatten (as : List Expr) (b : Expr) (bs cs : List Expr) (s : S0) (r : R0) :
    Conv g inp (.seq (as ++ [.seq (b :: bs)] ++ cs)) s r ↔ Conv g inp (.seq (as ++ (b :: bs) ++ cs)) s r :=
  L0.seq_flatten as b bs cs s r

theorem choice_flatten (as bs cs : List Expr) (s : S0) (r : R0) :
    Conv g inp (.choice (as ++ [.choice bs] ++ cs)) s r ↔ Conv g inp (.choice (as ++ bs ++ cs)) s r :=
  L0.choice_flatten as bs cs s r

/-- (2') a parenthesised choice inside a choice -/
theorem choice_assoc (as bs cs : List Expr) (s : S0) (r : R0) :
    Conv g inp (.choice (as ++ [.group (.choice bs) none] ++ cs)) s r ↔
      Conv g inp (.choice (as ++ bs ++ cs)) s r := L0.choice_assoc as bs cs none s r

theorem choice_assoc_right (a b c : Expr) (s : S0) (r : R0) :
    Conv g inp (.choice [a, .group (.choice [b, c]) none]) s r ↔ Conv g inp (.choice [a, b, c]) s r :=
  L0.choice_assoc_right a b c none s r

theorem choice_assoc_left (a b c : Expr) (s : S0) (r : R0) :
    Conv g inp (.choice [.group (.choice [a, b]) none, c]) s r ↔ Conv g inp (.choice [a, b, c]) s r :=
  L0.choice_assoc_left a b c none s r

/-- (3) `(e | e) = e` -/
theorem dup_choice (e : Expr) (s : S0) (r : R0) :
    Conv g inp (.group (.choice [e, e]) none) s r ↔ Conv g inp e s r := L0.dup_choice e none s r

/-- (4) `((e ~ NEVER) | e) = e` -/
theorem never_seq (e : Expr) {x : Str} (hx : NeverAt inp x) (ht : TriviaTotal g inp) (s : S0) (r : R0) :
    Conv g inp (.group (.choice [.group (.seq [e, .str x]) none, e]) none) s r ↔ Conv g inp e s r :=
  L0.never_seq e hx ht none none s r

/-- (4), without any hypothesis on trivia: an answer of the rewritten expression is the
    answer of `e`, unless trivia after a *successful* `e` hits an undefined rule … -/
theorem never_seq_fwd {e : Expr} {x : Str} (hx : NeverAt inp x) {s : S0} {r : R0}
    (h : Conv g inp (.group (.choice [.group (.seq [e, .str x]) none, e]) none) s r) :
    Conv g inp e s r ∨ (r = .stuck ∧ ∃ s1 ps, Conv g inp e s (.ok s1 ps) ∧ SkipC g inp s1 .stuck) :=
  L0.never_seq_fwd hx h

/-- … and an answer of `e` is the answer of the rewritten expression provided that, if `e`
    succeeded, trivia answers from where it ended -/
theorem never_seq_bwd {e : Expr} {x : Str} (hx : NeverAt inp x) {s : S0} {r : R0}
    (h : Conv g inp e s r) (hs : ∀ s1 ps, r = .ok s1 ps → SkipOK g inp s1) :
    Conv g inp (.group (.choice [.group (.seq [e, .str x]) none, e]) none) s r :=
  L0.never_seq_bwd hx none none h hs

/-- (5) `((!e ~ NEVER) | e) = e` -/
theorem never_notpred (e : Expr) {x : Str} (hx : NeverAt inp x) (ht : TriviaTotal g inp) (s : S0) (r : R0) :
    Conv g inp (.group (.choice [.group (.seq [.notP e, .str x]) none, e]) none) s r ↔ Conv g inp e s r :=
  L0.never_notpred e hx ht none none s r

theorem never_notpred_fwd {e : Expr} {x : Str} (hx : NeverAt inp x) {s : S0} {r : R0}
    (h : Conv g inp (.group (.choice [.group (.seq [.notP e, .str x]) none, e]) none) s r) :
    Conv g inp e s r ∨ (r = .stuck ∧ Conv g inp e s .fail ∧ SkipC g inp s .stuck) :=
  L0.never_notpred_fwd hx h

theorem never_notpred_bwd {e : Expr} {x : Str} (hx : NeverAt inp x) {s : S0} {r : R0}
    (h : Conv g inp e s r) (hs : r = .fail → SkipOK g inp s) :
    Conv g inp (.group (.choice [.group (.seq [.notP e, .str x]) none, e]) none) s r :=
  L0.never_notpred_bwd hx none none h hs

/-- `NeverAt inp x` (the literal fails at every position) follows from the syntactic
    condition: the first character of `x` does not occur in `inp` -/
theorem neverIn_neverAt {x : Str} (h : L0.NeverIn x inp) : NeverAt inp x := h.neverAt

/-- the harness's NEVER is "␀␁" on inputs that do not contain U+2400 -/
theorem never_literal (h : inp.toList.all (fun d => d != 0x2400) = true) : NeverAt inp [0x2400, 0x2401] :=
  L0.neverAt_of_all h

/-- (6b) in the grammar extended by `nm = _{ e }`, `nm` means what `e` meant in `g` -/
theorem extract_silent {nm : String} {e : Expr}
    (hfresh : g.lookup nm = none) (hu : Unreferenced g nm) (he : mentions nm e = false)
    (h1 : nm ≠ "WHITESPACE") (h2 : nm ≠ "COMMENT") (h3 : nm ≠ "SKIP") (s : S0) (r : R0) :
    Conv (addRule g ⟨nm, SILENT, e, .grammar⟩) inp (.ident nm none) s r ↔ Conv g inp e s r :=
  L0.extract_silent hfresh hu he h1 h2 h3 none s r

/-- (6a) … and every expression that does not mention `nm` means what it meant -/
theorem extract_silent_away {nm : String} {e : Expr} (hu : Unreferenced g nm)
    (h1 : nm ≠ "WHITESPACE") (h2 : nm ≠ "COMMENT") (h3 : nm ≠ "SKIP")
    {x : Expr} (hx : mentions nm x = false) (s : S0) (r : R0) :
    Conv (addRule g ⟨nm, SILENT, e, .grammar⟩) inp x s r ↔ Conv g inp x s r :=
  L0.addRule_away (rl := ⟨nm, SILENT, e, .grammar⟩) hu h1 h2 h3 hx s r

/-- (6) the complete rewrite: `g2` is `g` plus the rule `nm = _{ e }`, with any occurrences of
    `e` inside the other rule bodies replaced by `nm`: every other start rule parses as before -/
theorem extract_silent_grammar {nm : String} {e : Expr} {g2 : Grammar}
    (hfresh : g.lookup nm = none) (hu : Unreferenced g nm)
    (h1 : nm ≠ "WHITESPACE") (h2 : nm ≠ "COMMENT") (h3 : nm ≠ "SKIP")
    (hG : GrammarRel (RefTo nm e) (addRule g ⟨nm, SILENT, e, .grammar⟩) g2)
    (hnm : g2.lookup nm = some ⟨nm, SILENT, e, .grammar⟩)
    {start : String} (hs : start ≠ nm) (k : Nat) (r : R0) :
    ParseC g inp start k r ↔ ParseC g2 inp start k r :=
  L0.extract_silent_grammar hfresh hu h1 h2 h3 hG hnm hs k r

/-- (6) as an equation between expressions: `⟦C[e]⟧_g = ⟦C[nm]⟧_{g + nm = _{e}}`, for any
    number of replaced occurrences of `e` in `x` (and in rule bodies) -/
theorem extract_silent_expr {nm : String} {e : Expr} {g2 : Grammar}
    (hfresh : g.lookup nm = none) (hu : Unreferenced g nm)
    (h1 : nm ≠ "WHITESPACE") (h2 : nm ≠ "COMMENT") (h3 : nm ≠ "SKIP")
    (hG : GrammarRel (RefTo nm e) (addRule g ⟨nm, SILENT, e, .grammar⟩) g2)
    (hnm : g2.lookup nm = some ⟨nm, SILENT, e, .grammar⟩)
    {x x' : Expr} (hx : mentions nm x = false) (hxx : Cong (RefTo nm e) x x') (s : S0) (r : R0) :
    Conv g inp x s r ↔ Conv g2 inp x' s r :=
  L0.extract_silent_expr hfresh hu h1 h2 h3 hG hnm hx hxx s r

theorem equivAt_refl (e : Expr) : EquivAt g inp e e := L0.EquivAt.refl e
theorem equivAt_symm {e e' : Expr} (h : EquivAt g inp e e') : EquivAt g inp e' e := h.symm
theorem equivAt_trans {a b c : Expr} (h1 : EquivAt g inp a b) (h2 : EquivAt g inp b c) : EquivAt g inp a c :=
  h1.trans h2

/-- (7) an equivalence can be used under every one-hole context -/
theorem equiv_in_ctx {e e' : Expr} (h : EquivAt g inp e e') (C : Ctx) :
    EquivAt g inp (C.fill e) (C.fill e') := L0.equiv_in_ctx h C

/-- … also as a statement about all inputs -/
theorem equivE_in_ctx {e e' : Expr} (h : EquivE g g e e') (C : Ctx) : EquivE g g (C.fill e) (C.fill e') :=
  fun inp => L0.equiv_in_ctx (h.at inp) C

/-- (7) any number of equivalent replacements, at any depth, at once -/
theorem equiv_cong {B : Expr → Expr → Prop} (hB : ∀ x x', B x x' → EquivAt g inp x x')
    {x x' : Expr} (h : Cong B x x') : EquivAt g inp x x' := L0.cong_equiv hB h

/-- (7) the rewrites of C08, any number of them at any depth of an expression -/
theorem rewrites_preserve_expr (ht : TriviaTotal g inp) {x x' : Expr} (h : Cong (Rewrite inp) x x') :
    EquivAt g inp x x' := equiv_cong (fun _ _ hb => hb.sound ht) h

/-- (7, grammar level) the rewrites of C08, any number of them at any depth of any rule
    bodies: `Parser.parse` answers the same for every start rule and start position -/
theorem rewrites_preserve_parse {g' : Grammar} (hG : GrammarRel (Rewrite inp) g g')
    (ht : TriviaTotal g inp) (ht' : TriviaTotal g' inp) (start : String) (k : Nat) (r : R0) :
    ParseC g inp start k r ↔ ParseC g' inp start k r := L0.rewrites_preserve_parse hG ht ht' start k r

/-- … and when only the original grammar is known to have total trivia: the rewritten grammar
    may fail to answer, but it cannot answer differently -/
theorem rewrites_preserve_parse_partial {g' : Grammar} (hG : GrammarRel (Rewrite inp) g g')
    (ht : TriviaTotal g inp) {start : String} {k : Nat} {r : R0} (h : ParseC g' inp start k r) :
    ParseC g inp start k r := L0.cong_grammar_parse_bwd hG (fun _ _ hb => hb.sound ht) h

/-- (7, grammar level, general) replacing rule bodies by bodies that are equivalent in the
    *original* grammar can lose termination but cannot change an answer … -/
theorem equiv_bodies_partial {g' : Grammar} {B : Expr → Expr → Prop} (hG : GrammarRel B g g')
    (hB : ∀ x x', B x x' → EquivAt g inp x x') {start : String} {k : Nat} {r : R0}
    (h : ParseC g' inp start k r) : ParseC g inp start k r := L0.cong_grammar_parse_bwd hG hB h

/-- … and by bodies that are equivalent in both grammars changes nothing -/
theorem equiv_bodies_preserve_parse {g' : Grammar} {B : Expr → Expr → Prop} (hG : GrammarRel B g g')
    (hB : ∀ x x', B x x' → EquivAt g inp x x') (hB' : ∀ x x', B x x' → EquivAt g' inp x x') :
    GEquiv g g' inp := L0.cong_grammar_parse hG hB hB'

/-- what carries (7) to the interpreter: a run of L1 that finishes is an answer of L0, at any fuel -/
theorem interp_conv (hs : SkipTotal g) {e : Expr} {c : PState} (p : Pre c) {n : Nat}
    (h : L1.run g inp n e c ≠ .oof) : Conv g inp e (abs0 c) (obs (L1.run g inp n e c)) :=
  ⟨n, interp_obs hs n e c p, fun h' => h (obs_oof.1 h')⟩

theorem parse_conv (hs : SkipTotal g) {start : String} {k n : Nat}
    (h : L1.parse g inp n start k ≠ .oof) : ParseC g inp start k (obs (L1.parse g inp n start k)) :=
  ⟨n, parse_obs hs n start k, fun h' => h (obs_oof.1 h')⟩

/-- an implication is enough: the second run has an answer of its own, and answers are unique -/
theorem interp_eq_of_conv {g' : Grammar} (hs : SkipTotal g) (hs' : SkipTotal g') {e e' : Expr} {c : PState}
    (p : Pre c) (heq : ∀ r, Conv g inp e (abs0 c) r → Conv g' inp e' (abs0 c) r) {n m : Nat}
    (h1 : L1.run g inp n e c ≠ .oof) (h2 : L1.run g' inp m e' c ≠ .oof) :
    obs (L1.run g inp n e c) = obs (L1.run g' inp m e' c) :=
  L0.Conv.det g' inp (heq _ (interp_conv hs p h1)) (interp_conv hs' p h2)

theorem parse_eq_of_conv {g' : Grammar} (hs : SkipTotal g) (hs' : SkipTotal g') {start start' : String} {k : Nat}
    (hE : ∀ r, ParseC g inp start k r → ParseC g' inp start' k r) {n m : Nat}
    (h1 : L1.parse g inp n start k ≠ .oof) (h2 : L1.parse g' inp m start' k ≠ .oof) :
    obs (L1.parse g inp n start k) = obs (L1.parse g' inp m start' k) := by
  have c1 := hE _ (parse_conv hs h1)
  have c2 := parse_conv hs' h2
  rw [L0.parseC_iff none] at c1 c2
  exact L0.Conv.det g' inp c1 c2

/-- (8) **expressions.**  Two expressions with the same L0 meaning, run by the interpreter
    model from the same state with any two amounts of fuel that suffice: same verdict, and on
    success the same position / stack / atomicity and the same trees up to tags; `KeyError`
    together. -/
theorem rewrites_preserve_interp (hs : SkipTotal g) {e e' : Expr} (heq : EquivAt g inp e e')
    (c : PState) (p : Pre c) (n m : Nat)
    (h1 : L1.run g inp n e c ≠ .oof) (h2 : L1.run g inp m e' c ≠ .oof) :
    obs (L1.run g inp n e c) = obs (L1.run g inp m e' c) :=
  interp_eq_of_conv hs hs p (fun r => (heq _ r).1) h1 h2

/-- the same, unpacked for a successful run -/
theorem rewrites_preserve_interp_ok (hs : SkipTotal g) {e e' : Expr} (heq : EquivAt g inp e e')
    (c : PState) (p : Pre c) (n m : Nat) {c1 : PState} {ps : List Pair}
    (h1 : L1.run g inp n e c = .done true c1 ps) (h2 : L1.run g inp m e' c ≠ .oof) :
    ∃ c1' ps', L1.run g inp m e' c = .done true c1' ps' ∧ abs0 c1' = abs0 c1 ∧
      eraseTagsL ps' = eraseTagsL ps := by
  have := rewrites_preserve_interp hs heq c p n m (by rw [h1]; simp) h2
  rw [h1] at this
  exact obs_ok this.symm

/-- (8) **grammars.**  Two grammars with the same L0 parse results (e.g. by
    `rewrites_preserve_parse` or `extract_silent_grammar`), run by the interpreter model. -/
theorem grammar_rewrites_preserve_interp {g' : Grammar} (hs : SkipTotal g) (hs' : SkipTotal g')
    {start start' : String} {k : Nat}
    (hE : ∀ r, ParseC g inp start k r ↔ ParseC g' inp start' k r) (n m : Nat)
    (h1 : L1.parse g inp n start k ≠ .oof) (h2 : L1.parse g' inp m start' k ≠ .oof) :
    obs (L1.parse g inp n start k) = obs (L1.parse g' inp m start' k) :=
  parse_eq_of_conv hs hs' (fun r => (hE r).1) h1 h2

/-- (8) **generated code.**  Two grammars with the same L0 parse results, run by the model of
    their generated parsers: if both calls return, they return the same verdict and, on
    success, the same end position and the same trees up to tags. -/
theorem grammar_rewrites_preserve_gen {g' : Grammar} (hs : SkipTotal g) (hs' : SkipTotal g')
    {start start' : String} {k : Nat}
    (hE : ∀ r, ParseC g inp start k r ↔ ParseC g' inp start' k r) (n m : Nat)
    {b b' : Bool} {cg cg' : PState} {ps ps' : List Pair}
    (h1 : LG.parse g inp n start k = .done b cg ps) (h2 : LG.parse g' inp m start' k = .done b' cg' ps') :
    b = b' ∧ (b = true → cg.pos = cg'.pos ∧ eraseTagsL ps = eraseTagsL ps') := by
  have e1 := C01.generated_parse_eq g inp hs n start k
  have e2 := C01.generated_parse_eq g' inp hs' m start' k
  rw [h1] at e1
  rw [h2] at e2
  have key := grammar_rewrites_preserve_interp hs hs' hE n m
  cases b with
  | true =>
    obtain ⟨c1, l1, p1⟩ := e1
    cases b' with
    | true =>
      obtain ⟨c1', l1', p1'⟩ := e2
      rw [l1, l1'] at key
      have := key (by simp) (by simp)
      simp only [obs, R0.ok.injEq] at this
      refine ⟨rfl, fun _ => ⟨?_, this.2⟩⟩
      have hp : (abs0 c1).pos = (abs0 c1').pos := by rw [this.1]
      simpa [abs0, p1, p1'] using hp
    | false =>
      obtain ⟨c1', ps1', l1', _⟩ := e2
      rw [l1, l1'] at key
      cases key (by simp) (by simp)
  | false =>
    obtain ⟨c1, ps1, l1, _⟩ := e1
    cases b' with
    | true =>
      obtain ⟨c1', l1', _⟩ := e2
      rw [l1, l1'] at key
      cases key (by simp) (by simp)
    | false => exact ⟨rfl, fun h => by cases h⟩

/-! ### Non-vacuity: concrete grammars, rewritten, meet every hypothesis -/

def never : Str := [0x2400, 0x2401]
def wsRule : Rule := ⟨"WHITESPACE", SILENT, .str [32], .grammar⟩
def sBody : Expr := .choice [.str [98], .str [99]]
def sStar : Expr := .rep (.ident "s" none)

/-- `r = { "a" ~ s* }   s = { "b" | "c" }   WHITESPACE = _{ " " }` -/
def demoG : Grammar :=
  { rules := [⟨"r", 0, .seq [.str [97], sStar], .grammar⟩, ⟨"s", 0, sBody, .grammar⟩, wsRule] }

/-- step 1, three rewrites at once: `r = { ("a") ~ ((s* ~ NEVER) | s*) }   s = { (B | B) }`
    with `B = "b" | "c"` -/
def demoG1 : Grammar :=
  { rules := [⟨"r", 0, .seq [.group (.str [97]) none,
                  .group (.choice [.group (.seq [sStar, .str never]) none, sStar]) none], .grammar⟩,
              ⟨"s", 0, .group (.choice [sBody, sBody]) none, .grammar⟩, wsRule] }

/-- step 2, inside the result of step 1: the first copy of `B` becomes `"b" | ((!"c" ~ NEVER) | "c")` -/
def demoG2 : Grammar :=
  { rules := [⟨"r", 0, .seq [.group (.str [97]) none,
                  .group (.choice [.group (.seq [sStar, .str never]) none, sStar]) none], .grammar⟩,
              ⟨"s", 0, .group (.choice [.choice [.str [98],
                  .group (.choice [.group (.seq [.notP (.str [99]), .str never]) none, .str [99]]) none],
                  sBody]) none, .grammar⟩, wsRule] }

/-- "a b c" -/
def demoInp : Input := #[97, 32, 98, 32, 99]

theorem demo_never : NeverAt demoInp never := never_literal (by decide)

theorem demo_trivia (G : Grammar) (hf : G.fusedSkip = none) (hw : G.lookup "WHITESPACE" = some wsRule)
    (hc : G.lookup "COMMENT" = none) (inp : Input) : TriviaTotal G inp := by
  apply L0.triviaTotal_of_progress hf
  · rw [hw]; exact L0.tryProgress_str wsRule 32 [] rfl
  · rw [hc]; exact L0.tryProgress_none

theorem demoG_trivia (inp : Input) : TriviaTotal demoG inp := demo_trivia demoG rfl rfl rfl inp
theorem demoG1_trivia (inp : Input) : TriviaTotal demoG1 inp := demo_trivia demoG1 rfl rfl rfl inp
theorem demoG2_trivia (inp : Input) : TriviaTotal demoG2 inp := demo_trivia demoG2 rfl rfl rfl inp

theorem demo_step1 : GrammarRel (Rewrite demoInp) demoG demoG1 := by
  refine GrammarRel.of_rules (g := demoG) (g' := demoG1) rfl ?_
  refine .cons ⟨rfl, rfl, ?_⟩ (.cons ⟨rfl, rfl, ?_⟩ (.cons ⟨rfl, rfl, .refl _⟩ .nil))
  · exact .seq (.cons (.base (.paren _ _)) (.cons (.base (.neverSeq _ _ _ _ demo_never)) .nil))
  · exact .base (.dup _ _)

theorem demo_step2 : GrammarRel (Rewrite demoInp) demoG1 demoG2 := by
  refine GrammarRel.of_rules (g := demoG1) (g' := demoG2) rfl ?_
  refine .cons ⟨rfl, rfl, .refl _⟩ (.cons ⟨rfl, rfl, ?_⟩ (.cons ⟨rfl, rfl, .refl _⟩ .nil))
  exact .group (.choice (.cons (.choice (.cons (.refl _)
    (.cons (.base (.neverNot _ _ _ _ demo_never)) .nil))) (.cons (.refl _) .nil)))

/-- the two steps compose: same parse results for every start rule and start position -/
theorem demo_equiv : GEquiv demoG demoG2 demoInp :=
  (L0.rewrites_preserve_parse demo_step1 (demoG_trivia _) (demoG1_trivia _)).trans
    (L0.rewrites_preserve_parse demo_step2 (demoG1_trivia _) (demoG2_trivia _))

mutual
/-- pre-order signature of a forest (name, start, end, number of children): determines the
    forest up to tags -/
def sigP : Pair → List (String × Nat × Nat × Nat)
  | .mk n _ s e ch _ => (n, s, e, ch.length) :: sigL ch
def sigL : List Pair → List (String × Nat × Nat × Nat)
  | [] => []
  | p :: ps => sigP p ++ sigL ps
end

def same1 : R1 → R1 → Bool
  | .done true c ps, .done true c' ps' => c.pos == c'.pos && sigL ps == sigL ps' && sigL ps != []
  | _, _ => false
def sameG : RG → RG → Bool
  | .done true c ps, .done true c' ps' => c.pos == c'.pos && sigL ps == sigL ps' && sigL ps != []
  | _, _ => false
def same0 : R0 → R0 → Bool
  | .ok c ps, .ok c' ps' => c.pos == c'.pos && sigL ps == sigL ps' && sigL ps != []
  | _, _ => false

-- the three models, original vs twice-rewritten grammar, on "a b c": same end, same tree
example : same0 (L0.parse demoG demoInp 30 "r" 0) (L0.parse demoG2 demoInp 40 "r" 0) = true := by decide +kernel
example : same1 (L1.parse demoG demoInp 30 "r" 0) (L1.parse demoG2 demoInp 40 "r" 0) = true := by decide +kernel
example : sameG (LG.parse demoG demoInp 30 "r" 0) (LG.parse demoG2 demoInp 40 "r" 0) = true := by decide +kernel
-- … and the tree is r[0,5] > s[2,3], s[4,5]
example : (match L0.parse demoG2 demoInp 40 "r" 0 with
    | .ok _ ps => sigL ps == [("r", 0, 5, 2), ("s", 2, 3, 0), ("s", 4, 5, 0)] | _ => false) = true := by
  decide +kernel

/-- `demoG` plus `xr1 = _{ "b" | "c" }`, with the body of `s` replaced by `xr1` -/
def demoX : Grammar :=
  { rules := [⟨"r", 0, .seq [.str [97], sStar], .grammar⟩, ⟨"s", 0, .ident "xr1" none, .grammar⟩, wsRule,
              ⟨"xr1", SILENT, sBody, .grammar⟩] }

theorem demoG_skipTotal : SkipTotal demoG := .of_noFused rfl
theorem demoG2_skipTotal : SkipTotal demoG2 := .of_noFused rfl
theorem demoX_skipTotal : SkipTotal demoX := .of_noFused rfl

theorem demo_unref : Unreferenced demoG "xr1" := L0.unreferenced_of_all (by decide +kernel)

theorem demo_extract (start : String) (hs : start ≠ "xr1") (k : Nat) (r : R0) (inp : Input) :
    ParseC demoG inp start k r ↔ ParseC demoX inp start k r := by
  apply extract_silent_grammar (nm := "xr1") (e := sBody) rfl demo_unref (by decide) (by decide) (by decide)
    _ rfl hs
  refine GrammarRel.of_rules (g := addRule demoG ⟨"xr1", SILENT, sBody, .grammar⟩) (g' := demoX) rfl ?_
  exact .cons ⟨rfl, rfl, .refl _⟩ (.cons ⟨rfl, rfl, .base ⟨rfl, none, rfl⟩⟩
    (.cons ⟨rfl, rfl, .refl _⟩ (.cons ⟨rfl, rfl, .refl _⟩ .nil)))

example : same1 (L1.parse demoG demoInp 30 "r" 0) (L1.parse demoX demoInp 40 "r" 0) = true := by decide +kernel
example : sameG (LG.parse demoG demoInp 30 "r" 0) (LG.parse demoX demoInp 40 "r" 0) = true := by decide +kernel

/-! #### the lifted theorems applied to these grammars -/

example (n m : Nat) (start : String) (k : Nat) (h1 : L1.parse demoG demoInp n start k ≠ .oof)
    (h2 : L1.parse demoG2 demoInp m start k ≠ .oof) :
    obs (L1.parse demoG demoInp n start k) = obs (L1.parse demoG2 demoInp m start k) :=
  grammar_rewrites_preserve_interp demoG_skipTotal demoG2_skipTotal (demo_equiv start k) n m h1 h2

example (inp : Input) (n m : Nat) (start : String) (hs : start ≠ "xr1") (k : Nat) {b b' : Bool}
    {cg cg' : PState} {ps ps' : List Pair}
    (h1 : LG.parse demoG inp n start k = .done b cg ps) (h2 : LG.parse demoX inp m start k = .done b' cg' ps') :
    b = b' ∧ (b = true → cg.pos = cg'.pos ∧ eraseTagsL ps = eraseTagsL ps') :=
  grammar_rewrites_preserve_gen demoG_skipTotal demoX_skipTotal (fun r => demo_extract start hs k r inp) n m h1 h2

/-! #### the hypotheses of (4)/(5) and the shape of (2) cannot be dropped -/

/-- WHITESPACE refers to an undefined rule -/
def badG : Grammar := { rules := [⟨"WHITESPACE", SILENT, .ident "nope" none, .grammar⟩] }

def isOk : R0 → Bool | .ok _ _ => true | _ => false
def isStuck : R0 → Bool | .stuck => true | _ => false

-- `"a"` answers, `("a" ~ NEVER) | "a"` raises `KeyError`
example : isOk (L0.run badG #[97] 10 (.str [97]) ⟨0, [], false⟩) = true := by decide +kernel
example : isStuck (L0.run badG #[97] 10
    (.group (.choice [.group (.seq [.str [97], .str never]) none, .str [97]]) none) ⟨0, [], false⟩) = true := by
  decide +kernel

/-- `a = _{ "x" }`: in this grammar the body `"x"` is equivalent to `a` itself … -/
def foldG : Grammar := { rules := [⟨"a", SILENT, .str [120], .grammar⟩] }
/-- … but replacing the body by this equivalent expression gives `a = _{ a }` -/
def foldG' : Grammar := { rules := [⟨"a", SILENT, .ident "a" none, .grammar⟩] }

example (inp : Input) : EquivAt foldG inp (.str [120]) (.ident "a" none) :=
  (L0.silent_rule_inline (g := foldG) (nm := "a") (rl := ⟨"a", SILENT, .str [120], .grammar⟩) rfl
    (by decide) (by decide) (by decide) (by decide) (by decide) none).symm

-- which loops: the equivalence must hold in the rewritten grammar too (`equiv_bodies_preserve_parse`)
theorem foldG'_diverges (inp : Input) : ∀ (n : Nat) (s : S0), L0.run foldG' inp n (.ident "a" none) s = .oof := by
  intro n
  induction n with
  | zero => intro s; rfl
  | succ n ih =>
    intro s
    show L0.callRule foldG' (L0.run foldG' inp n) "a" s = .oof
    have hl : foldG'.lookup "a" = some ⟨"a", SILENT, .ident "a" none, .grammar⟩ := rfl
    simp only [L0.callRule, hl, L0.ruleApply, ih]

/-- a fused SKIP rule that is not a loop: one optional space -/
def onceG : Grammar := { rules := [⟨"SKIP", SILENT + ATOMIC, .opt (.str [32]), .grammar⟩] }

def endsAt : R0 → Nat → Bool | .ok s _, p => s.pos == p | _, _ => false

-- "a  c": `"a" ~ "c"` fails, `"a" ~ () ~ "c"` (empty parentheses) matches — trivia runs twice
example : isOk (L0.run onceG #[97, 32, 32, 99] 10 (.seq [.str [97], .str [99]]) ⟨0, [], false⟩) = false := by
  decide +kernel
example : endsAt (L0.run onceG #[97, 32, 32, 99] 10
    (.seq [.str [97], .group (.seq []) none, .str [99]]) ⟨0, [], false⟩) 4 = true := by decide +kernel

end C08
end Pest
