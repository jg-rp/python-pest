/-
  Props/C06.lean — property C06: "Every returned parse tree is well-formed".

  Property text.  For every successful parse in every execution mode, each pair satisfies
  start_pos <= start <= end <= len(input) and text == input[start:end]; the children of a pair
  are in input order, pairwise non-overlapping and inside the parent's span; pair names are
  non-silent rules of the grammar (or EOI) and tags are tags written in the grammar.  tokens()
  is a balanced Start/End stream with non-decreasing positions, flatten() is its pre-order, a
  non-silent start rule yields exactly one root pair starting at start_pos, and dump()/dumps()
  render without error and agree with each other.

  Spans and nesting (`WFForest`, Lemmas/TreeWF.lean), names and the root pair are proved for the
  specification L0, then carried to the interpreter model L1 through the refinement theorem of
  C03 and to the generated-code model LG through C01; tags are proved on L1 (L0 has none).
  "Every execution mode" = these two models, on optimised or unoptimised grammars alike
  (optimizer-made nodes are node kinds of `Expr`).  `GoodTree` bundles everything for a parse
  result.
  * `text == input[start:end]` is definitional in the model: a `Pair` stores only `start` and
    `stop`; `Pair.text` *is* that slice in the code.
  * Names: of a non-silent rule of the rule table or of a non-silent rule object embedded in a
    rule body.  EOI is such a rule (table entry or embedded object).
  * Tags: written on an identifier or group node of a rule body.  Not claimed (the property
    text does not): *which* pair carries a tag.  In the code the pending tag is popped by the
    first non-silent rule that finishes, so for `#t = x`, `x = { y }` the tag lands on the inner
    pair `y`, not on `x`; the models mirror that (last example below).
  * `tokens()` and `flatten()` are modelled in `Pairs.lean`; what is said of them holds of any
    list of pairs (sortedness: of any well-formed forest).
  Not in scope here: `dump()` / `dumps()` / JSON rendering and their mutual agreement are
  library behaviour outside the matching semantics (the JSON side has its own model); they are
  covered by the executable checks of this property, not by a Lean theorem.

  A success of a model is a success with *some* amount of fuel; all statements hold for every
  fuel.  Hypothesis `SkipTotal g` (the optimizer's fused SKIP rule, if present, has a body that
  cannot fail) is the one C03 needs (C01 does not: `gen_same_tree`, `gen_tags`); it is vacuous for
  unoptimised grammars.
  Hypothesis `k ≤ inp.size`: a start position beyond the end of the input is outside the
  property (`start_pos <= start <= end <= len(input)` could not hold).
-/
import PestModel.Lemmas.Refine
import PestModel.Props.C01
import PestModel.Lemmas.TreeWF

namespace Pest
namespace C06

variable (g : Grammar) (inp : Input)

/-- **Every expression, every state.**  A successful L0 run from a position inside the input
    ends inside the input, at or after its start, and its pairs are a well-formed forest that
    spans what was consumed. -/
theorem spec_tree_wf (n : Nat) (e : Expr) (s s' : S0) (ps : List Pair)
    (h : L0.run g inp n e s = .ok s' ps) (hs : s.pos ≤ inp.size) :
    s.pos ≤ s'.pos ∧ s'.pos ≤ inp.size ∧ WFForest s.pos s'.pos ps :=
  L0.spec_tree_wf g inp h hs

theorem spec_parse_tree_wf (fuel : Nat) (start : String) (k : Nat) (s : S0) (ps : List Pair)
    (h : L0.parse g inp fuel start k = .ok s ps) (hk : k ≤ inp.size) :
    k ≤ s.pos ∧ s.pos ≤ inp.size ∧ WFForest k s.pos ps :=
  L0.parse_tree_wf g inp h hk

/-- what `WFForest lo hi ps` says, spelled out, so that the inductive is not trusted on sight -/
theorem wf_unfolded (lo hi : Nat) (ps : List Pair) :
    WFForest lo hi ps ↔
      (lo ≤ hi ∧
       (∀ p ∈ ps, lo ≤ p.start ∧ p.start ≤ p.stop ∧ p.stop ≤ hi ∧ WFForest p.start p.stop p.children) ∧
       ps.Pairwise (fun a b => a.stop ≤ b.start)) :=
  WFForest.iff_unfolded

/-- … in index form: in input order and pairwise non-overlapping -/
theorem wf_ordered (lo hi : Nat) (ps : List Pair) (h : WFForest lo hi ps) (i j : Nat) (hij : i < j)
    (hj : j < ps.length) : (ps[i]'(by omega)).stop ≤ (ps[j]'hj).start :=
  h.ordered i j hij hj

/-- … and flat: of *every* pair `flatten()` yields (every depth) -/
theorem wf_flat (lo hi : Nat) (ps : List Pair) (h : WFForest lo hi ps) :
    ∀ p ∈ flattenL ps, lo ≤ p.start ∧ p.start ≤ p.stop ∧ p.stop ≤ hi ∧
      WFForest p.start p.stop p.children :=
  h.flat

theorem wf_closure (lo hi : Nat) (ps : List Pair) :
    (WFForest lo hi ps → WFForest lo hi (visibleList ps)) ∧
    (WFForest lo hi (eraseTagsL ps) ↔ WFForest lo hi ps) :=
  ⟨visibleList_wf, eraseTagsL_wf⟩

/-- the Boolean checker used in the examples is sound -/
theorem wf_checker_sound (lo hi : Nat) (ps : List Pair) (h : wfForestB lo hi ps = true) :
    WFForest lo hi ps :=
  wfForestB_sound lo hi ps h

/-- name of a non-silent rule of the table, or of a non-silent rule object embedded in a rule
    body.  (`NameOK g e0` also admits rule objects embedded in the expression `e0` being run;
    `parse` only runs rule bodies, so `e0 := .seq []` — which has no sub-expressions — leaves
    exactly the rule bodies.) -/
abbrev GNameOK (nm : String) : Prop := NameOK g (.seq []) nm

/-- tag written on an identifier or group node of a rule body -/
abbrev GTagOK (t : String) : Prop := TagOK g (.seq []) t

theorem allPairs_reading (P : Pair → Prop) (ps : List Pair) :
    AllPairs P ps ↔ ∀ p ∈ flattenL ps, P p :=
  ⟨AllPairs.flatten, allPairs_of_flatten ps⟩

/-- the rule objects / identifiers / groups that `NameOK` and `TagOK` speak of are nodes written
    in `e0` or in a rule body, not expressions manufactured by the semantics -/
theorem reach_is_syntactic (e0 : Expr) :
    (∀ name mod sm body, Reach g e0 (.rule name mod sm body) → Sub g e0 (.rule name mod sm body)) ∧
    (∀ name tag, Reach g e0 (.ident name tag) → Sub g e0 (.ident name tag)) ∧
    (∀ e tag, Reach g e0 (.group e tag) → Sub g e0 (.group e tag)) :=
  ⟨fun _ _ _ _ h => h.rule_sub, fun _ _ h => h.ident_sub, fun _ _ h => h.group_sub⟩

/-- **names, every expression (L0)** -/
theorem spec_names (n : Nat) (e : Expr) (s s' : S0) (ps : List Pair)
    (h : L0.run g inp n e s = .ok s' ps) : AllPairs (fun p => NameOK g e p.name) ps :=
  L0.names_are_rules inp h

/-- **names, `parse` (L0)** -/
theorem spec_parse_names (fuel : Nat) (start : String) (k : Nat) (s : S0) (ps : List Pair)
    (h : L0.parse g inp fuel start k = .ok s ps) : AllPairs (fun p => GNameOK g p.name) ps :=
  L0.parse_names_are_rules inp h _

/-- **tags, every expression (L1)**, from any state whose waiting tags are grammar tags;
    whether the run matched or not -/
theorem interp_run_tags (n : Nat) (e : Expr) (c c' : PState) (m : Bool) (ps : List Pair)
    (hc : ∀ t ∈ c.tagStack, TagOK g e t) (h : L1.run g inp n e c = .done m c' ps) :
    AllPairs (fun p => ∀ t, p.tag = some t → TagOK g e t) ps :=
  L1.tags_are_grammar_tags inp hc h

/-- **a non-silent start rule yields exactly one root pair**, named after the rule, spanning
    from `start_pos` to the end position -/
theorem spec_root_single (fuel : Nat) (start : String) (k : Nat) (r : Rule) (s : S0) (ps : List Pair)
    (hl : g.lookup start = some r) (hS : hasBit r.mod SILENT = false)
    (h : L0.parse g inp fuel start k = .ok s ps) :
    (∃ ch, ps = [.mk r.name r.mod k s.pos ch none]) ∧ (∃ p, ps = [p] ∧ p.start = k) := by
  obtain ⟨ch, rfl⟩ := L0.root_single hl hS h
  exact ⟨⟨ch, rfl⟩, _, rfl, rfl⟩

/-- **`tokens()` is a balanced Start/End stream**: a Dyck word with matching rule names, accepted
    by the usual stack machine — for any list of pairs -/
theorem tokens_balanced (ps : List Pair) : Balanced (tokensL ps) ∧ check [] (tokensL ps) = true :=
  Pest.tokens_balanced ps

/-- the inductive notion is the intended one: it coincides with acceptance by the stack machine -/
theorem balanced_iff_accepts (w : List Tok) : Balanced w ↔ check [] w = true :=
  ⟨Balanced.check, Balanced.of_check⟩

/-- **positions of `tokens()` are non-decreasing** and stay inside the forest's interval -/
theorem tokens_sorted (lo hi : Nat) (ps : List Pair) (h : WFForest lo hi ps) :
    ((tokensL ps).map Tok.pos).Pairwise (· ≤ ·) ∧ ∀ x ∈ (tokensL ps).map Tok.pos, lo ≤ x ∧ x ≤ hi :=
  Pest.tokens_sorted h

/-- **`flatten()` is the pre-order**: it yields, in order, the pairs whose `Start` tokens
    `tokens()` yields -/
theorem flatten_is_preorder (ps : List Pair) :
    (flattenL ps).map (fun p => (p.name, p.start)) =
      (tokensL ps).filterMap (fun | .start n p => some (n, p) | .stop _ _ => none) :=
  Pest.flatten_is_preorder ps

theorem tokens_length (ps : List Pair) : (tokensL ps).length = 2 * (flattenL ps).length :=
  tokensL_length ps

/-- what C06 claims of the pairs `ps` returned by a successful parse of `start` from `k` that
    ended at `endPos` -/
structure GoodTree (start : String) (k endPos : Nat) (ps : List Pair) : Prop where
  /-- `start_pos ≤ end ≤ len(input)` -/
  lo : k ≤ endPos
  hi : endPos ≤ inp.size
  /-- spans, order, disjointness, nesting -/
  wf : WFForest k endPos ps
  /-- the same, flat: every pair at every depth -/
  spans : ∀ p ∈ flattenL ps, k ≤ p.start ∧ p.start ≤ p.stop ∧ p.stop ≤ endPos ∧
    WFForest p.start p.stop p.children
  names : AllPairs (fun p => GNameOK g p.name) ps
  tags : AllPairs (fun p => ∀ t, p.tag = some t → GTagOK g t) ps
  /-- a non-silent start rule yields one root pair covering `[k, endPos]` -/
  root : ∀ r, g.lookup start = some r → hasBit r.mod SILENT = false →
    ∃ ch t, ps = [.mk r.name r.mod k endPos ch t]
  tokBalanced : Balanced (tokensL ps)
  tokSorted : ((tokensL ps).map Tok.pos).Pairwise (· ≤ ·) ∧
    ∀ x ∈ (tokensL ps).map Tok.pos, k ≤ x ∧ x ≤ endPos

theorem eraseTags_name (p : Pair) : p.eraseTags.name = p.name := by
  cases p; rfl

theorem names_of_spec {n : Nat} {start : String} {k : Nat} {s : S0} {ps : List Pair}
    (h0 : L0.parse g inp n start k = .ok s (eraseTagsL ps)) : AllPairs (fun p => GNameOK g p.name) ps := by
  refine AllPairs.of_erase ?_ (L0.parse_names_are_rules inp h0 (.seq [])) ps rfl
  intro p hp
  rw [eraseTags_name] at hp; exact hp

theorem root_of_spec {n : Nat} {start : String} {k : Nat} {s : S0} {ps : List Pair} {r : Rule}
    (hl : g.lookup start = some r) (hS : hasBit r.mod SILENT = false)
    (h0 : L0.parse g inp n start k = .ok s (eraseTagsL ps)) :
    ∃ ch t, ps = [.mk r.name r.mod k s.pos ch t] := by
  obtain ⟨ch, hch⟩ := L0.root_single hl hS h0
  obtain ⟨ch', t', rest', rfl, _, hr, _⟩ := eraseTagsL_eq_cons hch
  rw [eraseTagsL_eq_nil hr]
  exact ⟨ch', t', rfl⟩

theorem spec_of_interp (hs : SkipTotal g) {fuel : Nat} {start : String} {k : Nat} {c : PState}
    {ps : List Pair} (h : L1.parse g inp fuel start k = .done true c ps) :
    L0.parse g inp fuel start k = .ok (abs0 c) (eraseTagsL ps) :=
  (C08.parse_obs hs fuel start k).trans (congrArg C08.obs h)

/-- **Interpreter model.**  Every successful `Parser.parse` returns a good tree.  (Its
    name / modifier / span / nesting structure is that of the L0 result: `interp_same_tree`.) -/
theorem interp_tree_wf (hs : SkipTotal g) (fuel : Nat) (start : String) (k : Nat) (c : PState)
    (ps : List Pair) (h : L1.parse g inp fuel start k = .done true c ps) (hk : k ≤ inp.size) :
    GoodTree g inp start k c.pos ps := by
  have hs0 := spec_of_interp g inp hs h
  obtain ⟨a, b, w⟩ := L0.parse_tree_wf g inp hs0 hk
  have w' : WFForest k c.pos ps := eraseTagsL_wf.mp w
  exact ⟨a, b, w', w'.flat, names_of_spec g inp hs0, L1.parse_tags_are_grammar_tags inp h _,
    fun r hl hS => root_of_spec g inp hl hS hs0, tokensL_balanced ps, Pest.tokens_sorted w'⟩

/-- the tree of the interpreter model is the tree of the specification, tags aside -/
theorem interp_same_tree (hs : SkipTotal g) (fuel : Nat) (start : String) (k : Nat) (c : PState)
    (ps : List Pair) (h : L1.parse g inp fuel start k = .done true c ps) :
    ∃ s, L0.parse g inp fuel start k = .ok s (eraseTagsL ps) ∧ s.pos = c.pos := by
  exact ⟨abs0 c, spec_of_interp g inp hs h, rfl⟩

theorem gen_same_tree (fuel : Nat) (start : String) (k : Nat) (cg : PState)
    (ps : List Pair) (h : LG.parse g inp fuel start k = .done true cg ps) :
    ∃ c1, L1.parse g inp fuel start k = .done true c1 ps ∧ cg.pos = c1.pos := by
  have h1 := C01.generated_parse_eq_all g inp fuel start k
  rw [h] at h1
  exact h1

/-- **Generated-code model.**  Every successful generated `parse()` returns a good tree — the
    very same pairs as the interpreter, tags included (C01). -/
theorem gen_tree_wf (hs : SkipTotal g) (fuel : Nat) (start : String) (k : Nat) (cg : PState)
    (ps : List Pair) (h : LG.parse g inp fuel start k = .done true cg ps) (hk : k ≤ inp.size) :
    GoodTree g inp start k cg.pos ps := by
  obtain ⟨c1, h1, hpos⟩ := gen_same_tree g inp fuel start k cg ps h
  rw [hpos]
  exact interp_tree_wf g inp hs fuel start k c1 ps h1 hk

/-! the fields, one by one, under the names the property text suggests -/

theorem interp_names (hs : SkipTotal g) (fuel : Nat) (start : String) (k : Nat) (c : PState)
    (ps : List Pair) (h : L1.parse g inp fuel start k = .done true c ps) (hk : k ≤ inp.size) :
    AllPairs (fun p => GNameOK g p.name) ps :=
  names_of_spec g inp (spec_of_interp g inp hs h)

/-- tags need neither `SkipTotal` nor a start position inside the input, and hold of failed
    parses as well -/
theorem interp_tags (fuel : Nat) (start : String) (k : Nat) (c : PState) (m : Bool)
    (ps : List Pair) (h : L1.parse g inp fuel start k = .done m c ps) :
    AllPairs (fun p => ∀ t, p.tag = some t → GTagOK g t) ps :=
  L1.parse_tags_are_grammar_tags inp h _

theorem interp_root_single (hs : SkipTotal g) (fuel : Nat) (start : String) (k : Nat) (c : PState)
    (ps : List Pair) (r : Rule) (h : L1.parse g inp fuel start k = .done true c ps) (hk : k ≤ inp.size)
    (hl : g.lookup start = some r) (hS : hasBit r.mod SILENT = false) :
    (∃ ch t, ps = [.mk r.name r.mod k c.pos ch t]) ∧ (∃ p, ps = [p] ∧ p.start = k) := by
  obtain ⟨ch, t, rfl⟩ := root_of_spec g inp hl hS (spec_of_interp g inp hs h)
  exact ⟨⟨ch, t, rfl⟩, _, rfl, rfl⟩

theorem gen_names (hs : SkipTotal g) (fuel : Nat) (start : String) (k : Nat) (cg : PState)
    (ps : List Pair) (h : LG.parse g inp fuel start k = .done true cg ps) (hk : k ≤ inp.size) :
    AllPairs (fun p => GNameOK g p.name) ps :=
  (gen_tree_wf g inp hs fuel start k cg ps h hk).names

theorem gen_tags (fuel : Nat) (start : String) (k : Nat) (cg : PState)
    (ps : List Pair) (h : LG.parse g inp fuel start k = .done true cg ps) :
    AllPairs (fun p => ∀ t, p.tag = some t → GTagOK g t) ps := by
  obtain ⟨c1, h1, _⟩ := gen_same_tree g inp fuel start k cg ps h
  exact interp_tags g inp fuel start k c1 true ps h1

theorem gen_root_single (hs : SkipTotal g) (fuel : Nat) (start : String) (k : Nat) (cg : PState)
    (ps : List Pair) (r : Rule) (h : LG.parse g inp fuel start k = .done true cg ps) (hk : k ≤ inp.size)
    (hl : g.lookup start = some r) (hS : hasBit r.mod SILENT = false) :
    (∃ ch t, ps = [.mk r.name r.mod k cg.pos ch t]) ∧ (∃ p, ps = [p] ∧ p.start = k) := by
  obtain ⟨ch, t, rfl⟩ := (gen_tree_wf g inp hs fuel start k cg ps h hk).root r hl hS
  exact ⟨⟨ch, t, rfl⟩, _, rfl, rfl⟩

/-! ### Non-vacuity

  `r = { "a" ~ #tg = x ~ at ~ EOI }`, `x = { "b" }`, `at = @{ y ~ cp }` (atomic, with the compound
  rule `cp = ${ "c" ~ y }` inside: `y` directly under `at` is hidden, `cp` and the `y` below it
  stay), silent `WHITESPACE`, non-silent `COMMENT = { "/" }`, the built-in `EOI`.
  Input `"a b /dcd"`: the result is
  `r[0,8]( x[2,3]#tg, COMMENT[4,5], at[5,8]( cp[6,8]( y[7,8] ) ), EOI[8,8] )`. -/

def demoG : Grammar :=
  { rules := [⟨"r", 0, .seq [.str [97], .ident "x" (some "tg"), .ident "at" none, .ident "EOI" none], .grammar⟩,
              ⟨"x", 0, .str [98], .grammar⟩,
              ⟨"at", ATOMIC, .seq [.ident "y" none, .ident "cp" none], .grammar⟩,
              ⟨"cp", COMPOUND, .seq [.str [99], .ident "y" none], .grammar⟩,
              ⟨"y", 0, .str [100], .grammar⟩,
              ⟨"WHITESPACE", SILENT, .str [32], .grammar⟩,
              ⟨"COMMENT", 0, .str [47], .grammar⟩,
              ⟨"EOI", 0, .eoiB, .builtin⟩] }

def demoInp : Input := #[97, 32, 98, 32, 47, 100, 99, 100]

def demoTree (tagged : Bool) : List Pair :=
  [.mk "r" 0 0 8
    [.mk "x" 0 2 3 [] (if tagged then some "tg" else none),
     .mk "COMMENT" 0 4 5 [] none,
     .mk "at" ATOMIC 5 8 [.mk "cp" COMPOUND 6 8 [.mk "y" 0 7 8 [] none] none] none,
     .mk "EOI" 0 8 8 [] none] none]

mutual
def pairEqB : Pair → Pair → Bool
  | .mk n m s e ch t, .mk n' m' s' e' ch' t' =>
    n == n' && m == m' && s == s' && e == e' && t == t' && pairsEqB ch ch'
def pairsEqB : List Pair → List Pair → Bool
  | [], [] => true
  | p :: ps, q :: qs => pairEqB p q && pairsEqB ps qs
  | _, _ => false
end

mutual
theorem pairEqB_sound : ∀ (p q : Pair), pairEqB p q = true → p = q
  | .mk n m s e ch t, .mk n' m' s' e' ch' t' => by
    intro h
    simp only [pairEqB, Bool.and_eq_true, beq_iff_eq] at h
    obtain ⟨⟨⟨⟨⟨rfl, rfl⟩, rfl⟩, rfl⟩, rfl⟩, h6⟩ := h
    rw [pairsEqB_sound ch ch' h6]
theorem pairsEqB_sound : ∀ (ps qs : List Pair), pairsEqB ps qs = true → ps = qs
  | [], [] => fun _ => rfl
  | [], _ :: _ => by intro h; simp [pairsEqB] at h
  | _ :: _, [] => by intro h; simp [pairsEqB] at h
  | p :: ps, q :: qs => by
    intro h
    simp only [pairsEqB, Bool.and_eq_true] at h
    rw [pairEqB_sound p q h.1, pairsEqB_sound ps qs h.2]
end

example : SkipTotal demoG := .of_noFused rfl

/-- checks of a result: ended at 8, well-formed in `[0, 8]`, one root, names among the
    non-silent rules, the tag is `tg`, 14 tokens accepted by the stack machine, 7 pairs in
    pre-order -/
def goodB (endPos : Nat) (ps : List Pair) : Bool :=
  endPos == 8 && wfForestB 0 endPos ps && ps.length == 1 &&
  (flattenL ps).all (fun p => ["r", "x", "at", "cp", "y", "COMMENT", "EOI"].contains p.name) &&
  (flattenL ps).all (fun p => p.tag == none || p.tag == some "tg") &&
  (flattenL ps).any (fun p => p.tag == some "tg") &&
  (flattenL ps).map Pair.name == ["r", "x", "COMMENT", "at", "cp", "y", "EOI"] &&
  check [] (tokensL ps) && (tokensL ps).length == 14 &&
  (tokensL ps).map Tok.pos == [0, 2, 3, 4, 5, 5, 6, 7, 8, 8, 8, 8, 8, 8]

def good1 : R1 → Bool
  | .done true c ps => goodB c.pos ps
  | _ => false
def goodG : RG → Bool
  | .done true c ps => goodB c.pos ps
  | _ => false
def good0 : R0 → Bool
  | .ok s ps => goodB s.pos ps
  | _ => false

example : good1 (L1.parse demoG demoInp 30 "r" 0) = true := by decide +kernel
example : goodG (LG.parse demoG demoInp 30 "r" 0) = true := by decide +kernel

example : (match L1.parse demoG demoInp 30 "r" 0 with
    | .done true _ ps => pairsEqB ps (demoTree true) | _ => false) = true := by decide +kernel
example : (match LG.parse demoG demoInp 30 "r" 0 with
    | .done true _ ps => pairsEqB ps (demoTree true) | _ => false) = true := by decide +kernel
example : (match L0.parse demoG demoInp 30 "r" 0 with
    | .ok _ ps => pairsEqB ps (demoTree false) | _ => false) = true := by decide +kernel

-- L0 has no tags, so `goodB` minus its "some pair is tagged" conjunct
example : (match L0.parse demoG demoInp 30 "r" 0 with
    | .ok s ps => s.pos == 8 && wfForestB 0 s.pos ps && ps.length == 1 &&
        (flattenL ps).map Pair.name == ["r", "x", "COMMENT", "at", "cp", "y", "EOI"]
    | _ => false) = true := by decide +kernel

-- a start position in the middle (`at` from 5); a silent start rule yields no root pair of its own
example : (match L1.parse demoG demoInp 30 "at" 5 with
    | .done true c ps => c.pos == 8 && wfForestB 5 c.pos ps && ps.length == 1
    | _ => false) = true := by decide +kernel
example : (match L1.parse demoG demoInp 30 "WHITESPACE" 1 with
    | .done true c ps => c.pos == 2 && wfForestB 1 c.pos ps && ps.length == 0
    | _ => false) = true := by decide +kernel

-- `WFForest` is not trivially true: overlapping / out-of-order / escaping children are rejected
example : wfForestB 0 8 [.mk "a" 0 0 5 [] none, .mk "b" 0 4 8 [] none] = false := by decide
example : wfForestB 0 8 [.mk "a" 0 0 5 [.mk "b" 0 4 6 [] none] none] = false := by decide
example : ¬ WFForest 0 8 [.mk "a" 0 0 5 [] none, .mk "b" 0 4 8 [] none] := by
  intro h
  have := h.ordered 0 1 (by decide) (by decide)
  simp [Pair.stop, Pair.start] at this

-- the theorems apply to the demo: hypotheses are met
example (c : PState) (ps : List Pair) (h : L1.parse demoG demoInp 30 "r" 0 = .done true c ps) :
    GoodTree demoG demoInp "r" 0 c.pos ps :=
  interp_tree_wf demoG demoInp (.of_noFused rfl)
    30 "r" 0 c ps h (by decide)

-- which pair gets the tag is *not* part of C06: `r = { #tg = x }`, `x = { y }`, `y = { "b" }` on "b"
-- yields `r( x( y#tg ) )` in the interpreter model, as in the code
example : (match L1.parse { rules := [⟨"r", 0, .ident "x" (some "tg"), .grammar⟩,
                                      ⟨"x", 0, .ident "y" none, .grammar⟩,
                                      ⟨"y", 0, .str [98], .grammar⟩] } #[98] 20 "r" 0 with
    | .done true _ ps =>
      pairsEqB ps [.mk "r" 0 0 1 [.mk "x" 0 0 1 [.mk "y" 0 0 1 [] (some "tg")] none] none]
    | _ => false) = true := by decide +kernel

end C06
end Pest
