/-
  Props/C11.lean — property C11:
  "Loading a grammar is total: a Parser or a renderable PestGrammarError".

    For every input string whatsoever, Parser.from_grammar terminates and either returns a
    Parser or raises PestGrammarError (normally PestGrammarSyntaxError); no other exception type
    escapes.  The error's message renders with str() and points at a line and column that exist
    in the text.

  Only statements and short proofs live here; the work is in Lemmas/FrontTotalScan.lean,
  Lemmas/FrontTotalParse.lean and Lemmas/FrontTotal.lean.

  Models: `Front.scan` (mirror of src/pest/grammar/scanner.py), `Front.parseTokens` (mirror of
  src/pest/grammar/parser.py), `Front.load` (= `Parser.from_grammar(text, optimizer=None)`:
  `.ok` a Parser, `.error` a PestGrammarSyntaxError with its message and the start/value of its
  token, `.exc` any other Python exception — `IndexError`, `ValueError` from `chr()`, a call of
  `int()`/`Range()` outside the modelled domain —, `.oof` a loop bound or depth fuel of the
  model ran out), `Front.grammarErrorContext` / `Front.gecLines` (mirror of
  `PestGrammarError._error_context`, `none` = `IndexError`).  Texts are lists of code points;
  every statement is for ALL texts.  Termination: the models are total Lean functions whose
  loops carry explicit bounds; `.oof` unreachable means the bounds are never what stops a loop,
  i.e. each `while True:` of the Python code leaves through its own `break`/`return`/`raise`.
-/
import PestModel.Lemmas.FrontTotal

namespace Pest
namespace C11
open Front LineCol

/-- every loop bound and the depth fuel of the scanner model suffice -/
theorem scan_no_oof (text : Front.Text) : scan text ≠ .oof := by
  intro h; have := scan_sat text; rw [h] at this; exact this

/-- no exception other than `PestGrammarSyntaxError` leaves `tokenize` (the only candidate,
    `unescape_string` on a scanned string body, never raises `IndexError`/`ValueError`) -/
theorem scan_no_exc (text : Front.Text) (n : String) : scan text ≠ .exc n := by
  intro h; have := scan_sat text; rw [h] at this; exact this

/-- a scanner error carries a token that starts inside the text -/
theorem scan_error_position {text : Front.Text} {k : EK} {st : Nat} {v : Front.Text}
    (h : scan text = .err k st v) : st ≤ text.length := by
  have := scan_sat text; rw [h] at this; exact this

/-- the token facts the grammar parser relies on: every token starts inside the text, a
    `NUMBER` is `[0-9]+`, an `INTEGER` is `-?[0-9]+`, a `CHAR` is `'c'` (c not a backslash) or
    `'\e'` with `e` exactly one match of `RE_ESCAPE` (see `TokOK`, `ValOK`) -/
theorem scan_tokens_ok {text : Front.Text} {toks : List Token} (h : scan text = .ok toks) :
    ∀ t ∈ toks, TokOK text.length t := by
  have := scan_sat text; rw [h] at this; exact this

theorem number_token_digits {N : Nat} {t : Token} (h : TokOK N t) (hk : t.kind = .number) :
    t.value ≠ [] ∧ ∀ c ∈ t.value, isDigit c = true := by
  have := h.val; rw [hk] at this; exact this

theorem integer_token_int {N : Nat} {t : Token} (h : TokOK N t) (hk : t.kind = .integer) :
    pyInt t.value ≠ none :=
  pyInt_intLit (intLit_tok h.val (.inr hk))

/-- what `parse_int` hands to `int()` (the `fix:` commit 6f76b47) — the sign and the
    significant digits (`intLiteral`) — is in `int()`'s domain for every NUMBER and INTEGER token -/
theorem int_literal_in_domain {N : Nat} {t : Token} (h : TokOK N t)
    (hk : t.kind = .number ∨ t.kind = .integer) : pyInt (intLiteral t.value) ≠ none :=
  pyInt_intLiteral (intLit_tok h.val hk)

theorem char_token_unescapes {N : Nat} {t : Token} (h : TokOK N t) (hk : t.kind = .char) :
    (∃ c, Unescape.unescape (stripQuotes t.value) = .ok [c]) ∨
      Unescape.unescape (stripQuotes t.value) = .error .range := by
  have hv := h.val
  rw [hk] at hv
  exact unescape_charLit hv

/-- the bound of `skip_trivia` suffices: it stops because none of the three patterns matches -/
theorem skipTrivia_done (s : St) : (triviaRound (skipTrivia s)).1 = false :=
  Front.skipTrivia_done s

theorem parse_no_oof (b : List String) (N : Nat) {toks : List Token}
    (h : ∀ t ∈ toks, TokOK N t) : parseTokens b ⟨.eoi, [], N⟩ toks ≠ .oof :=
  (parseTokens_free b ⟨.eoi, [], N⟩ rfl toks).ne_oof

/-- neither `int()` nor `Range()` is called outside the modelled domain, `unescape_string`
    raises nothing but `PestGrammarSyntaxError` -/
theorem parse_no_exc (b : List String) (N : Nat) {toks : List Token}
    (h : ∀ t ∈ toks, TokOK N t) (n : String) : parseTokens b ⟨.eoi, [], N⟩ toks ≠ .exc n :=
  (parseTokens_top b N h).exc

/-- the token of a parser error is a token of the list or `eof` … -/
theorem parse_error_token (b : List String) (N : Nat) {toks : List Token}
    (h : ∀ t ∈ toks, TokOK N t) {k : EK} {t : Token}
    (hr : parseTokens b ⟨.eoi, [], N⟩ toks = .err k t) : t ∈ toks ∨ t = ⟨.eoi, [], N⟩ :=
  (parseTokens_free b ⟨.eoi, [], N⟩ rfl toks).err hr

/-- … hence starts inside the text -/
theorem parse_error_position (b : List String) (N : Nat) {toks : List Token}
    (h : ∀ t ∈ toks, TokOK N t) {k : EK} {t : Token}
    (hr : parseTokens b ⟨.eoi, [], N⟩ toks = .err k t) : t.start ≤ N :=
  ((parseTokens_top b N h).err hr).1

/-- **C11, totality.**  For every text, loading terminates with a Parser or a
    PestGrammarSyntaxError: no other exception escapes (the model's `.exc` sites: `IndexError`,
    `ValueError` from `chr()` or `int()`, a call of `int()`/`Range()` outside the modelled
    domain) and no loop of the model is cut off by its bound. -/
theorem front_total (b : List String) (text : Front.Text) :
    (∀ n, load b text ≠ .exc n) ∧ load b text ≠ .oof := by
  have h := load_sat b text
  refine ⟨fun n hn => ?_, fun hn => ?_⟩
  · rw [hn] at h; exact h
  · rw [hn] at h; exact h

/-- the same, positively -/
theorem front_ok_or_error (b : List String) (text : Front.Text) :
    (∃ g, load b text = .ok g) ∨ ∃ e, load b text = .error e := by
  have h := load_sat b text
  cases hl : load b text with
  | ok g => exact .inl ⟨g, rfl⟩
  | error e => exact .inr ⟨e, rfl⟩
  | exc n => rw [hl] at h; exact h.elim
  | oof => rw [hl] at h; exact h.elim

/-- **C11, the error's token lies in the text**: `0 ≤ token.start ≤ len(text)` -/
theorem front_error_position {b : List String} {text : Front.Text} {e : GErr}
    (h : load b text = .error e) : e.start ≤ text.length := by
  have := load_sat b text; rw [h] at this; exact this

/-- `_error_context` raises nothing, for every text (all `splitlines` boundaries) and every
    index `≥ 0` -/
theorem error_context_total (t : LineCol.Text) (i : Nat) :
    (grammarErrorContext t i).isSome = true := by
  rw [grammarErrorContext_eq, Option.isSome_map]
  exact errorContext_total t i

/-- the lines `_error_context` works on are the text, cut into pieces -/
theorem gec_lines_partition {t : LineCol.Text} {lines : List LineCol.Text}
    (h : gecLines t = some lines) : lines.flatten = t := by
  obtain ⟨b, hb, -⟩ := endsOnNewLine_total t
  rw [gecLines_eq hb] at h
  cases h
  exact ecLines_flatten t b

/-- **C11, the reported line and column exist.**  For `0 ≤ i ≤ len(text)`: the line number is
    that of one of the lines, the column lies within that line (`col = len(line)` is the
    position just after its last character), and the line shown is that line, right-stripped. -/
theorem error_context_exists {t : LineCol.Text} {i : Nat} (hi : i ≤ t.length) :
    ∃ lines line col cur l, gecLines t = some lines ∧
      grammarErrorContext t i = some (line, col, cur) ∧ 1 ≤ line ∧ line ≤ lines.length ∧
      lines[line - 1]? = some l ∧ 0 ≤ col ∧ col ≤ l.length ∧ cur = rstrip l := by
  obtain ⟨lines, line, col, cur, l, h1, h2, h3, h4, h5, h6, h7⟩ := gec_cases t i
  exact ⟨lines, line, col, cur, l, h1, h2, h3, h4, h5, (h7 hi).1, (h7 hi).2.1, h6⟩

/-- … and the column reaches the length of its line only at the very end of the text -/
theorem error_context_col_lt {t : LineCol.Text} {i : Nat} (hi : i < t.length) :
    ∃ lines line col cur l, gecLines t = some lines ∧
      grammarErrorContext t i = some (line, col, cur) ∧ lines[line - 1]? = some l ∧
      0 ≤ col ∧ col < l.length := by
  obtain ⟨lines, line, col, cur, l, h1, h2, _, _, h5, _, h7⟩ := gec_cases t i
  obtain ⟨h6, h8, h9⟩ := h7 (Nat.le_of_lt hi)
  refine ⟨lines, line, col, cur, l, h1, h2, h5, h6, ?_⟩
  rcases Int.lt_or_eq_of_le h8 with h | h
  · exact h
  · have := h9 h; omega

/-- **C11, the error renders**: the `_error_context` call of `str(error)` succeeds at the
    error token's start and reports a line and a column that exist in the text -/
theorem front_error_renders {b : List String} {text : Front.Text} {e : GErr}
    (h : load b text = .error e) :
    ∃ lines line col cur l, gecLines text = some lines ∧
      grammarErrorContext text e.start = some (line, col, cur) ∧ 1 ≤ line ∧
      line ≤ lines.length ∧ lines[line - 1]? = some l ∧ 0 ≤ col ∧ col ≤ l.length ∧
      cur = rstrip l :=
  error_context_exists (front_error_position h)

/-! ### regression points (code-point lists) -/

-- the empty grammar loads, with no rules (was AssertionError)
example : load [] [] = .ok ⟨[], []⟩ := by rfl
-- "a": the end of the text where `=` was expected (was IndexError)
example : load [] [97] = .error ⟨.expectedAssign, 1, []⟩ := by rfl
-- "a={": the end of the text where a term was expected
example : load [] [97, 61, 123] = .error ⟨.expectedLParen, 3, []⟩ := by rfl
-- parser errors: "a={'b'..'a'}" (range order, at the first CHAR token),
-- "a={b{,}}" (`}` where a number was expected),
-- "a={'\u{110000}'..'b'}" (an escape beyond U+10FFFF: PestGrammarSyntaxError, not ValueError)
example : load [] [97, 61, 123, 39, 98, 39, 46, 46, 39, 97, 39, 125] =
    .error ⟨.rangeOrder, 3, [39, 98, 39]⟩ := by rfl
example : load [] [97, 61, 123, 98, 123, 44, 125, 125] = .error ⟨.unexpected, 6, [125]⟩ := by rfl
example : load [] [97, 61, 123, 39, 92, 117, 123, 49, 49, 48, 48, 48, 48, 125, 39, 46, 46, 39,
    98, 39, 125] =
    .error ⟨.unescape .range, 3, [39, 92, 117, 123, 49, 49, 48, 48, 48, 48, 125, 39]⟩ := by rfl
-- the end of "a" is line 1, column 1
example : grammarErrorContext [97] 1 = some (1, 1, [97]) := by decide
-- the end of "a\n" is on a new, empty line 2
example : grammarErrorContext [97, 10] 2 = some (2, 0, []) := by decide
example : grammarErrorContext [] 0 = some (1, 0, []) := by decide
example : gecLines [97, 13, 10, 98] = some [[97, 13, 10], [98]] := by decide

end C11
end Pest
