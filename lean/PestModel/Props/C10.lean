/-
  Props/C10.lean — property C10:
  "Grammar front end accepts exactly pest v2 syntax with the denoted structure".

  Model: Front/Scan.lean + Front/Parse.lean (mirror of scanner.py / grammar/parser.py, tied to the
  code by the `F` correspondence of harness/eng_front.py).  Source-level syntax, canonical printer
  and denotation: Front/Ast.lean.

  Here is the *accept + structure* half of C10 on every printed AST, for ASTs of any size and nesting
  depth, with arbitrary trivia (blanks, tabs, line breaks, nested block comments, line comments — or
  nothing at all) behind every token.  `GrammarText g t` (Front/AstTrivia.lean): `t` spells the tokens
  of `g` in order, each followed by some trivia; doc comments are `marker ++ optional blank ++ line ++
  "\n"`, the blank belonging to the marker (the `fix:` commit 77be14c).  So the front end accepts every
  such text of every well-formed source-level grammar and builds exactly the rule table it denotes: rule
  names, modifiers and doc lines; `~` binding tighter than `|`, both flattened into n-ary nodes; prefix
  operators outside postfix operators, postfix operators innermost first; parentheses as `Group`; tags;
  PEEK slices; repetition bounds; decoded string and character literals (the `den_…` theorems spell out
  what `den` says about precedence and grouping).  `front_roundtrip_text` is the composition of
  `Front.scan_roundtrip_text` (such a text scans to the AST's token kinds and values) and
  `parse_roundtrip` (any token list with those kinds and values parses to `den`).
  `WF` (Front/Ast.lean) only asks that the pieces are spellable: identifiers match RE_IDENTIFIER, tag
  names are identifiers, a modifier is one of `_ @ $ !`, doc lines contain no line break and do not end
  with CR, range ends are ordered, repetition bounds fit u32, slice indices lie within ±(2³²−1).

  The converse (whatever text is accepted is a grammar text of a well-formed grammar, and the
  result is what it denotes) is `front_exact` in Props/C10Exact.lean.  It needs the wider layout
  relation `GrammarText'` of Front/AstText2.lean, since `GrammarText` leaves out two layouts: a
  line comment that ends the text without a line break, and trivia between `^` and the string of
  a case-insensitive literal (and spellings other than the printer's, listed there).
-/
import PestModel.Lemmas.FrontParseAst
import PestModel.Lemmas.FrontScanAst

namespace Pest
namespace C10
open Front

/-- **C10, structure.**  Whatever the positions of the tokens, a token list whose kinds and
    values are those of a well-formed grammar `g` parses to the rule table `g` denotes, and the
    parser consumes every token. -/
theorem parse_roundtrip (b : List String) (g : SGrammar) (h : g.WF) (eof : Token)
    (heof : eof.kind = .eoi) (ts : List Token) (hts : PRT.tokKV ts = g.kv) :
    parseTokens b eof ts = .ok (g.den b) [] :=
  PRT.parseTokens_roundtrip b g h eof heof ts hts

theorem parse_expression_roundtrip (b : List String) (bar : Bool) (e : SExpr) (h : e.WF) (eof : Token)
    (ts : List Token) (K : List KV) (hts : PRT.tokKV ts = barKV bar ++ e.kv ++ K) (hK : PRT.Closer K) :
    ∃ ts', parseExpression b (ts.length + 1) PRECEDENCE_LOWEST eof ts = .ok (e.den b) ts' ∧ PRT.tokKV ts' = K :=
  IP.okPart_some ((PRT.recOK b (ts.length + 1)).full PRECEDENCE_LOWEST (by decide) bar e h
    (Nat.lt_succ_of_le (PRT.tokKV_le hts)) ts K hts hK)

section
variable (b : List String) (x y z : STerm)

/-- `~` binds tighter than `|`: `x ~ y | z` is `(x ~ y) | z` … -/
theorem den_seq_then_choice :
    (SExpr.cons x false (.cons y true (.one z))).den b = .choice [.seq [x.den b, y.den b], z.den b] := by
  simp [SExpr.den, SExpr.groups, consGroup, mkSeq, mkChoice]

/-- … and `x | y ~ z` is `x | (y ~ z)` -/
theorem den_choice_then_seq :
    (SExpr.cons x true (.cons y false (.one z))).den b = .choice [x.den b, .seq [y.den b, z.den b]] := by
  simp [SExpr.den, SExpr.groups, consGroup, mkSeq, mkChoice]

/-- chains are one n-ary node, not nested binary ones -/
theorem den_seq_chain :
    (SExpr.cons x false (.cons y false (.one z))).den b = .seq [x.den b, y.den b, z.den b] := by
  simp [SExpr.den, SExpr.groups, consGroup, mkSeq, mkChoice]

theorem den_choice_chain :
    (SExpr.cons x true (.cons y true (.one z))).den b = .choice [x.den b, y.den b, z.den b] := by
  simp [SExpr.den, SExpr.groups, mkSeq, mkChoice]

theorem den_one : (SExpr.one x).den b = x.den b := by
  simp [SExpr.den, SExpr.groups, mkSeq, mkChoice]
end

/-- prefix operators apply to the node *with* its postfix operators, the first written outermost;
    postfix operators apply innermost first: `&!n*?` is `&(!((n*)?))` -/
theorem den_prefix_postfix (b : List String) (n : SNode) :
    (STerm.mk none [true, false] n [.rep, .opt]).den b = .andP (.notP (.opt (.rep (n.den b none)))) := by
  simp [STerm.den, applyPre, applyPost]

/-- parentheses are a `Group` carrying the term's tag; the tag of a term with a prefix operator
    has no place in the tree -/
theorem den_paren_tag (b : List String) (e : SExpr) (t : Text) :
    (STerm.mk (some t) [] (.paren false e) []).den b = .group (e.den b) (some (nameOf t)) ∧
    (STerm.mk (some t) [false] (.paren false e) []).den b = .notP (.group (e.den b) none) := by
  simp [STerm.den, SNode.den, applyPre]

theorem den_bounds (b : List String) (n : SNode) (i j : Nat) :
    (STerm.mk none [] n [.minmax i j]).den b = .repMinMax (n.den b none) i j ∧
    (STerm.mk none [] n [.exact i]).den b = .repExact (n.den b none) i ∧
    (STerm.mk none [] n [.min i]).den b = .repMin (n.den b none) i ∧
    (STerm.mk none [] n [.max i]).den b = .repMax (n.den b none) i := by
  simp [STerm.den, applyPost]

/-- **C10, accept (scanner).**  The canonical text of a well-formed grammar scans without
    error to tokens with the AST's kinds and values. -/
theorem scan_roundtrip (g : SGrammar) (h : g.WF) :
    ∃ toks, scan g.pretty = .ok toks ∧ PRT.tokKV toks = g.kv :=
  Front.scan_roundtrip g h

/-- **C10, accept + structure, any layout.**  Every text that spells the tokens of a well-formed
    grammar in order, with any trivia (or none) behind each of them, loads to what the grammar
    denotes. -/
theorem front_roundtrip_text (b : List String) (g : SGrammar) (h : g.WF) {t : Text}
    (ht : GrammarText g t) : load b t = .ok (g.den b) := by
  obtain ⟨toks, hs, hkv⟩ := Front.scan_roundtrip_text g h ht
  exact PRT.load_ok hs (parse_roundtrip b g h _ rfl toks hkv)

/-- **C10, accept + structure on every printed AST.** -/
theorem front_roundtrip (b : List String) (g : SGrammar) (h : g.WF) :
    load b g.pretty = .ok (g.den b) :=
  front_roundtrip_text b g h (TRT.grammarText_pretty g)

theorem front_roundtrip_trivia (b : List String) (g : SGrammar) (h : g.WF) (lead : Text)
    (sep : Nat → Text) (hl : IsTrivia lead) (hs : ∀ i, IsTrivia (sep i)) :
    load b (g.prettyWith lead sep) = .ok (g.den b) :=
  front_roundtrip_text b g h (TRT.grammarText_prettyWith g hl hs)

end C10
end Pest
