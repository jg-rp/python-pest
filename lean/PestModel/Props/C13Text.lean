/-
  Props/C13Text.lean — the `error_context(text, index)` part of property C13:
  "The line:column and the source line shown are those of p", and the function never
  raises for `-1 ≤ p ≤ len(text)`.

  Model: `LineCol.errorContext` (mirror of `error_context` in src/pest/exceptions.py, every
  subscript explicit, `none` = IndexError).  Line and column follow C14's convention
  (`specLineCol`); the source line shown is the line containing `p` with trailing
  whitespace removed (`str.rstrip()`).
-/
import PestModel.Lemmas.LineCol

namespace Pest
namespace C13
open LineCol

/-- **C13, error_context is total**: for every text — with any of the `splitlines`
    boundaries — and every integer index no subscript is out of range. -/
theorem error_context_total_any (t : Text) (p : Int) : (errorContext t p).isSome = true :=
  errorContext_total t p

/-- … in particular for `-1 ≤ p ≤ len(text)`, the range the property speaks of. -/
theorem error_context_total {t : Text} {p : Int} (_ : -1 ≤ p) (_ : p ≤ t.length) :
    (errorContext t p).isSome = true :=
  error_context_total_any t p

/-- **C13, the line:column and the source line shown are those of p**: for a `\n`-text and
    `0 ≤ p ≤ len(text)`, `error_context` returns the line containing `p` (trailing
    whitespace stripped), 1 + the number of line breaks before `p`, and 1 + the distance of
    `p` from the last line break. -/
theorem error_context_is_linecol {t : Text} {p : Int} (h : OnlyLF t) (h0 : 0 ≤ p)
    (hp : p ≤ t.length) :
    errorContext t p = some (rstrip (specLineOf t p.toNat), (specLineCol t p.toNat).1,
      ((specLineCol t p.toNat).2 : Int)) := by
  obtain ⟨n, rfl⟩ := Int.eq_ofNat_of_zero_le h0
  have hn : n ≤ t.length := by omega
  simpa [specLineCol] using errorContext_onlyLF h hn

/-- the reported line and column are those of `Position(text, p).line_col()` -/
theorem error_context_agrees_with_position {t : Text} {p : Nat} (h : OnlyLF t)
    (hp : p ≤ t.length) :
    (errorContext t p).map (·.2) = pyLineCol t p :=
  -- the general statement is about every text, `\n`-only or not
  (pyLineCol_eq_errorContext t hp).symm

/-- the sentinel `-1` (no failure recorded) is reported as line 1, column 0 -/
theorem error_context_sentinel (t : Text) : ∃ l, errorContext t (-1) = some (l, 1, 0) := by
  obtain ⟨b, hb, hne⟩ := endsOnNewLine_total t
  obtain ⟨l, ls, hls⟩ := List.exists_cons_of_ne_nil (List.length_pos_iff.1 (ecLines_pos t hne))
  refine ⟨rstrip l, ?_⟩
  rw [errorContext_exit hb hls
      (findLine_hit (Int.lt_of_lt_of_le (by decide) (Int.natCast_nonneg _))) rfl rfl,
    Nat.zero_add, Int.sub_self]
  rfl

-- after a trailing line break: the new empty line (`fix:` c63a9c0)
example : errorContext [97, 98, 10] 3 = some ([], 2, 1) := by decide +kernel
-- empty text: column 1 at index 0 (same commit)
example : errorContext [] 0 = some ([], 1, 1) := by decide +kernel
example : errorContext [] (-1) = some ([], 1, 0) := by decide +kernel
-- "ab \ncd", p = 5: second line, column 2; trailing blanks of the shown line are stripped
example : errorContext [97, 98, 32, 10, 99, 100] 5 = some ([99, 100], 2, 2) := by decide +kernel
example : errorContext [97, 98, 32, 10, 99, 100] 1 = some ([97, 98], 1, 2) := by decide +kernel
example : errorContext [97, 98] (-1) = some ([97, 98], 1, 0) := by decide +kernel
-- other boundaries: "a\r\nb", between \r and \n
example : errorContext [97, 13, 10, 98] 2 = some ([97], 1, 3) := by decide +kernel

end C13
end Pest
