/-
  Props/C04.lean — property C04: "Implicit WHITESPACE/COMMENT and atomicity modifiers follow
  pest's rules".

  The placement rules are *stated* here against L0 so that they are not buried in a
  definition; that the interpreter model obeys them is the refinement theorem of C03
  (`C03.interp_refines_spec`), which holds for every grammar whose fused trivia rule cannot fail
  (`SkipTotal`) — in particular for those that define trivia rules and use the four modifiers —
  so C04 for the interpreted modes is its instance.  (The generated-code and optimizer halves are C01 and C02.)
-/
import PestModel.Props.C03

namespace Pest
namespace C04

variable (g : Grammar) (inp : Input)

/-- the interpreter model places trivia and handles modifiers exactly as L0 does -/
theorem interp_trivia_and_modifiers (hs : SkipTotal g) (n : Nat) (e : Expr) (c : PState) (p : Pre c) :
    Rel c (L1.run g inp n e c) (L0.run g inp n e (abs0 c)) :=
  C03.interp_refines_spec g inp hs n e c p

/-- … including `parse_trivia` itself: the interpreter's loop is `(WHITESPACE | COMMENT)*`
    (or the fused SKIP rule) from the same state, leaving every checkpoint untouched -/
theorem trivia_interp_eq (hs : SkipTotal g) (n k : Nat) (c : PState) (p : Pre c) :
    RelT c (L1.parseTrivia g (L1.run g inp n) k c) (L0.skip g (L0.run g inp n) k (abs0 c)) :=
  parseTrivia_rel g (run_good g inp hs n) hs k c p

/-! ### where implicit trivia is matched -/

/-- after every element of a sequence that has a following element — whether or not that
    element then consumes anything —: `e ~ e' ~ …` is `e`, then trivia, then the rest -/
theorem seq_trivia_between (rec : Sem0) (k : Nat) (e e' : Expr) (rest : List Expr) (s : S0)
    (acc : List Pair) :
    L0.seqL g rec k (e :: e' :: rest) s acc =
      (match rec e s with
       | .ok s1 ps =>
         (match L0.skip g rec k s1 with
          | .ok s2 tps => L0.seqL g rec k (e' :: rest) s2 (acc ++ ps ++ tps)
          | .fail => L0.seqL g rec k (e' :: rest) s1 (acc ++ ps)
          | r => r)
       | r => r) := by
  unfold L0.seqL
  cases rec e s with
  | ok s1 ps => dsimp only [List.isEmpty_cons]; cases L0.skip g rec k s1 <;> rfl
  | fail => rfl
  | oof => rfl
  | stuck => rfl

/-- … and never after the last element -/
theorem seq_no_trailing_trivia (rec : Sem0) (k : Nat) (e : Expr) (s : S0) (acc : List Pair) :
    L0.seqL g rec k [e] s acc =
      (match rec e s with | .ok s1 ps => .ok s1 (acc ++ ps) | r => r) := by
  simp only [L0.seqL, List.isEmpty_nil, ↓reduceIte]
  cases rec e s <;> rfl

/-- between consecutive iterations of `e*`; trivia matched after an iteration that is not
    followed by another iteration is given back: the loop returns the state *before* it -/
theorem rep_trailing_trivia_given_back (rec : Sem0) (e : Expr) (k kk : Nat) (s s1 : S0)
    (acc tps : List Pair) (h1 : L0.skip g rec kk s = .ok s1 tps) (h2 : rec e s1 = .fail) :
    L0.repLoop g rec e (k + 1) kk false s acc = .ok s acc := by
  simp [L0.repLoop, h1, h2]

theorem rep_trivia_between (rec : Sem0) (e : Expr) (k kk : Nat) (s s1 s2 : S0)
    (acc tps ps : List Pair) (h1 : L0.skip g rec kk s = .ok s1 tps) (h2 : rec e s1 = .ok s2 ps) :
    L0.repLoop g rec e (k + 1) kk false s acc = L0.repLoop g rec e k kk false s2 (acc ++ tps ++ ps) := by
  simp [L0.repLoop, h1, h2]

/-- no trivia before the first iteration -/
theorem rep_first_no_trivia (rec : Sem0) (e : Expr) (k kk : Nat) (s : S0) (acc : List Pair) :
    L0.repLoop g rec e (k + 1) kk true s acc =
      (match rec e s with
       | .ok s2 ps => L0.repLoop g rec e k kk false s2 (acc ++ [] ++ ps)
       | .fail => .ok s acc
       | r => r) := by
  simp only [L0.repLoop, ↓reduceIte]
  cases rec e s <;> rfl

/-- `e+`, `e{n}`, `e{n,}`, `e{,n}`, `e{m,n}` place trivia exactly as their unrolled sequences -/
theorem bounded_trivia_as_unrolled (k : Nat) (rec : Sem0) (e : Expr) (m n : Nat) (s : S0) :
    L0.step g inp k rec (.rep1 e) s = L0.step g inp k rec (.seq [e, .rep e]) s ∧
    L0.step g inp k rec (.repExact e n) s = L0.step g inp k rec (.seq (List.replicate n e)) s ∧
    L0.step g inp k rec (.repMin e n) s = L0.step g inp k rec (.seq (List.replicate n e ++ [.rep e])) s ∧
    L0.step g inp k rec (.repMax e n) s = L0.step g inp k rec (.seq (List.replicate n (.opt e))) s ∧
    L0.step g inp k rec (.repMinMax e m n) s =
      L0.step g inp k rec (.seq (List.replicate m e ++ List.replicate (n - m) (.opt e))) s :=
  C03.bounded_as_unrolled g inp k rec e m n s

/-- nowhere else: the stack terminals match their entries back to back, choice / optional /
    predicates / groups add none of their own (their L0 clauses never call `skip`) -/
theorem peek_all_no_trivia (k : Nat) (rec : Sem0) (s : S0) :
    L0.step g inp k rec .peekAll s =
      (match L1.matchAll inp s.stk s.pos with | some p => .ok { s with pos := p } [] | none => .fail) ∧
    L0.step g inp k rec .popAll s =
      (match L1.matchAll inp s.stk s.pos with
       | some p => .ok { s with pos := p, stk := [] } [] | none => .fail) := ⟨rfl, rfl⟩

/-- no implicit trivia inside an atomic context -/
theorem atomic_no_trivia (rec : Sem0) (k : Nat) (s : S0) (h : s.atomic = true) :
    L0.skip g rec k s = .ok s [] := by
  simp [L0.skip, h]

/-- `@` and `$` rules, and the bodies of WHITESPACE / COMMENT, are atomic contexts; a `!` rule
    re-enables trivia; other rules inherit -/
theorem rule_atomicity (name : String) (mod : Nat) (outer : Bool) :
    (hasBit mod ATOMIC = true ∨ hasBit mod COMPOUND = true ∨ name = "WHITESPACE" ∨ name = "COMMENT" →
      L0.ruleAtomic name mod outer = true) ∧
    (hasBit mod ATOMIC = false → hasBit mod COMPOUND = false → L1.isTriviaName name = false →
      hasBit mod NONATOMIC = true → L0.ruleAtomic name mod outer = false) ∧
    (hasBit mod ATOMIC = false → hasBit mod COMPOUND = false → L1.isTriviaName name = false →
      hasBit mod NONATOMIC = false → L0.ruleAtomic name mod outer = outer) := by
  refine ⟨?_, ?_, ?_⟩
  · intro h
    rcases h with h | h | h | h <;> simp [L0.ruleAtomic, L1.isTriviaName, h]
  · intro h1 h2 h3 h4; simp [L0.ruleAtomic, h1, h2, h3, h4]
  · intro h1 h2 h3 h4; simp [L0.ruleAtomic, h1, h2, h3, h4]

/-- atomicity is restored when the rule returns -/
theorem rule_restores_atomicity (name : String) (mod : Nat) (s s' out : S0) (ps qs : List Pair)
    (h : L0.ruleWrap name mod s s' ps = .ok out qs) : out.atomic = s.atomic := by
  rw [L0.ruleWrap_state h]

/-- an atomic rule yields a single pair whose inner pairs are hidden except those produced
    under a nested `$` or `!` rule … -/
theorem atomic_rule_single_pair (name : String) (mod : Nat) (s s' : S0) (ps : List Pair)
    (hS : hasBit mod SILENT = false) (hA : hasBit mod ATOMIC = true) :
    L0.ruleWrap name mod s s' ps =
      .ok { s' with atomic := s.atomic } [.mk name mod s.pos s'.pos (visibleList ps) none] := by
  rw [L0.ruleWrap_pair hS, if_pos hA]

/-- … where `visibleList` keeps exactly the sub-trees rooted at `$`/`!` pairs, hoisted, in
    order (definitional unfolding, stated for reading) -/
theorem visible_spec (n : String) (m s e : Nat) (ch : List Pair) (t : Option String) (rest : List Pair) :
    visibleList (.mk n m s e ch t :: rest) =
      (if hasBit m COMPOUND || hasBit m NONATOMIC then [.mk n m s e ch t] else visibleList ch)
        ++ visibleList rest :=
  visibleList_cons n m s e ch t rest

/-- `$` and `!` rules (and normal rules) keep their inner pairs -/
theorem compound_keeps_children (name : String) (mod : Nat) (s s' : S0) (ps : List Pair)
    (hS : hasBit mod SILENT = false) (hA : hasBit mod ATOMIC = false) :
    L0.ruleWrap name mod s s' ps =
      .ok { s' with atomic := s.atomic } [.mk name mod s.pos s'.pos ps none] := by
  rw [L0.ruleWrap_pair hS, if_neg (Bool.eq_false_iff.1 hA)]

/-- non-silent WHITESPACE/COMMENT rules appear as pairs exactly where they matched: one
    `skip` step that matches trivia rule `r` contributes `r`'s pairs at that position -/
theorem trivia_pairs_where_matched (rec : Sem0) (ws cm : Option Rule) (k : Nat) (s s' : S0)
    (acc ps : List Pair) (h : L0.trySkip rec ws s = .matched s' ps) :
    L0.skipLoop rec ws cm (k + 1) s acc = L0.skipLoop rec ws cm k s' (acc ++ ps) := by
  simp [L0.skipLoop, h]

def demoG : Grammar :=
  { rules := [⟨"r", 0, .seq [.str [97], .rep (.str [98])], .grammar⟩,
              ⟨"a", ATOMIC, .seq [.ident "n" none, .ident "c" none], .grammar⟩,
              ⟨"n", 0, .str [98], .grammar⟩,
              ⟨"c", COMPOUND, .ident "n" none, .grammar⟩,
              ⟨"WHITESPACE", SILENT, .str [32], .grammar⟩] }

example : SkipTotal demoG := .of_noFused rfl

-- "a b b " : trailing space given back, r spans 0..5
example : C03.okAt0 (L0.parse demoG #[97, 32, 98, 32, 98, 32] 30 "r" 0) 5 1 = true := by decide +kernel
example : C03.okAt1 (L1.parse demoG #[97, 32, 98, 32, 98, 32] 30 "r" 0) 5 1 = true := by decide +kernel

end C04
end Pest
