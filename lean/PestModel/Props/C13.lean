/-
  Props/C13.lean — property C13, the parser-state part:
  "Whenever parsing fails, the PestParsingError carries a furthest-failure position p with
   start_pos <= p <= len(input) (or the sentinel -1 when no expectation was recorded), the rule
   names it lists as expected or unexpected are rules of the grammar or built-ins, and its
   message and str() render without raising for every input …  The line:column and the source
   line shown are those of p."

  `PestParsingError` is built from `state.furthest_pos / furthest_expected /
  furthest_unexpected / furthest_stack` (fields `fpos fexp funexp fstack` of `PState`) and
  rendered through `error_context(text, furthest_pos)` (`LineCol.errorContext`, whose
  totality and line/column correctness are in `Props/C13Text.lean`).  Proved here, for the
  interpreter model L1 *and*, independently, for the generated-code model LG, for every
  grammar, input, start rule, start position `k ≤ len(input)` and amount of fuel:

  * the position, every saved position and the furthest-failure position stay in
    `[k, len(input)]` (`fpos` may still be `-1`) across every finished call — matched or
    failed;
  * hence `error_context` is defined at the reported position and, for `\n`-texts and a
    recorded failure, shows the line / line number / column of that position;
  * every key of `furthest_expected` / `furthest_unexpected` and every entry of
    `furthest_stack` is the name of a rule of the rule table or of a rule object embedded in
    one of its trees.
  The theorems about LG are the `gen_…` ones.

  The two models need not record the *same* keys (generated code inlines built-in rules, so a
  terminal inside `ASCII_DIGIT` is recorded under the enclosing grammar rule); both stay
  inside `knownNames g`.  The two furthest-failure positions are equal (`gen_fpos_agrees_all`,
  from C01; `gen_fpos_agrees` states it under `SkipTotal g`, which it does not need).
-/
import PestModel.Lemmas.FailPos
import PestModel.Props.C01
import PestModel.Props.C13Text

namespace Pest
namespace C13
open FailPos LineCol

variable (g : Grammar) (inp : Input)

/-! ### positions in range -/

/-- **Every finished call keeps all positions in range** (interpreter model): if the current
    position, the saved positions and the furthest-failure position of `c` lie in
    `[k, len(input)]` (`fpos` possibly `-1`), the same holds of the state any call of any
    expression ends in — matched or not, with any fuel. -/
theorem pos_in_range (k n : Nat) (e : Expr) (c c' : PState) (m : Bool) (ps : List Pair)
    (hb : Bounded inp k c) (h : L1.run g inp n e c = .done m c' ps) : Bounded inp k c' :=
  run_inv (boundedKit g inp k) n (.of_forall (fun _ => trivial) e) h hb

/-- `Parser.parse(start, text, start_pos=k)` with `k ≤ len(text)`, any verdict -/
theorem parse_bounded (fuel : Nat) (start : String) (k : Nat) (m : Bool) (c' : PState)
    (ps : List Pair) (hk : k ≤ inp.size) (h : L1.parse g inp fuel start k = .done m c' ps) :
    Bounded inp k c' :=
  parse_inv (boundedKit g inp k) (bounded_init inp k hk) h

/-- **C13, furthest-failure position**: when `Parser.parse` fails, `furthest_pos` is the
    sentinel `-1` or lies between the start position and `len(input)`. -/
theorem fpos_in_range (fuel : Nat) (start : String) (k : Nat) (c' : PState) (ps : List Pair)
    (h : L1.parse g inp fuel start k = .done false c' ps) (hk : k ≤ inp.size) :
    c'.fpos = -1 ∨ ((k : Int) ≤ c'.fpos ∧ c'.fpos ≤ (inp.size : Int)) :=
  (parse_bounded g inp fuel start k false c' ps hk h).fp

theorem parse_end_in_range (fuel : Nat) (start : String) (k : Nat) (c' : PState) (ps : List Pair)
    (h : L1.parse g inp fuel start k = .done true c' ps) (hk : k ≤ inp.size) :
    k ≤ c'.pos ∧ c'.pos ≤ inp.size :=
  ⟨(parse_bounded g inp fuel start k true c' ps hk h).lo, (parse_bounded g inp fuel start k true c' ps hk h).hi⟩

/-- the same invariant for the generated-code model (proved directly on LG: no hypothesis on
    the grammar is needed) -/
theorem gen_pos_in_range (k n : Nat) (e : Expr) (c c' : PState) (m : Bool) (ps0 ps : List Pair)
    (hb : Bounded inp k c) (h : LG.run g inp n e c ps0 = .done m c' ps) : Bounded inp k c' :=
  runG_inv (boundedKit g inp k) n (.of_forall (fun _ => trivial) e) h hb

theorem gen_parse_bounded (fuel : Nat) (start : String) (k : Nat) (m : Bool) (c' : PState)
    (ps : List Pair) (hk : k ≤ inp.size) (h : LG.parse g inp fuel start k = .done m c' ps) :
    Bounded inp k c' :=
  parseG_inv (boundedKit g inp k) (bounded_init inp k hk) h

/-- **C13 for the generated module's `parse()`** -/
theorem gen_fpos_in_range (fuel : Nat) (start : String) (k : Nat) (c' : PState) (ps : List Pair)
    (h : LG.parse g inp fuel start k = .done false c' ps) (hk : k ≤ inp.size) :
    c'.fpos = -1 ∨ ((k : Int) ≤ c'.fpos ∧ c'.fpos ≤ (inp.size : Int)) :=
  (gen_parse_bounded g inp fuel start k false c' ps hk h).fp

/-- the generated module reports the same furthest-failure position as the interpreter (C01),
    for every grammar -/
theorem gen_fpos_agrees_all (fuel : Nat) (start : String) (k : Nat) (cg : PState)
    (ps : List Pair) (h : LG.parse g inp fuel start k = .done false cg ps) :
    ∃ c1 ps1, L1.parse g inp fuel start k = .done false c1 ps1 ∧ cg.fpos = c1.fpos := by
  have := C01.generated_parse_eq_all g inp fuel start k
  rw [h] at this
  exact this

/-- `gen_fpos_agrees_all` under the hypothesis that the fused trivia rule cannot fail
    (`SkipTotal`, what the optimizer builds), which it does not need -/
theorem gen_fpos_agrees (hs : SkipTotal g) (fuel : Nat) (start : String) (k : Nat) (cg : PState)
    (ps : List Pair) (h : LG.parse g inp fuel start k = .done false cg ps) :
    ∃ c1 ps1, L1.parse g inp fuel start k = .done false c1 ps1 ∧ cg.fpos = c1.fpos :=
  gen_fpos_agrees_all g inp fuel start k cg ps h

/-! ### … so the error message can be rendered, and shows that position -/

theorem fpos_lower {k : Nat} {p : Int} (hf : p = -1 ∨ ((k : Int) ≤ p ∧ p ≤ (inp.size : Int))) : -1 ≤ p := by
  rcases hf with hf | hf <;> omega

theorem fpos_upper {k : Nat} {p : Int} (hf : p = -1 ∨ ((k : Int) ≤ p ∧ p ≤ (inp.size : Int))) :
    p ≤ inp.toList.length := by
  rw [Array.length_toList]; rcases hf with hf | hf <;> omega

theorem linecol_of_fpos {k : Nat} {p : Int}
    (hf : p = -1 ∨ ((k : Int) ≤ p ∧ p ≤ (inp.size : Int))) (hlf : OnlyLF inp.toList) (hrec : p ≠ -1) :
    errorContext inp.toList p =
      some (rstrip (specLineOf inp.toList p.toNat), (specLineCol inp.toList p.toNat).1,
        ((specLineCol inp.toList p.toNat).2 : Int)) := by
  rcases hf with hf | hf
  · exact absurd hf hrec
  · exact error_context_is_linecol hlf (by omega) (by rw [Array.length_toList]; omega)

/-- **`error_context(text, furthest_pos)` raises no `IndexError` after a failed parse** (it is
    what `PestParsingError.__str__` / `.message` subscript into) -/
theorem error_context_defined_on_failure (fuel : Nat) (start : String) (k : Nat) (c' : PState)
    (ps : List Pair) (h : L1.parse g inp fuel start k = .done false c' ps) (hk : k ≤ inp.size) :
    (errorContext inp.toList c'.fpos).isSome = true :=
  error_context_total (fpos_lower inp (fpos_in_range g inp fuel start k c' ps h hk))
    (fpos_upper inp (fpos_in_range g inp fuel start k c' ps h hk))

theorem gen_error_context_defined_on_failure (fuel : Nat) (start : String) (k : Nat) (c' : PState)
    (ps : List Pair) (h : LG.parse g inp fuel start k = .done false c' ps) (hk : k ≤ inp.size) :
    (errorContext inp.toList c'.fpos).isSome = true :=
  error_context_total (fpos_lower inp (gen_fpos_in_range g inp fuel start k c' ps h hk))
    (fpos_upper inp (gen_fpos_in_range g inp fuel start k c' ps h hk))

/-- **the line:column and the source line shown are those of p**: for a `\n`-text and a
    recorded failure (`furthest_pos ≠ -1`) the rendered context is the line containing
    `furthest_pos` (right-stripped), its 1-based line number and 1-based column -/
theorem error_context_on_failure_is_linecol (fuel : Nat) (start : String) (k : Nat) (c' : PState)
    (ps : List Pair) (h : L1.parse g inp fuel start k = .done false c' ps) (hk : k ≤ inp.size)
    (hlf : OnlyLF inp.toList) (hrec : c'.fpos ≠ -1) :
    errorContext inp.toList c'.fpos =
      some (rstrip (specLineOf inp.toList c'.fpos.toNat), (specLineCol inp.toList c'.fpos.toNat).1,
        ((specLineCol inp.toList c'.fpos.toNat).2 : Int)) :=
  linecol_of_fpos inp (fpos_in_range g inp fuel start k c' ps h hk) hlf hrec

theorem gen_error_context_on_failure_is_linecol (fuel : Nat) (start : String) (k : Nat)
    (c' : PState) (ps : List Pair) (h : LG.parse g inp fuel start k = .done false c' ps)
    (hk : k ≤ inp.size) (hlf : OnlyLF inp.toList) (hrec : c'.fpos ≠ -1) :
    errorContext inp.toList c'.fpos =
      some (rstrip (specLineOf inp.toList c'.fpos.toNat), (specLineCol inp.toList c'.fpos.toNat).1,
        ((specLineCol inp.toList c'.fpos.toNat).2 : Int)) :=
  linecol_of_fpos inp (gen_fpos_in_range g inp fuel start k c' ps h hk) hlf hrec

/-! ### the names in the failure record are names of the grammar -/

/-- what `knownNames` contains: names of the rule table, and names of rule objects embedded
    in the trees of the table (the built-ins the front end puts there) -/
theorem mem_knownNames {n : String} :
    n ∈ knownNames g ↔ (∃ r ∈ g.rules, r.name = n) ∨ (∃ r ∈ g.rules, n ∈ embNames r.body) := by
  simp [knownNames, List.mem_flatMap]

theorem rule_bodies_namesIn (r : Rule) (h : r ∈ g.rules) : namesIn g r.body := rule_body_namesIn h

/-- **Every finished call keeps the names in range** (interpreter model): if the rule stack
    (its delta log included) and the failure record of `c` mention only known names, so does
    the state any call of a tree of the grammar ends in. -/
theorem names_known (n : Nat) (e : Expr) (c c' : PState) (m : Bool) (ps : List Pair)
    (hE : namesIn g e) (hk : Known g c) (h : L1.run g inp n e c = .done m c' ps) : Known g c' :=
  run_inv (knownKit g inp) n hE h hk

theorem parse_known (fuel : Nat) (start : String) (k : Nat) (m : Bool) (c' : PState)
    (ps : List Pair) (h : L1.parse g inp fuel start k = .done m c' ps) : Known g c' :=
  parse_inv (knownKit g inp) (known_init g k) h

/-- **C13, rule names**: when `Parser.parse` fails, every rule name listed as expected or
    unexpected, and every entry of the reported rule stack, is a rule of the grammar (or a
    built-in rule object embedded in it). -/
theorem failure_names_known (fuel : Nat) (start : String) (k : Nat) (c' : PState) (ps : List Pair)
    (h : L1.parse g inp fuel start k = .done false c' ps) :
    (∀ p ∈ c'.fexp ++ c'.funexp, p.1 ∈ knownNames g) ∧ (∀ n ∈ c'.fstack, n ∈ knownNames g) :=
  (parse_known g inp fuel start k false c' ps h).failure_names

/-- the same invariant for the generated-code model, proved directly on LG -/
theorem gen_names_known (n : Nat) (e : Expr) (c c' : PState) (m : Bool) (ps0 ps : List Pair)
    (hE : namesIn g e) (hk : Known g c) (h : LG.run g inp n e c ps0 = .done m c' ps) : Known g c' :=
  runG_inv (knownKit g inp) n hE h hk

theorem gen_parse_known (fuel : Nat) (start : String) (k : Nat) (m : Bool) (c' : PState)
    (ps : List Pair) (h : LG.parse g inp fuel start k = .done m c' ps) : Known g c' :=
  parseG_inv (knownKit g inp) (known_init g k) h

/-- **C13, rule names, generated module** -/
theorem gen_failure_names_known (fuel : Nat) (start : String) (k : Nat) (c' : PState)
    (ps : List Pair) (h : LG.parse g inp fuel start k = .done false c' ps) :
    (∀ p ∈ c'.fexp ++ c'.funexp, p.1 ∈ knownNames g) ∧ (∀ n ∈ c'.fstack, n ∈ knownNames g) :=
  (gen_parse_known g inp fuel start k false c' ps h).failure_names

/-! ### Non-vacuity: a concrete grammar and failing inputs meet the hypotheses -/

/-- `r = { "a" ~ s? ~ !t ~ ASCII_DIGIT }`, `s = { "x" | "y" }`, `t = { "z" }`, `u = { PEEK }`,
    `WHITESPACE = _{ " " | "\n" }`; `ASCII_DIGIT` is an embedded built-in rule object -/
def demoG : Grammar :=
  { rules := [⟨"r", 0, .seq [.str [97], .opt (.ident "s" none), .notP (.ident "t" none),
                 .rule "ASCII_DIGIT" 2 true (.range 48 57)], .grammar⟩,
              ⟨"s", 0, .choice [.str [120], .str [121]], .grammar⟩,
              ⟨"t", 0, .str [122], .grammar⟩,
              ⟨"u", 0, .peek, .grammar⟩,
              ⟨"WHITESPACE", SILENT, .choice [.str [32], .str [10]], .grammar⟩] }

example : knownNames demoG = ["r", "s", "t", "u", "WHITESPACE", "ASCII_DIGIT"] := by decide +kernel
example : ∀ r ∈ demoG.rules, namesIn demoG r.body := by decide +kernel
example : namesIn demoG (.ident "r" none) := by decide +kernel
example : Bounded #[97, 32, 121, 32, 113] 0 (PState.init 0) := bounded_init _ 0 (by decide)
example : Known demoG (PState.init 0) := known_init demoG 0
example : SkipTotal demoG := .of_noFused rfl

def known (n : String) : Bool := (knownNames demoG).contains n

/-- failed with furthest position `p`, with `ne` expected and `nu` unexpected keys, all known,
    a non-empty known rule stack, and a renderable context -/
def failsAt1 (inp : Input) : R1 → Int → Nat → Nat → Bool
  | .done false c _, p, ne, nu =>
    c.fpos == p && c.fexp.length == ne && c.funexp.length == nu &&
    (c.fexp ++ c.funexp).all (fun q => known q.1) && c.fstack.all known && !c.fstack.isEmpty &&
    (errorContext inp.toList c.fpos).isSome
  | _, _, _, _ => false
def failsAtG (inp : Input) : RG → Int → Nat → Nat → Bool
  | .done false c _, p, ne, nu =>
    c.fpos == p && c.fexp.length == ne && c.funexp.length == nu &&
    (c.fexp ++ c.funexp).all (fun q => known q.1) && c.fstack.all known && !c.fstack.isEmpty &&
    (errorContext inp.toList c.fpos).isSome
  | _, _, _, _ => false

-- "a y q": the digit is missing at 4 (interpreter: under ASCII_DIGIT; generated: under r)
example : failsAt1 #[97, 32, 121, 32, 113] (L1.parse demoG #[97, 32, 121, 32, 113] 30 "r" 0) 4 1 0 = true := by
  decide +kernel
example : failsAtG #[97, 32, 121, 32, 113] (LG.parse demoG #[97, 32, 121, 32, 113] 30 "r" 0) 4 1 0 = true := by
  decide +kernel
-- "a y z": the negative predicate `!t` records `t` as unexpected at 4
example : failsAt1 #[97, 32, 121, 32, 122] (L1.parse demoG #[97, 32, 121, 32, 122] 30 "r" 0) 4 0 1 = true := by
  decide +kernel
example : failsAtG #[97, 32, 121, 32, 122] (LG.parse demoG #[97, 32, 121, 32, 122] 30 "r" 0) 4 0 1 = true := by
  decide +kernel
-- start position 2 of "qqb": fails at 2 = start_pos
example : failsAt1 #[113, 113, 98] (L1.parse demoG #[113, 113, 98] 30 "r" 2) 2 1 0 = true := by decide +kernel
example : failsAtG #[113, 113, 98] (LG.parse demoG #[113, 113, 98] 30 "r" 2) 2 1 0 = true := by decide +kernel

def contextOf1 (inp : Input) : R1 → Option (Text × Nat × Int)
  | .done false c _ => if c.fpos ≠ -1 then errorContext inp.toList c.fpos else none
  | _ => none
def contextOfG (inp : Input) : RG → Option (Text × Nat × Int)
  | .done false c _ => if c.fpos ≠ -1 then errorContext inp.toList c.fpos else none
  | _ => none
-- "a y\nq": the failure at 4 is shown as line 2, column 1, source line "q"
example : OnlyLF (#[97, 32, 121, 10, 113] : Input).toList := by decide +kernel
example : contextOf1 #[97, 32, 121, 10, 113] (L1.parse demoG #[97, 32, 121, 10, 113] 30 "r" 0)
    = some ([113], 2, 1) := by decide +kernel
example : contextOfG #[97, 32, 121, 10, 113] (LG.parse demoG #[97, 32, 121, 10, 113] 30 "r" 0)
    = some ([113], 2, 1) := by decide +kernel

def sentinel1 : R1 → Bool
  | .done false c _ => c.fpos == -1 && c.fexp.isEmpty && c.funexp.isEmpty
  | _ => false
def sentinelG : RG → Bool
  | .done false c _ => c.fpos == -1 && c.fexp.isEmpty && c.funexp.isEmpty
  | _ => false
-- `PEEK` on an empty stack fails without calling `fail()`: furthest_pos stays -1
example : sentinel1 (L1.parse demoG #[97] 30 "u" 0) = true := by decide +kernel
example : sentinelG (LG.parse demoG #[97] 30 "u" 0) = true := by decide +kernel

end C13
end Pest
