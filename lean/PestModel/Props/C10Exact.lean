/-
  Props/C10Exact.lean — property C10, both halves, relative to the Lean definition of syntax:

    "A grammar text is accepted exactly when it is a syntactically valid pest v2 grammar, and the
     rules it builds have the structure the text denotes."   (`front_exact`)

  `load` = `Parser.from_grammar(text, optimizer=None)` (Front/Scan.lean + Front/Parse.lean); `SGrammar`,
  `den`: source-level AST and the rule table it denotes (Front/Ast.lean); `GrammarText' g t`: "`t` is a
  layout of `g`", `WF'`: the pieces are spellable (Front/AstText2.lean; its header lists the spellings
  `GrammarText'` adds to `GrammarText` of Front/AstTrivia.lean, texts that pest's meta-grammar allows and
  python-pest accepts).

  The reject half (`front_accepts_only_grammar_texts`: whatever `load` accepts is a grammar text of a
  well-formed grammar) is false with `WF` (Front/Ast.lean) in place of `WF'`: `WF` asks two things a text
  need not satisfy to be accepted (`wf_iff : g.WF ↔ g.WF' ∧ IG.Extra g`).
    * `|i| ≤ 4294967295` for the indices of `PEEK[a..b]`.  python-pest does not check slice indices:
      `a = { PEEK[99999999999..] }` is accepted (pest itself parses them as `i32` and refuses).  `WF'`
      keeps "at most 4300 significant digits" (`SliceIdxOK`), CPython's `int()` limit, beyond which
      python-pest answers "number too large".  Witness: `peekBig` (`peekBig_wf'`, `peekBig_not_wf`,
      `peekBig_accepted`).
    * No doc line ends with CR.  `"a = { b }\n///x\r"` (no final LF) is accepted and the doc line is
      `x\r` (no theorem states this instance).
  With `WF` the half holds under the side condition `IG.Extra g`
  (`front_accepts_only_grammar_texts_partial`).

  Two behaviours of /repo the statements depend on, each with the commit that made it so:
    * `fix:` 77be14c — the optional blank after `///` / `//!` belongs to the marker (`DocSp` in
      `DocsText` / `DocsText'`; the AST's doc line is pest's `inner_doc`): `doc_blank_dropped`;
    * `fix:` 6f76b47 — leading zeros do not count towards CPython's `int()` digit limit: `NumSpell` and
      `IntSpell` have no length clause (a repetition bound is limited by u32 in `WFPost`, a slice index
      by `SliceIdxOK` in `WF'`, both properties of the *value*): `zeros_accepted`.
-/
import PestModel.Lemmas.FrontCstGlue
import PestModel.Lemmas.FrontInvScan
import PestModel.Lemmas.FrontCstParse
import PestModel.Props.C10

namespace Pest
namespace C10
open Front

/-- **scanner, reject half.**  An accepted text is a layout of a concrete syntax tree with valid
    lexemes, and the emitted tokens are the tree's. -/
theorem scan_inversion {t : Text} {toks : List Token} (h : scan t = .ok toks) :
    ∃ c : CGrammar, c.Valid ∧ PRT.tokKV toks = c.kv ∧ CGrammarText c t :=
  IS.scan_inv h

/-- **scanner, accept half, all spellings.** -/
theorem scan_accept (g : SGrammar) (h : g.WF') {t : Text} (ht : GrammarText' g t) :
    ∃ toks, scan t = .ok toks ∧ Act g.kv (PRT.tokKV toks) :=
  Front.scan_accept_text' g h ht

/-- **parser.**  On the tokens of a concrete syntax tree the grammar parser succeeds exactly when
    the tree has an abstraction, and returns what the abstraction denotes. -/
theorem parse_ctree (b : List String) (c : CGrammar) (eof : Token) (heof : eof.kind = .eoi)
    (ts : List Token) (hts : PRT.tokKV ts = c.kv) :
    IP.okPart (parseTokens b eof ts) = (c.abs).map (fun g => (g.den b, [])) :=
  IP.parseTokens_ctree b c eof heof ts hts

/-- **C10, reject + structure.**  Whatever text the front end accepts is a layout of a
    well-formed source-level grammar, and the rule table built is the one that grammar denotes. -/
theorem front_accepts_only_grammar_texts (b : List String) (t : Text) (r : Loaded)
    (h : load b t = .ok r) : ∃ g : SGrammar, g.WF' ∧ GrammarText' g t ∧ r = g.den b := by
  obtain ⟨toks, rest, hs, hp⟩ := PRT.load_ok_inv h
  obtain ⟨c, hv, hkv, htext⟩ := scan_inversion hs
  obtain ⟨g, hg, hr, _⟩ := IP.parse_ok_abs hkv rfl hp
  obtain ⟨hwf, hgt⟩ := IG.ctree_grammar hg hv htext
  exact ⟨g, hwf, hgt, hr⟩

/-- **C10, accept + structure, every spelling.**  Every layout of a well-formed grammar loads to
    what the grammar denotes. -/
theorem front_roundtrip_text' (b : List String) (g : SGrammar) (h : g.WF') {t : Text}
    (ht : GrammarText' g t) : load b t = .ok (g.den b) := by
  obtain ⟨c, hc, hv, hsep, htext⟩ := IG.ctree_of_text' h ht
  obtain ⟨toks, hs, hkv⟩ := Front.scan_accept_c c hv hsep htext
  exact PRT.load_ok hs (IP.parse_of_abs hkv rfl hc)

theorem grammarText'_of_grammarText {g : SGrammar} (h : g.WF) {t : Text} (ht : GrammarText g t) :
    GrammarText' g t := IG.grammarText'_of_grammarText h ht

theorem wf'_of_wf {g : SGrammar} (h : g.WF) : g.WF' := IG.wf'_of_wf h

/-- what `WF` asks beyond `WF'`: `Extra g` = the indices of every `PEEK[a..b]` are within
    ±(2³²−1) and no doc line ends with CR -/
theorem wf_iff (g : SGrammar) : g.WF ↔ g.WF' ∧ IG.Extra g := IG.wf_iff g

/-- `front_roundtrip_text` of Props/C10.lean is an instance of `front_roundtrip_text'` -/
example (b : List String) (g : SGrammar) (h : g.WF) {t : Text} (ht : GrammarText g t) :
    load b t = .ok (g.den b) :=
  front_roundtrip_text' b g (wf'_of_wf h) (grammarText'_of_grammarText h ht)

/-- **C10.**  A text is accepted exactly when it is a layout of a well-formed source-level
    grammar, and then the rule table built is the one the grammar denotes. -/
theorem front_exact (b : List String) (t : Text) (r : Loaded) :
    load b t = .ok r ↔ ∃ g : SGrammar, g.WF' ∧ GrammarText' g t ∧ r = g.den b := by
  constructor
  · exact front_accepts_only_grammar_texts b t r
  · rintro ⟨g, hwf, hgt, rfl⟩
    exact front_roundtrip_text' b g hwf hgt

theorem front_accepts_iff (b : List String) (t : Text) :
    (∃ r, load b t = .ok r) ↔ ∃ g : SGrammar, g.WF' ∧ GrammarText' g t := by
  simp only [front_exact]
  exact ⟨fun ⟨_, g, h1, h2, _⟩ => ⟨g, h1, h2⟩, fun ⟨g, h1, h2⟩ => ⟨_, g, h1, h2, rfl⟩⟩

/-- all grammars a text is a layout of denote the same rule table (the syntax is unambiguous up
    to `den`) -/
theorem den_unique (b : List String) {g g' : SGrammar} {t : Text} (h : g.WF') (h' : g'.WF')
    (ht : GrammarText' g t) (ht' : GrammarText' g' t) : g.den b = g'.den b := by
  have e := front_roundtrip_text' b g h ht
  rw [front_roundtrip_text' b g' h' ht'] at e
  exact (LoadResult.ok.inj e).symm

/-- the statement with `WF` under the side condition that separates it from `WF'` -/
theorem front_accepts_only_grammar_texts_partial (b : List String) (t : Text) (r : Loaded)
    (h : load b t = .ok r) :
    ∃ g : SGrammar, GrammarText' g t ∧ r = g.den b ∧ g.WF' ∧ (IG.Extra g → g.WF) := by
  obtain ⟨g, h1, h2, h3⟩ := front_accepts_only_grammar_texts b t r h
  exact ⟨g, h2, h3, h1, fun hx => (wf_iff g).2 ⟨h1, hx⟩⟩

/-- the hypothesis of the reject half is met by a text that uses the spellings `GrammarText` leaves out:
    `a={"\n"{007}~^ "x"~'\x41'..'b'}//c` without a final line break is accepted … -/
example (b : List String) :
    load b IA.Sample.text = .ok (IA.Sample.grammar.den b) :=
  front_roundtrip_text' b _ IA.Sample.grammar_wf IA.Sample.text_layout

/-- … hence is a grammar text of some well-formed grammar denoting the result -/
example (b : List String) :
    ∃ g : SGrammar, g.WF' ∧ GrammarText' g IA.Sample.text ∧ IA.Sample.grammar.den b = g.den b :=
  front_accepts_only_grammar_texts b _ _ (front_roundtrip_text' b _ IA.Sample.grammar_wf IA.Sample.text_layout)

/-- the sample of Lemmas/FrontScanAst.lean (every construct, canonical text) through the reject half -/
example (b : List String) :
    ∃ g : SGrammar, g.WF' ∧ GrammarText' g RT.Sample.grammar.pretty ∧ RT.Sample.grammar.den b = g.den b :=
  front_accepts_only_grammar_texts b _ _ (front_roundtrip b _ RT.Sample.grammar_wf)

/-- what a grammar of one rule `name = { node post… }` denotes: the shape of the instances below -/
theorem den_one_rule (b : List String) (gd rd : List Text) (name : Text) (n : SNode) (posts : List Post) :
    (⟨gd, [⟨rd, name, none, false, .one (.mk none [] n posts)⟩], []⟩ : SGrammar).den b =
      ⟨[⟨nameOf name, 0, posts.foldl applyPost (n.den b none), rd⟩], gd⟩ := by
  simp only [SGrammar.den, SRule.den, SExpr.den, SExpr.groups, STerm.den, mkSeq, mkChoice,
    dictSet, List.foldl_cons, List.foldl_nil, List.any_nil, List.nil_append, List.map_cons, List.map_nil,
    Option.map_none, Option.getD_none, List.isEmpty_nil, List.foldr_nil, Bool.false_eq_true, ↓reduceIte]

/-! ### the witness against `WF`: `a={PEEK[4294967296..]}` -/

def peekBig : SGrammar :=
  ⟨[], [⟨[], [97], none, false, .one (.mk none [] (.slice (some 4294967296) none) [])⟩], []⟩

/-- `a={PEEK[4294967296..]}` -/
def peekBigText : Text :=
  [97, 61, 123, 80, 69, 69, 75, 91, 52, 50, 57, 52, 57, 54, 55, 50, 57, 54, 46, 46, 93, 125]

theorem isIdent_a : IsIdent [97] := by unfold IsIdent; decide

theorem peekBig_wf' : peekBig.WF' := by
  have hlen : (natDigits 4294967296).length ≤ 4300 := by
    have := PRT.natDigits_length_le (n := 4294967296) (k := 10) (by decide) (by decide)
    omega
  simp [peekBig, SGrammar.WF', SRule.WF', SExpr.WF', STerm.WF', SNode.WF', SliceIdxOK, isIdent_a, hlen]

theorem peekBig_not_wf : ¬ peekBig.WF := by
  simp [peekBig, SGrammar.WF, SRule.WF, SExpr.WF, STerm.WF, SNode.WF]

theorem peekBig_layout : GrammarText' peekBig peekBigText := by
  refine ⟨[], peekBigText, peekBigText, [], [], .nil, rfl, rfl, ?_, rfl, .inl rfl⟩
  refine ⟨peekBigText, [], rfl, ?_, rfl⟩
  have hk : (⟨[], [97], none, false, .one (.mk none [] (.slice (some 4294967296) none) [])⟩ : SRule).headKV =
      [(.identifier, [97]), (.assignOp, [61]), (.lbrace, [123]), (.peek, sPEEK), (.lbracket, [91]),
       (.integer, intDigits 4294967296), (.rangeOp, [46, 46]), (.rbracket, [93]), (.rbrace, [125])] := rfl
  rw [hk]
  refine sc'_spellings [] [(_, [97]), (_, [61]), (_, [123]), (_, [80, 69, 69, 75]), (_, [91]),
    (_, [52, 50, 57, 52, 57, 54, 55, 50, 57, 54]), (_, [46, 46]), (_, [93]), (_, [125])] ?_
  simp only [List.forall_mem_cons]
  exact ⟨rfl, rfl, rfl, rfl, rfl,
    ⟨4294967296, rfl, .nonneg (n := 4294967296) ⟨by decide, by decide, by decide⟩⟩, rfl, rfl, rfl,
    fun _ h => nomatch h⟩

/-- the model (like the implementation) accepts the text and builds a slice with the index
    4294967296, which `WF` excludes -/
theorem peekBig_accepted (b : List String) :
    load b peekBigText =
      .ok ⟨[⟨nameOf [97], 0, .peekSlice (some 4294967296) none, []⟩], []⟩ := by
  rw [front_roundtrip_text' b peekBig peekBig_wf' peekBig_layout, peekBig, den_one_rule, SNode.den]
  rfl

/-- `"x"` -/
def strX : SExpr := .one (.mk none [] (.str [120]) [])

/-- `/// doc` + LF + `a={"x"}` -/
def docText : Text := [47, 47, 47, 32, 100, 111, 99, 10, 97, 61, 123, 34, 120, 34, 125]

def docGrammar : SGrammar := ⟨[], [⟨[[100, 111, 99]], [97], none, false, strX⟩], []⟩

theorem docGrammar_wf' : docGrammar.WF' := by
  simp [docGrammar, strX, SGrammar.WF', SRule.WF', SExpr.WF', STerm.WF', SNode.WF', isIdent_a, NoLF]

theorem strX_headKV (docs : List Text) : (⟨docs, [97], none, false, strX⟩ : SRule).headKV =
    [(.identifier, [97]), (.assignOp, [61]), (.lbrace, [123]), (.string, [120]), (.rbrace, [125])] := rfl

theorem docText_layout : GrammarText' docGrammar docText := by
  refine ⟨[], docText, docText, [], [], .nil, rfl, rfl, ?_, rfl, .inl rfl⟩
  refine ⟨[97, 61, 123, 34, 120, 34, 125], [], ?_, ?_, rfl⟩
  · exact ⟨[32], [10], _, .inl rfl, .lf .nil, rfl, .inr (.inl ⟨_, rfl, by decide⟩), rfl⟩
  · rw [strX_headKV]
    refine sc'_spellings [] [(_, [97]), (_, [61]), (_, [123]), (_, [34, 120, 34]), (_, [125])] ?_
    simp only [List.forall_mem_cons]
    exact ⟨rfl, rfl, rfl, ⟨[120], rfl, .char 120 (by decide) (by decide) .nil⟩, rfl, fun _ h => nomatch h⟩

/-- **doc-comment-keeps-leading-blank, repaired** (`fix:` 77be14c): the doc line of
    `/// doc` is `doc`, not ` doc` -/
theorem doc_blank_dropped (b : List String) :
    load b docText = .ok ⟨[⟨nameOf [97], 0, .str [120], [[100, 111, 99]]⟩], []⟩ := by
  rw [front_roundtrip_text' b docGrammar docGrammar_wf' docText_layout, docGrammar, strX, den_one_rule, SNode.den]
  rfl

/-- the printer writes the separating blank, so print → load is the identity also for a doc line
    that itself starts with a blank (an instance of `front_roundtrip` of Props/C10.lean) -/
example (b : List String) :
    load b (⟨[], [⟨[[32, 100]], [97], none, false, strX⟩], []⟩ : SGrammar).pretty =
      .ok ⟨[⟨nameOf [97], 0, .str [120], [[32, 100]]⟩], []⟩ := by
  rw [front_roundtrip b _ (by
    simp [strX, SGrammar.WF, SRule.WF, SExpr.WF, STerm.WF, SNode.WF, isIdent_a, IsDocLine]
    decide), strX, den_one_rule, SNode.den]
  rfl

/-- `a={"x"{0…01}}` with `k` zeros -/
def zerosText (k : Nat) : Text :=
  [97] ++ ([61] ++ ([123] ++ ([34, 120, 34] ++ ([123] ++ ((List.replicate k 48 ++ [49]) ++ ([125] ++ [125]))))))

def zerosGrammar : SGrammar :=
  ⟨[], [⟨[], [97], none, false, .one (.mk none [] (.str [120]) [.exact 1])⟩], []⟩

theorem zerosGrammar_wf' : zerosGrammar.WF' := by
  simp [zerosGrammar, SGrammar.WF', SRule.WF', SExpr.WF', STerm.WF', SNode.WF', isIdent_a, WFPost]

theorem numSpell_zeros {n : Nat} {w : Text} (h : NumSpell n w) : ∀ (k : Nat), NumSpell n (List.replicate k 48 ++ w)
  | 0 => h
  | k + 1 => by
    obtain ⟨-, hdig, hval⟩ := numSpell_zeros h k
    rw [List.replicate_succ, List.cons_append]
    exact ⟨List.cons_ne_nil _ _, by rw [List.all_cons, hdig]; rfl, by rw [digitsVal_cons_zero]; exact hval⟩

theorem zerosText_layout (k : Nat) : GrammarText' zerosGrammar (zerosText k) := by
  refine ⟨[], zerosText k, zerosText k, [], [], .nil, rfl, rfl, ?_, rfl, .inl rfl⟩
  refine ⟨zerosText k, [], rfl, ?_, rfl⟩
  have hk : (⟨[], [97], none, false, .one (.mk none [] (.str [120]) [.exact 1])⟩ : SRule).headKV =
      [(.identifier, [97]), (.assignOp, [61]), (.lbrace, [123]), (.string, [120]), (.lbrace, [123]),
       (.number, natDigits 1), (.rbrace, [125]), (.rbrace, [125])] := rfl
  rw [hk]
  have := sc'_spellings [] [((.identifier, [97]), [97]), ((.assignOp, [61]), [61]), ((.lbrace, [123]), [123]),
    ((.string, [120]), [34, 120, 34]), ((.lbrace, [123]), [123]),
    ((.number, natDigits 1), List.replicate k 48 ++ [49]), ((.rbrace, [125]), [125]), ((.rbrace, [125]), [125])] (by
      simp only [List.forall_mem_cons]
      exact ⟨rfl, rfl, rfl, ⟨[120], rfl, .char 120 (by decide) (by decide) .nil⟩, rfl,
        ⟨1, rfl, numSpell_zeros (IG.numSpell_natDigits 1) k⟩, rfl, rfl, fun _ h => nomatch h⟩)
  simpa [zerosText] using this

/-- **int-digit-limit, repaired** (`fix:` 6f76b47): a bound written with any number of leading
    zeros — 4400 of them, say — is its value -/
theorem zeros_accepted (b : List String) (k : Nat) :
    load b (zerosText k) = .ok ⟨[⟨nameOf [97], 0, .repExact (.str [120]) 1, []⟩], []⟩ := by
  rw [front_roundtrip_text' b zerosGrammar zerosGrammar_wf' (zerosText_layout k), zerosGrammar, den_one_rule, SNode.den]
  rfl

example (b : List String) :
    load b (zerosText 4400) = .ok ⟨[⟨nameOf [97], 0, .repExact (.str [120]) 1, []⟩], []⟩ :=
  zeros_accepted b 4400

end C10
end Pest
