/-
  Props/C01.lean — property C01: "Generated parser module is observationally identical to the
  interpreter".

  LG (`Gen.lean`) is a reading of every `generate()` template and of `generate_rule` /
  `generate_parse_trivia` / the generated `parse()`; L1 (`Interp.lean`) mirrors the
  interpreter.  Both are tied to the code by the correspondence run.  Proved here (the `…_all`
  forms; the theorems under the property's names keep a hypothesis `SkipTotal g` they do not use): for every
  grammar (optimised or not: the optimizer-made nodes are node kinds too), expression, input,
  start position, pair of related states and amount of fuel, the two models give the same
  verdict, related end states (same position, user stack, atomic depth, tag stack, furthest
  failure position, …) and — on success — exactly the same pairs, tags included.

  Not covered by a theorem (checked on every generated module by the check itself): that the
  emitted text compiles and imports, and that generating twice yields identical source.
  `exc other` / `exc nameError` on the LG side mark tree shapes outside the model: a rule
  object embedded in a tree that is not a silent, non-atomic built-in; a reference by name
  to a rule without a generated function (a built-in other than EOI, an undefined name).  The
  front end builds neither.

  Props/Tables.lean is imported although nothing below uses it: its obligations (`expression_classes_covered`,
  `special_builtins_match`, the modifier and pass tables) are audited with this property and with C02/C04,
  through this module.
-/
import PestModel.Props.Tables
import PestModel.Lemmas.Refine
import PestModel.Lemmas.GenEq

namespace Pest

/-! The comparison with the interpreter (`rule_gen`, `step_gen`, `run_gen`, Lemmas/GenEq.lean) rests
    on the interpreter's frames alone, which it keeps for every grammar: GenEq does not import
    the refinement to L0.  The theorems below that assume `SkipTotal g`, the hypothesis of that
    refinement, do not use it: each is an instance of an `…_all` form, which holds of all grammars. -/

namespace C01

variable (g : Grammar) (inp : Input)

theorem gen_equiv_interp_all (n : Nat) (e : Expr) (cg c1 : PState) (ps0 : List Pair)
    (s : SRel cg c1) (pg : PreG cg) (p1 : Pre c1) :
    GenRel cg ps0 (LG.run g inp n e cg ps0) (L1.run g inp n e c1) :=
  (run_gen g inp n).rel e cg c1 ps0 s pg p1

/-- **LG ≈ L1, every expression, every pair of related states, equal fuel.** -/
theorem gen_equiv_interp (hs : SkipTotal g) (n : Nat) (e : Expr) (cg c1 : PState) (ps0 : List Pair)
    (s : SRel cg c1) (pg : PreG cg) (p1 : Pre c1) :
    GenRel cg ps0 (LG.run g inp n e cg ps0) (L1.run g inp n e c1) :=
  gen_equiv_interp_all g inp n e cg c1 ps0 s pg p1

theorem trivia_gen_eq_all (n k : Nat) (cg c1 : PState) (ps0 : List Pair)
    (s : SRel cg c1) (pg : PreG cg) (p1 : Pre c1) :
    GenRelT cg ps0 (LG.parseTriviaG g (LG.run g inp n) k cg ps0) (L1.parseTrivia g (L1.run g inp n) k c1) :=
  parseTrivia_gen g (run_gen g inp n) (frameBal_run g inp n) k cg c1 ps0 s pg p1

/-- the generated `parse_trivia` and `ParserState.parse_trivia` do the same -/
theorem trivia_gen_eq (hs : SkipTotal g) (n k : Nat) (cg c1 : PState) (ps0 : List Pair)
    (s : SRel cg c1) (pg : PreG cg) (p1 : Pre c1) :
    GenRelT cg ps0 (LG.parseTriviaG g (LG.run g inp n) k cg ps0) (L1.parseTrivia g (L1.run g inp n) k c1) :=
  trivia_gen_eq_all g inp n k cg c1 ps0 s pg p1

theorem srel_refl_init (k : Nat) : SRel (PState.init k) (PState.init k) :=
  ⟨rfl, rfl, rfl, DStack.inv_empty, rfl, rfl, ⟨rfl, rfl⟩, rfl, rfl, rfl⟩

theorem parse_gen (fuel : Nat) (start : String) (k : Nat) :
    match LG.parse g inp fuel start k with
    | .oof => L1.parse g inp fuel start k = .oof
    | .exc e => benign e = true ∨ e = .keyError
    | .done m cg ps => ∃ c1 ps1, L1.parse g inp fuel start k = .done m c1 ps1 ∧ SRel cg c1 ∧
        (m = true → ps = ps1) := by
  unfold LG.parse L1.parse
  cases g.lookup start with
  | none => exact Or.inr rfl
  | some r =>
    dsimp only []
    by_cases hb : (r.kind == RuleKind.builtin && r.name != "EOI") = true
    · rw [if_pos hb]; exact Or.inr rfl
    · rw [if_neg hb]
      exact (rule_gen (run_gen g inp fuel) (frameBal_run g inp fuel) r.name r.mod r.body
        (.init k) (.init k) [] (srel_refl_init k) DStack.inv_empty (preW_init k)).elim rfl
        (fun _ _ hb => Or.inl hb) fun m cg ps c1 ps1 _ _ sr _ hp => ⟨c1, ps1, rfl, sr, hp⟩

/-- **The generated module's `parse()` vs `Parser.parse()`**, for every start rule that has a
    generated function (grammar rules and EOI), every input, start position and fuel: both run
    out of fuel, or both return *exactly* the same pairs (names, spans, nesting, tags), or both
    fail with the same furthest-failure position. -/
theorem generated_parse_eq_all (fuel : Nat) (start : String) (k : Nat) :
    match LG.parse g inp fuel start k with
    | .oof => L1.parse g inp fuel start k = .oof
    | .exc e => benign e = true ∨ e = .keyError
    | .done true cg ps => ∃ c1, L1.parse g inp fuel start k = .done true c1 ps ∧ cg.pos = c1.pos
    | .done false cg _ => ∃ c1 ps1, L1.parse g inp fuel start k = .done false c1 ps1 ∧ cg.fpos = c1.fpos := by
  have h := parse_gen g inp fuel start k
  revert h
  cases LG.parse g inp fuel start k with
  | oof => exact id
  | exc _ => exact id
  | done m cg ps =>
    intro ⟨c1, ps1, e, sr, hp⟩
    cases m with
    | true => exact ⟨c1, hp rfl ▸ e, sr.pos⟩
    | false => exact ⟨c1, ps1, e, sr.fp⟩

theorem generated_parse_eq (hs : SkipTotal g) (fuel : Nat) (start : String) (k : Nat) :
    match LG.parse g inp fuel start k with
    | .oof => L1.parse g inp fuel start k = .oof
    | .exc e => benign e = true ∨ e = .keyError
    | .done true cg ps => ∃ c1, L1.parse g inp fuel start k = .done true c1 ps ∧ cg.pos = c1.pos
    | .done false cg _ => ∃ c1 ps1, L1.parse g inp fuel start k = .done false c1 ps1 ∧ cg.fpos = c1.fpos :=
  generated_parse_eq_all g inp fuel start k

/-- in particular the generated side never raises `IndexError` / `UnboundLocalError` /
    `AssertionError`: its only non-benign exception is the `KeyError` of an unknown start rule -/
theorem gen_no_exc (hs : SkipTotal g) (fuel : Nat) (start : String) (k : Nat) (e : PyExc)
    (h : LG.parse g inp fuel start k = .exc e) : benign e = true ∨ e = .keyError := by
  have := generated_parse_eq_all g inp fuel start k
  rw [h] at this
  exact this

def demoG : Grammar :=
  { rules := [⟨"r", 0, .seq [.str [97], .opt (.ident "s" (some "tt")), .rep (.rule "ASCII_DIGIT" 2 true (.range 48 57))], .grammar⟩,
              ⟨"s", 0, .choice [.str [120], .str [121]], .grammar⟩,
              ⟨"WHITESPACE", SILENT, .str [32], .grammar⟩] }

def sameOk : RG → R1 → Bool
  | .done true cg ps, .done true c1 ps1 => cg.pos == c1.pos && ps.length == ps1.length && cg.pos == 6
  | _, _ => false

example : sameOk (LG.parse demoG #[97, 32, 121, 32, 49, 50] 30 "r" 0)
    (L1.parse demoG #[97, 32, 121, 32, 49, 50] 30 "r" 0) = true := by decide +kernel

end C01
end Pest
