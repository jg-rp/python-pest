/-
  Props/C15.lean — property C15:
  "Parsers are isolated, reusable and re-entrant".

  Model: `World.lean` (the process: shared built-in table, callers' rule mappings, parser
  objects, generated modules, lazy per-node caches).  Three granularities:

  * Histories of operations of the *current* tree (`WorldOp.Fixed`: new mappings, new parsers
    with any optimizer setting, `generate`, `parse`, `parseGen`, in any order, any number):
    every operation only appends objects and fills caches (`Ext`), and every object is what its
    constructor makes of the shared table at process start and of its mapping (`Inv`); hence the
    result of a call on any parser or generated module equals the result of the same call in a
    process that has done nothing but build that one parser (`history_independence`,
    `module_history_independence`).
  * Whole calls: a call writes nothing but cache flags (`step_call`: a call is `fillAll` over its
    `callSlots`) and no result reads the flags, so calls do not affect each other's result and
    commute as state transformers (`run_induction` for facts about a run of calls).
  * `interleaving_irrelevant` is the generic lemma for a finer granularity: threads with
    disjoint private states whose only shared writes are fills of caches whose content is a
    function of the slot; a step is one atomic access (read of the shared state, private
    update, at most one fill).  The instantiation "a step of `parse()` is such a step" is an
    assumption about CPython and the code (GIL-atomic slot loads/stores; checked on the
    implementation by the write-set monitor and the thread runs of the harness), not a theorem.

  `old_optimizer_breaks_isolation`: with the optimizer of the pinned commit (`newParserOld`)
  history independence fails on a four-step history — the statements above are not vacuous.
-/
import PestModel.World

namespace Pest
namespace C15
open World

structure Ext (w w' : World) : Prop where
  builtins : w'.builtins = w.builtins
  usets : w'.usets = w.usets
  mappings : w.mappings <+: w'.mappings
  parsers : w.parsers <+: w'.parsers
  modules : w.modules <+: w'.modules

theorem Ext.refl (w : World) : Ext w w :=
  ⟨rfl, rfl, List.prefix_refl _, List.prefix_refl _, List.prefix_refl _⟩

theorem Ext.trans {w₁ w₂ w₃ : World} (h : Ext w₁ w₂) (h' : Ext w₂ w₃) : Ext w₁ w₃ :=
  ⟨h'.builtins.trans h.builtins, h'.usets.trans h.usets, h.mappings.trans h'.mappings,
    h.parsers.trans h'.parsers, h.modules.trans h'.modules⟩

/-- **Creating a parser writes nothing but the new object**: whatever the optimizer setting,
    `Parser(...)` leaves the shared table, the caller's mapping, every existing parser and
    module and the caches exactly as they were. -/
theorem newParser_frame (w : World) (m : Nat) (passes : Option (List Opt.Pass)) :
    ∃ extra, step w (.newParser m passes) = { w with parsers := w.parsers ++ extra } := by
  dsimp only [step]; split
  · exact ⟨[], by simp⟩
  · split
    · exact ⟨[], by simp⟩
    · exact ⟨_, rfl⟩

/-- `generate()` adds the module and fills caches (it unrolls the bounded repetitions), nothing else -/
theorem generate_frame (w : World) (p : Nat) :
    ∃ extra f, step w (.generate p) = { w with modules := w.modules ++ extra, filled := f } := by
  dsimp only [step]; split
  · exact ⟨[], w.filled, by simp⟩
  · exact ⟨_, _, rfl⟩

theorem fillAll_nil (f : Slot → Bool) : fillAll f [] = f :=
  funext fun s => Bool.or_false (f s)

theorem fillAll_comm (f : Slot → Bool) (s t : List Slot) :
    fillAll (fillAll f s) t = fillAll (fillAll f t) s := by
  funext x; simp only [fillAll]; rw [Bool.or_assoc, Bool.or_assoc, Bool.or_comm (s.contains x)]

theorem fillAll_idem (f : Slot → Bool) (s : List Slot) : fillAll (fillAll f s) s = fillAll f s := by
  funext x; simp only [fillAll]; rw [Bool.or_assoc, Bool.or_self]

def callSlots (w : World) : WorldOp → List Slot
  | .parse p _ => match w.parsers[p]? with
    | some P => w.touched p P
    | none => []
  | _ => []

theorem step_call (w : World) (op : WorldOp) (hc : op.IsCall) :
    step w op = { w with filled := fillAll w.filled (callSlots w op) } := by
  cases op with
  | parse p a =>
    cases hp : w.parsers[p]? <;> simp only [step, callSlots, hp, fillAll_nil]
  | parseGen m a => simp only [step, callSlots, fillAll_nil]
  | newMapping _ => exact hc.elim
  | newParser _ _ => exact hc.elim
  | newParserOld _ _ => exact hc.elim
  | generate _ => exact hc.elim

/-- every operation of the current tree only appends objects and fills caches -/
theorem step_ext (w : World) (op : WorldOp) (hf : op.Fixed) : Ext w (step w op) := by
  cases op with
  | newMapping src => exact ⟨rfl, rfl, List.prefix_append _ _, List.prefix_refl _, List.prefix_refl _⟩
  | newParser m passes =>
    obtain ⟨extra, h⟩ := newParser_frame w m passes
    rw [h]
    exact ⟨rfl, rfl, List.prefix_refl _, List.prefix_append _ _, List.prefix_refl _⟩
  | newParserOld m passes => exact hf.elim
  | generate p =>
    obtain ⟨extra, f, h⟩ := generate_frame w p
    rw [h]
    exact ⟨rfl, rfl, List.prefix_refl _, List.prefix_refl _, List.prefix_append _ _⟩
  | parse p a =>
    rw [step_call w (.parse p a) trivial]
    exact ⟨rfl, rfl, List.prefix_refl _, List.prefix_refl _, List.prefix_refl _⟩
  | parseGen m a => exact Ext.refl w

theorem prefix_getElem? {α} {l l' : List α} (hp : l <+: l') {i : Nat} {x : α}
    (h : l[i]? = some x) : l'[i]? = some x := by
  obtain ⟨extra, rfl⟩ := hp
  obtain ⟨hi, _⟩ := List.getElem?_eq_some_iff.1 h
  rw [List.getElem?_append_left hi, h]

/-- a history of operations of the current tree -/
def FixedH (h : List WorldOp) : Prop := ∀ op ∈ h, op.Fixed

theorem run_cons (w : World) (op : WorldOp) (h : List WorldOp) :
    run w (op :: h) = run (step w op) h := rfl

theorem run_induction {Q : WorldOp → Prop} {P : World → Prop}
    (hstep : ∀ w op, Q op → P w → P (step w op)) :
    ∀ (h : List WorldOp), (∀ op ∈ h, Q op) → ∀ w, P w → P (run w h)
  | [], _, _, hw => hw
  | op :: h, hq, w, hw =>
    run_induction hstep h (fun o ho => hq o (List.mem_cons_of_mem _ ho)) _
      (hstep w op (hq op List.mem_cons_self) hw)

theorem run_ext (w0 : World) (h : List WorldOp) (hf : FixedH h) : Ext w0 (run w0 h) :=
  run_induction (fun w op ho hw => hw.trans (step_ext w op ho)) h hf w0 (Ext.refl w0)

/-- **The shared built-in table is never written.**  After any history of operations of
    the current tree — parsers created with any optimizer setting, modules generated, calls
    made — `Parser.BUILTIN` holds what it held when the process started. -/
theorem shared_table_invariant (w0 : World) (h : List WorldOp) (hf : FixedH h) :
    (run w0 h).builtins = w0.builtins :=
  (run_ext w0 h hf).builtins

theorem shared_table_invariant_init (bt : List Rule) (us) (h : List WorldOp) (hf : FixedH h) :
    (run (init bt us) h).builtins = (init bt us).builtins :=
  shared_table_invariant _ h hf

theorem usets_invariant (w0 : World) (h : List WorldOp) (hf : FixedH h) :
    (run w0 h).usets = w0.usets :=
  (run_ext w0 h hf).usets

/-- **A caller's rule objects are never written**: the mapping a parser was built from holds
    the same rules after any history (so a second parser built from it — optimized or not —
    starts from what the front end produced, and an earlier one is not disturbed). -/
theorem mappings_invariant (w0 : World) (h : List WorldOp) (hf : FixedH h) (m : Nat) (src : List Rule)
    (hm : w0.mappings[m]? = some src) : (run w0 h).mappings[m]? = some src :=
  prefix_getElem? (run_ext w0 h hf).mappings hm

/-- a parser object, once created, is never modified by later operations -/
theorem parsers_frame (w0 : World) (h : List WorldOp) (hf : FixedH h) (p : Nat) (P : ParserObj)
    (hp : w0.parsers[p]? = some P) : (run w0 h).parsers[p]? = some P :=
  prefix_getElem? (run_ext w0 h hf).parsers hp

/-- a generated module, once created, is never modified by later operations -/
theorem modules_frame (w0 : World) (h : List WorldOp) (hf : FixedH h) (i : Nat) (M : ModuleObj)
    (hi : w0.modules[i]? = some M) : (run w0 h).modules[i]? = some M :=
  prefix_getElem? (run_ext w0 h hf).modules hi

/-- every object in the world is what its constructor makes of (shared table at process
    start, content of its mapping, optimizer setting) — nothing else went into it -/
structure Inv (bt : List Rule) (us : List (String × List (Nat × Nat))) (w : World) : Prop where
  hbt : w.builtins = bt
  hus : w.usets = us
  hparsers : ∀ (p : Nat) (P : ParserObj), w.parsers[p]? = some P →
    ∃ src, w.mappings[P.mapping]? = some src ∧ mkTable bt us src P.passes = some P.table
  hmodules : ∀ (i : Nat) (M : ModuleObj), w.modules[i]? = some M →
    ∃ src t, w.mappings[M.mapping]? = some src ∧ mkTable bt us src M.passes = some t ∧
      M.rules = viewIn bt src t

theorem inv_init (bt : List Rule) (us) : Inv bt us (init bt us) :=
  ⟨rfl, rfl, by intro p P h; simp [init] at h, by intro i M h; simp [init] at h⟩

theorem getElem?_append_singleton_cases {α} {l : List α} {x y : α} {i : Nat}
    (h : (l ++ [x])[i]? = some y) : l[i]? = some y ∨ (i = l.length ∧ y = x) := by
  rcases Nat.lt_trichotomy i l.length with hlt | rfl | hgt
  · rw [List.getElem?_append_left hlt] at h; exact .inl h
  · rw [List.getElem?_concat_length] at h; exact .inr ⟨rfl, (Option.some.inj h).symm⟩
  · rw [List.getElem?_eq_none (by rw [List.length_append]; exact hgt)] at h; cases h

theorem inv_step (bt : List Rule) (us) (w : World) (op : WorldOp) (hf : op.Fixed)
    (hi : Inv bt us w) : Inv bt us (step w op) := by
  obtain ⟨hbt, hus, hps, hms⟩ := hi
  cases op with
  | newMapping src =>
    refine ⟨hbt, hus, ?_, ?_⟩
    · intro p P h
      obtain ⟨s, h1, h2⟩ := hps p P h
      exact ⟨s, prefix_getElem? (List.prefix_append _ _) h1, h2⟩
    · intro i M h
      obtain ⟨s, t, h1, h2, h3⟩ := hms i M h
      exact ⟨s, t, prefix_getElem? (List.prefix_append _ _) h1, h2, h3⟩
  | newParser m passes =>
    dsimp only [step]
    split
    · exact ⟨hbt, hus, hps, hms⟩
    · rename_i src hsrc
      split
      · exact ⟨hbt, hus, hps, hms⟩
      · rename_i t ht
        refine ⟨hbt, hus, ?_, hms⟩
        intro p P h
        rcases getElem?_append_singleton_cases h with h' | ⟨_, rfl⟩
        · exact hps p P h'
        · exact ⟨src, hsrc, by rw [← hbt, ← hus]; exact ht⟩
  | newParserOld m passes => exact hf.elim
  | generate p =>
    dsimp only [step]
    split
    · exact ⟨hbt, hus, hps, hms⟩
    · rename_i P hP
      refine ⟨hbt, hus, hps, ?_⟩
      intro i M h
      rcases getElem?_append_singleton_cases h with h' | ⟨_, rfl⟩
      · exact hms i M h'
      · obtain ⟨src, h1, h2⟩ := hps p P hP
        exact ⟨src, P.table, h1, h2, by simp only [World.view, hbt, World.srcOf, h1, Option.getD_some]⟩
  | parse p a =>
    dsimp only [step]
    split <;> exact ⟨hbt, hus, hps, hms⟩
  | parseGen m a => exact ⟨hbt, hus, hps, hms⟩

theorem inv_run (bt : List Rule) (us) (w : World) (h : List WorldOp) (hf : FixedH h)
    (hi : Inv bt us w) : Inv bt us (run w h) :=
  run_induction (inv_step bt us) h hf w hi

theorem isolatedParse_eq {bt : List Rule} {us} {src : List Rule} {passes} {t : List Entry}
    (ht : mkTable bt us src passes = some t) (a : Args) :
    isolatedParse bt us src passes a =
      L1.parse { rules := viewIn bt src t, usets := us } a.inp a.fuel a.rule a.k := by
  simp [isolatedParse, run, step, init, ht, parseResult, World.view, World.srcOf]

theorem isolatedParseGen_eq {bt : List Rule} {us} {src : List Rule} {passes} {t : List Entry}
    (ht : mkTable bt us src passes = some t) (a : Args) :
    isolatedParseGen bt us src passes a =
      LG.parse { rules := viewIn bt src t, usets := us } a.inp a.fuel a.rule a.k := by
  simp [isolatedParseGen, run, step, init, ht, parseGenResult, World.view, World.srcOf]

/-- **History independence.**  Take any history `h` of operations of the current tree,
    started in a fresh process, and any parser object `p` alive after it; let `src` be the
    content of the mapping it was built from and `P.passes` its optimizer setting.  Then
    every call `parse(rule, inp, start_pos=k)` on it returns exactly what the same call
    returns in a process that has done nothing but load that grammar and build that parser.
    (Other parsers — of the same or other grammars, optimized differently —, generated
    modules and earlier successful or failed calls are all part of `h`.) -/
theorem history_independence (bt : List Rule) (us) (h : List WorldOp) (hf : FixedH h)
    (p : Nat) (P : ParserObj) (src : List Rule)
    (hp : (run (init bt us) h).parsers[p]? = some P)
    (hs : (run (init bt us) h).mappings[P.mapping]? = some src) (a : Args) :
    parseResult (run (init bt us) h) p a = isolatedParse bt us src P.passes a := by
  have hi := inv_run bt us _ h hf (inv_init bt us)
  obtain ⟨src', h1, h2⟩ := hi.hparsers p P hp
  have : src' = src := by rw [h1] at hs; exact Option.some.inj hs
  subst this
  rw [isolatedParse_eq h2]
  simp only [parseResult, hp, World.view, hi.hbt, World.srcOf, h1, Option.getD_some, hi.hus]

/-- **History independence for generated modules**: a module generated at any point of any
    history answers every call like a module generated in a process that has done nothing
    but load the grammar, build the parser with that optimizer setting and generate. -/
theorem module_history_independence (bt : List Rule) (us) (h : List WorldOp) (hf : FixedH h)
    (i : Nat) (M : ModuleObj) (src : List Rule)
    (hm : (run (init bt us) h).modules[i]? = some M)
    (hs : (run (init bt us) h).mappings[M.mapping]? = some src) (a : Args) :
    parseGenResult (run (init bt us) h) i a = isolatedParseGen bt us src M.passes a := by
  have hi := inv_run bt us _ h hf (inv_init bt us)
  obtain ⟨src', t, h1, h2, h3⟩ := hi.hmodules i M hm
  have : src' = src := by rw [h1] at hs; exact Option.some.inj hs
  subst this
  rw [isolatedParseGen_eq h2]
  simp only [parseGenResult, hm, h3, hi.hus]

/-- two parser objects with the same grammar and optimizer setting — in the same process or
    in two processes with entirely different histories — answer every call alike -/
theorem same_grammar_same_result (bt : List Rule) (us) (h₁ h₂ : List WorldOp)
    (hf₁ : FixedH h₁) (hf₂ : FixedH h₂) (p₁ p₂ : Nat) (P₁ P₂ : ParserObj) (src : List Rule)
    (hp₁ : (run (init bt us) h₁).parsers[p₁]? = some P₁)
    (hp₂ : (run (init bt us) h₂).parsers[p₂]? = some P₂)
    (hs₁ : (run (init bt us) h₁).mappings[P₁.mapping]? = some src)
    (hs₂ : (run (init bt us) h₂).mappings[P₂.mapping]? = some src)
    (hpass : P₁.passes = P₂.passes) (a : Args) :
    parseResult (run (init bt us) h₁) p₁ a = parseResult (run (init bt us) h₂) p₂ a := by
  rw [history_independence bt us h₁ hf₁ p₁ P₁ src hp₁ hs₁,
      history_independence bt us h₂ hf₂ p₂ P₂ src hp₂ hs₂, hpass]

/-- **A call writes nothing but cache flags**: after `parse` / `parseGen` the world differs
    from the one before at most in `filled`. -/
theorem parse_writes_only_caches (w : World) (op : WorldOp) (hc : op.IsCall) :
    { step w op with filled := w.filled } = w := by
  rw [step_call w op hc]

theorem parseResult_filled (w : World) (f : Slot → Bool) (p : Nat) (a : Args) :
    parseResult { w with filled := f } p a = parseResult w p a := rfl

theorem parseGenResult_filled (w : World) (f : Slot → Bool) (m : Nat) (a : Args) :
    parseGenResult { w with filled := f } m a = parseGenResult w m a := rfl

/-- the same of any number of calls, in any order -/
theorem calls_write_only_caches (w : World) (cs : List WorldOp) (hc : ∀ op ∈ cs, op.IsCall) :
    { run w cs with filled := w.filled } = w :=
  run_induction (P := fun w' => ({ w' with filled := w.filled } : World) = w)
    (fun w' op ho hw => by rw [step_call w' op ho]; exact hw) cs hc w rfl

/-- after any number of calls, in any order, every call still returns what it returns alone:
    this is "every interleaving of whole calls gives each call its sequential result" -/
theorem calls_do_not_interfere (w : World) (cs : List WorldOp) (hc : ∀ op ∈ cs, op.IsCall)
    (p : Nat) (a : Args) : parseResult (run w cs) p a = parseResult w p a :=
  (parseResult_filled (run w cs) w.filled p a).symm.trans
    (congrArg (parseResult · p a) (calls_write_only_caches w cs hc))

theorem calls_do_not_interfere_gen (w : World) (cs : List WorldOp) (hc : ∀ op ∈ cs, op.IsCall)
    (m : Nat) (a : Args) : parseGenResult (run w cs) m a = parseGenResult w m a :=
  (parseGenResult_filled (run w cs) w.filled m a).symm.trans
    (congrArg (parseGenResult · m a) (calls_write_only_caches w cs hc))

/-- **Re-use.**  A call on a parser returns the same result whatever call — on the same or
    another object, successful or failed — was made before it. -/
theorem repeated_call_same_result (w : World) (op : WorldOp) (hc : op.IsCall) (p : Nat) (a : Args) :
    parseResult (step w op) p a = parseResult w p a :=
  calls_do_not_interfere w [op] (fun _ ho => List.mem_singleton.1 ho ▸ hc) p a

theorem repeated_call_same_result_gen (w : World) (op : WorldOp) (hc : op.IsCall) (m : Nat) (a : Args) :
    parseGenResult (step w op) m a = parseGenResult w m a :=
  calls_do_not_interfere_gen w [op] (fun _ ho => List.mem_singleton.1 ho ▸ hc) m a

theorem touched_filled (w : World) (f : Slot → Bool) (p : Nat) (P : ParserObj) :
    World.touched { w with filled := f } p P = World.touched w p P := rfl

theorem call_idempotent (w : World) (op : WorldOp) (hc : op.IsCall) :
    step (step w op) op = step w op := by
  rw [step_call w op hc, step_call _ op hc]
  -- `callSlots` does not read `filled`
  show ({ w with filled := fillAll (fillAll w.filled (callSlots w op)) (callSlots w op) } : World) = _
  rw [fillAll_idem]

/-- **Two calls commute** as transformers of the shared state (their only writes are cache
    fills, and fills commute). -/
theorem calls_commute (w : World) (a b : WorldOp) (ha : a.IsCall) (hb : b.IsCall) :
    step (step w a) b = step (step w b) a := by
  rw [step_call w a ha, step_call w b hb, step_call _ b hb, step_call _ a ha]
  show ({ w with filled := fillAll (fillAll w.filled (callSlots w a)) (callSlots w b) } : World)
    = { w with filled := fillAll (fillAll w.filled (callSlots w b)) (callSlots w a) }
  rw [fillAll_comm]

/-! ### interleavings at a finer granularity: the generic commutation lemma

  `S` = cache slots, `V` = what a slot can hold, `content s` = the one value a fill of `s`
  ever writes (a function of the slot — i.e. of the node — alone).  `L` = the private state
  of a thread (for `parse()`: its `ParserState`, its pair lists, its Python frames).
  A *step* is one atomic access: the thread reads the shared caches, updates its private
  state, and may fill one slot.  Private states of different threads are disjoint by
  construction (`Nat → L`, a step of thread `i` updates component `i` only); the immutable
  shared data (rule tables, `Parser.BUILTIN`: the invariants above) is part of `step`. -/

section Interleaving
variable {S V L : Type} [DecidableEq S]

abbrev Cache (S V : Type) := S → Option V

def Valid (content : S → V) (σ : Cache S V) : Prop := ∀ s v, σ s = some v → v = content s

def fill (content : S → V) (σ : Cache S V) (s : S) : Cache S V :=
  fun t => if t = s then some (content s) else σ t

structure Thread (S V L : Type) where
  step : Cache S V → L → L × Option S

/-- the caches are transparent to the thread: in any two valid cache states a step makes the
    same private transition (it may differ in whether it fills a slot: an empty slot is
    filled, a filled one is not) -/
def Transparent (content : S → V) (t : Thread S V L) : Prop :=
  ∀ σ σ' l, Valid content σ → Valid content σ' → (t.step σ l).1 = (t.step σ' l).1

def setAt (ls : Nat → L) (i : Nat) (l : L) : Nat → L := fun j => if j = i then l else ls j

def sysStep (content : S → V) (ts : Nat → Thread S V L) (st : Cache S V × (Nat → L)) (i : Nat) :
    Cache S V × (Nat → L) :=
  let r := (ts i).step st.1 (st.2 i)
  (match r.2 with | none => st.1 | some s => fill content st.1 s, setAt st.2 i r.1)

def runSched (content : S → V) (ts : Nat → Thread S V L) (st : Cache S V × (Nat → L))
    (sched : List Nat) : Cache S V × (Nat → L) := sched.foldl (sysStep content ts) st

def iter (f : L → L) : Nat → L → L
  | 0, x => x
  | n + 1, x => iter f n (f x)

def alone (t : Thread S V L) (σ0 : Cache S V) (l : L) : L := (t.step σ0 l).1

theorem valid_fill (content : S → V) (σ : Cache S V) (s : S) (h : Valid content σ) :
    Valid content (fill content σ s) := by
  intro t v ht
  simp only [fill] at ht
  split at ht
  · rename_i heq; cases ht; rw [heq]
  · exact h t v ht

theorem valid_sysStep (content : S → V) (ts : Nat → Thread S V L) (st) (i : Nat)
    (h : Valid content st.1) : Valid content (sysStep content ts st i).1 := by
  simp only [sysStep]
  split
  · exact h
  · exact valid_fill content _ _ h

/-- **Interleaving is irrelevant.**  `N` threads (here: any number, indexed by `Nat`) whose
    private states are disjoint and whose only shared writes are fills of transparent caches:
    under *every* schedule, thread `i` ends in the private state it reaches by taking the same
    number of steps alone from the initial cache state — so each `parse()` returns its
    sequential result — and the caches stay valid. -/
theorem interleaving_irrelevant (content : S → V) (ts : Nat → Thread S V L)
    (hT : ∀ i, Transparent content (ts i)) (σ0 : Cache S V) (h0 : Valid content σ0)
    (sched : List Nat) (σ : Cache S V) (hσ : Valid content σ) (ls : Nat → L) (i : Nat) :
    (runSched content ts (σ, ls) sched).2 i = iter (alone (ts i) σ0) (sched.count i) (ls i) ∧
    Valid content (runSched content ts (σ, ls) sched).1 := by
  induction sched generalizing σ ls with
  | nil => exact ⟨rfl, hσ⟩
  | cons j rest ih =>
    have hv := valid_sysStep content ts (σ, ls) j hσ
    have := ih (sysStep content ts (σ, ls) j).1 hv (sysStep content ts (σ, ls) j).2
    simp only [runSched, List.foldl_cons] at this ⊢
    refine ⟨?_, this.2⟩
    rw [this.1]
    by_cases hji : j = i
    · subst hji
      simp only [List.count_cons_self, iter]
      congr 1
      simp only [sysStep, setAt, if_true, alone]
      exact hT j σ σ0 (ls j) hσ h0
    · have hc : (j :: rest).count i = rest.count i := by
        simp [hji]
      rw [hc]
      congr 1
      simp only [sysStep, setAt]
      rw [if_neg (fun h => hji h.symm)]

/-- corollary: two schedules that give thread `i` the same number of steps leave it in the
    same private state — in particular the schedule in which it runs alone -/
theorem schedule_independent (content : S → V) (ts : Nat → Thread S V L)
    (hT : ∀ i, Transparent content (ts i)) (σ0 : Cache S V) (h0 : Valid content σ0)
    (ls : Nat → L) (s₁ s₂ : List Nat) (i : Nat) (hc : s₁.count i = s₂.count i) :
    (runSched content ts (σ0, ls) s₁).2 i = (runSched content ts (σ0, ls) s₂).2 i := by
  rw [(interleaving_irrelevant content ts hT σ0 h0 s₁ σ0 h0 ls i).1,
      (interleaving_irrelevant content ts hT σ0 h0 s₂ σ0 h0 ls i).1, hc]

end Interleaving

/-- The generic lemma at the slot type of the `World` model (`filled : Slot → Bool`, i.e. the
    content of a filled slot is `()` — "a function of the node" in its most abstract form).
    This is the proved part of the OPEN statement below: it *assumes* that the threads'
    steps are `Transparent` and that their private states are disjoint. -/
theorem parse_interleaving_partial {L : Type} (ts : Nat → Thread Slot Unit L)
    (hT : ∀ i, Transparent (fun _ => ()) (ts i)) (σ0 : Cache Slot Unit)
    (sched : List Nat) (ls : Nat → L) (i : Nat) :
    (runSched (fun _ => ()) ts (σ0, ls) sched).2 i = iter (alone (ts i) σ0) (sched.count i) (ls i) :=
  (interleaving_irrelevant (fun _ => ()) ts hT σ0 (fun _ _ _ => rfl) sched σ0 (fun _ _ _ => rfl) ls i).1

-- OPEN parse_interleaving (full statement, not proved — it is a statement about CPython and the
--   Python source, not about this model): "for the interpreter (`Expression.parse` methods,
--   `ParserState`) and for generated modules, executed by CPython under the GIL, every
--   bytecode-level step of a `parse()` call is a `Thread.step` whose private state is that call's
--   `ParserState`, pair lists and frames, whose shared reads are the rule tables (immutable:
--   `shared_table_invariant`, `mappings_invariant`, `parsers_frame`) and the lazy caches, whose
--   only shared writes are fills of `_compiled` / `_expanded` with a value determined by the
--   node, and which is `Transparent`".  With it, `parse_interleaving_partial` gives: under every
--   schedule each concurrent `parse()` returns its sequential result.  The harness tests the
--   hypothesis (write-set monitor: no other write, cache content recomputed and compared; thread
--   runs with a 1 µs switch interval compared with sequential runs); it is an assumption of the
--   evidence, listed as such.

/-! ### non-vacuity: the optimizer of the pinned commit breaks history independence

  Shared table: `ASCII_ALPHA` (as `ASCIIRule` builds it).  Grammar A: `r = { ASCII_ALPHA }`,
  not optimized.  Grammar B: `s = { "x" }`, optimized with the `squash_choice` pass.
  History: build A, build B — then `A.parse("r", "1")`.  With the current optimizer the
  report is "position 0, expected ASCII_ALPHA (2 labels)", as in a fresh process; with the
  optimizer of the pinned commit, building B rewrote the shared `ASCII_ALPHA` object into a
  regex node that reports nothing: "position -1, nothing expected". -/

def exBuiltins : List Rule :=
  [⟨"ASCII_ALPHA", SILENT, .choice [.range 97 122, .range 65 90], .builtin⟩]

def exA : List Rule := [⟨"r", 0, .rule "ASCII_ALPHA" SILENT true (.choice [.range 97 122, .range 65 90]), .grammar⟩]
def exB : List Rule := [⟨"s", 0, .str [120], .grammar⟩]
def exSquash : Opt.Pass := ⟨.squashChoice, true, false⟩
def exCall : Args := ⟨"r", #[49], 0, 10⟩

/-- what the harness compares for a failed parse: matched?, furthest position, expected keys -/
def report : R1 → Option (Bool × Int × List (String × Nat))
  | .done m c _ => some (m, c.fpos, c.fexp)
  | _ => none

def exHistoryOld : List WorldOp :=
  [.newMapping exA, .newParser 0 none, .newMapping exB, .newParserOld 1 (some [exSquash])]

theorem exFresh_report :
    report (isolatedParse exBuiltins [] exA none exCall) = some (false, 0, [("ASCII_ALPHA", 2)]) := by
  decide +kernel

theorem exHistoryOld_report :
    report (parseResult (run (init exBuiltins []) exHistoryOld) 0 exCall) = some (false, -1, []) := by
  decide +kernel

/-- in a fresh process the unoptimized parser reports position 0 and `ASCII_ALPHA`… -/
example : report (isolatedParse exBuiltins [] exA none exCall) = some (false, 0, [("ASCII_ALPHA", 2)]) :=
  exFresh_report

/-- …after another, optimized parser was created by the old optimizer it reports nothing:
    history independence FAILS for `newParserOld`. -/
theorem old_optimizer_breaks_isolation :
    report (parseResult (run (init exBuiltins []) exHistoryOld) 0 exCall)
      ≠ report (isolatedParse exBuiltins [] exA none exCall) := by
  rw [exHistoryOld_report, exFresh_report]
  decide

example : report (parseResult (run (init exBuiltins []) exHistoryOld) 0 exCall) = some (false, -1, []) :=
  exHistoryOld_report

/-- the write is visible in the shared table itself -/
example : ((run (init exBuiltins []) exHistoryOld).builtins.map (Opt.size ·.body)) ≠
    (exBuiltins.map (Opt.size ·.body)) := by decide +kernel

/-- with the current optimizer: whatever happens after parser A was built — `h` is *any*
    history of current-tree operations — its report is the fresh-process report (an instance
    of `history_independence`, then evaluated) -/
example (h : List WorldOp) (hf : FixedH h) :
    report (parseResult (run (init exBuiltins [])
      ([WorldOp.newMapping exA, WorldOp.newParser 0 none] ++ h)) 0 exCall)
      = some (false, 0, [("ASCII_ALPHA", 2)]) := by
  have hpre : FixedH [WorldOp.newMapping exA, WorldOp.newParser 0 none] := by
    intro op ho
    simp at ho
    rcases ho with rfl | rfl <;> trivial
  have hall : FixedH ([WorldOp.newMapping exA, WorldOp.newParser 0 none] ++ h) := by
    intro op ho
    rcases List.mem_append.mp ho with h1 | h1
    · exact hpre op h1
    · exact hf op h1
  have hrun : run (init exBuiltins []) ([WorldOp.newMapping exA, WorldOp.newParser 0 none] ++ h)
      = run (run (init exBuiltins []) [WorldOp.newMapping exA, WorldOp.newParser 0 none]) h :=
    List.foldl_append ..
  have hp := parsers_frame (run (init exBuiltins []) [WorldOp.newMapping exA, WorldOp.newParser 0 none])
    h hf 0 ⟨0, none, tableOf exBuiltins exA⟩ rfl
  have hm := mappings_invariant (run (init exBuiltins []) [WorldOp.newMapping exA, WorldOp.newParser 0 none])
    h hf 0 exA rfl
  rw [history_independence exBuiltins [] _ hall 0 _ exA (by rw [hrun]; exact hp) (by rw [hrun]; exact hm)]
  exact exFresh_report

/-- second non-vacuity example — the caller's mapping: `Parser(rules)` (not optimized), then
    `Parser(rules, optimizer=…)` from the *same* mapping.  With the old optimizer the first
    parser starts to run the optimized bodies: a choice of literals became a regex node and
    the failure report is lost. -/
def exC : List Rule := [⟨"r", 0, .choice [.str [97], .str [98]], .grammar⟩]

theorem old_optimizer_rewrites_callers_rules :
    report (parseResult (run (init [] []) [.newMapping exC, .newParser 0 none, .newParserOld 0 (some [exSquash])]) 0 exCall)
      ≠ report (isolatedParse [] [] exC none exCall) := by
  decide +kernel

end C15
end Pest
