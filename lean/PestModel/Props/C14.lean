/-
  Props/C14.lean — property C14:
  "Position, span and line/column utilities agree with the text".

  Model: `LineCol.lean` (mirror of Position.line_col / line_of, Span.lines / __str__ in
  src/pest/pairs.py; `none` = Python raises IndexError).  Specification: `specLineCol`
  (the property's formula), `specLineOf`, `specLines`, all in `LineCol.lean`.

  `OnlyLF t` — the property's "text (with \n line breaks)": none of the other boundaries
  of `str.splitlines` (\r \x0b \x0c \x1c \x1d \x1e \x85 U+2028 U+2029) occurs in `t`.
  The `…_total` theorems hold for every text.
-/
import PestModel.Lemmas.LineCol

namespace Pest
namespace C14
open LineCol

/-- **C14, line_col.**  For every `\n`-text and every offset `0 ≤ p ≤ len(text)`,
    `Position(text, p).line_col()` returns (1 + number of line breaks before p,
    1 + distance from the last line break). -/
theorem line_col_spec {t : Text} {p : Nat} (h : OnlyLF t) (hp : p ≤ t.length) :
    pyLineCol t p = some ((specLineCol t p).1, ((specLineCol t p).2 : Int)) :=
  (pyLineCol_onlyLF h hp).1

/-- `line_col` never raises, whatever the text (all `splitlines` boundaries) and offset. -/
theorem line_col_total (t : Text) (p : Nat) : (pyLineCol t p).isSome = true :=
  pyLineCol_total t p

/-- the formula read as a walk along the text: (1,1) at offset 0 … -/
theorem spec_zero (t : Text) : specLineCol t 0 = (1, 1) := by
  simp [specLineCol, lineIdx, colOff]

/-- … a `\n` moves to column 1 of the next line, any other character one column right. -/
theorem spec_step (t : Text) (p : Nat) (hp : p < t.length) :
    specLineCol t (p + 1) =
      if t[p] = 10 then ((specLineCol t p).1 + 1, 1)
      else ((specLineCol t p).1, (specLineCol t p).2 + 1) := by
  simp only [specLineCol, lineIdx_eq, colOff_eq, List.take_succ_eq_append_getElem hp,
    List.count_append]
  split
  · next hc => rw [hc, sufLen_append_lf, List.count_singleton_self, Nat.add_assoc]
  · next hc =>
    have hn : 10 ∉ [t[p]] := fun hm => hc (List.mem_singleton.1 hm).symm
    rw [sufLen_append_of_not_mem hn, List.count_eq_zero_of_not_mem hn, Nat.add_assoc]
    rfl

/-- **C14, offsets and line/column determine each other**: two offsets of the same text
    with the same (line, column) are equal. -/
theorem line_col_injective {t : Text} {p q : Nat} (hp : p ≤ t.length) (hq : q ≤ t.length)
    (h : specLineCol t p = specLineCol t q) : p = q := by
  obtain ⟨hl, hc⟩ := Prod.mk.inj h
  have hl := Nat.add_left_cancel hl
  have hc := Nat.add_left_cancel hc
  rcases Nat.lt_trichotomy p q with hlt | heq | hgt
  · have := colOff_add_of_lineIdx_eq t (Nat.le_of_lt hlt) hq hl
    omega
  · exact heq
  · have := colOff_add_of_lineIdx_eq t (Nat.le_of_lt hgt) hp hl.symm
    omega

/-- the same for what the code returns -/
theorem py_line_col_injective {t : Text} {p q : Nat} (h : OnlyLF t) (hp : p ≤ t.length)
    (hq : q ≤ t.length) (he : pyLineCol t p = pyLineCol t q) : p = q := by
  rw [line_col_spec h hp, line_col_spec h hq] at he
  obtain ⟨h1, h2⟩ := Prod.mk.inj (Option.some.inj he)
  exact line_col_injective hp hq (Prod.ext h1 (Int.ofNat.inj h2))

theorem spec_bounds (t : Text) (p : Nat) :
    1 ≤ (specLineCol t p).1 ∧ 1 ≤ (specLineCol t p).2 ∧ (specLineCol t p).2 ≤ p + 1 := by
  refine ⟨Nat.le_add_right _ _, Nat.le_add_right _ _, ?_⟩
  show 1 + sufLen (t.take p) ≤ p + 1
  rw [Nat.add_comm]
  exact Nat.succ_le_succ (Nat.le_trans (sufLen_le _) (List.length_take_le _ _))

/-- `Pair.line_col()` is `line_col` of the pair's start -/
theorem pair_line_col (t : Text) (a b : Nat) : pyPairLineCol t a b = pyLineCol t a := rfl

/-- **C14, line_of.**  `Position(text, p).line_of()` returns the line containing `p`: the
    text from just after the last line break before `p` through the next line break
    *inclusive* (like `Span.lines()`), or to the end of the text; the empty string at the
    end of a text that is empty or ends with a line break. -/
theorem line_of_spec {t : Text} {p : Nat} (h : OnlyLF t) (hp : p ≤ t.length) :
    pyLineOf t p = some (specLineOf t p) := by
  obtain ⟨hlc, hline⟩ := pyLineCol_onlyLF h hp
  simp only [pyLineOf, hlc, splitlines_onlyLF h, Option.bind_eq_bind, Option.bind_some,
    Option.pure_def]
  rcases hline with hget | ⟨hlen, hlo⟩
  · obtain ⟨hlt, _⟩ := List.getElem?_eq_some_iff.1 hget
    rw [if_neg (Nat.not_lt.2 (Nat.add_comm _ _ ▸ hlt)), Nat.add_sub_cancel_left, hget]
  · rw [if_pos (Nat.add_comm _ _ ▸ Nat.lt_succ_of_le hlen), hlo]

/-- the line of `p` is the `(line p)`-th line of the text (or `p` is at the end of a text
    that is empty or ends with a line break, where there is no such line) -/
theorem line_of_is_nth_line {t : Text} {p : Nat} (h : OnlyLF t) (hp : p ≤ t.length) :
    (specLines t)[(specLineCol t p).1 - 1]? = some (specLineOf t p) ∨
      ((specLines t).length < (specLineCol t p).1 ∧ specLineOf t p = []) := by
  rw [specLineCol, Nat.add_sub_cancel_left]
  rcases (pyLineCol_onlyLF h hp).2 with hget | ⟨hlen, hlo⟩
  · exact .inl hget
  · exact .inr ⟨Nat.add_comm _ _ ▸ Nat.lt_succ_of_le hlen, hlo⟩

/-- `line_of` never raises, whatever the text and offset. -/
theorem line_of_total (t : Text) (p : Nat) : (pyLineOf t p).isSome = true := by
  obtain ⟨i, c, hlc⟩ := pyLineCol_exits t p
  simp only [pyLineOf, hlc, Option.bind_eq_bind, Option.bind_some, Option.pure_def]
  split
  · rfl
  · next hn =>
    rw [Nat.add_sub_cancel, List.getElem?_eq_getElem (Nat.lt_of_succ_le (Nat.not_lt.1 hn))]
    rfl

/-- **C14, Span.lines.**  `Span(text, a, b).lines()` returns the lines of the text from
    the line of `a` through the line of `b` (a slice, so lines that do not exist — the
    empty line after a trailing line break — are not returned). -/
theorem span_lines_spec {t : Text} {a b : Nat} (h : OnlyLF t) (ha : a ≤ t.length)
    (hb : b ≤ t.length) :
    pySpanLines t a b =
      some (((specLines t).take (specLineCol t b).1).drop ((specLineCol t a).1 - 1)) := by
  simp [pySpanLines, line_col_spec h ha, line_col_spec h hb, splitlines_onlyLF h]

/-- … element by element: the `j`-th returned line is line number `line a + j` of the text,
    for as long as that does not exceed `line b`. -/
theorem span_lines_get {t : Text} {a b : Nat} (h : OnlyLF t) (ha : a ≤ t.length)
    (hb : b ≤ t.length) (j : Nat) :
    ∃ r, pySpanLines t a b = some r ∧
      r[j]? = if lineIdx t a + j ≤ lineIdx t b then (specLines t)[lineIdx t a + j]? else none := by
  refine ⟨_, span_lines_spec h ha hb, ?_⟩
  simp only [specLineCol, List.getElem?_drop, List.getElem?_take, Nat.add_sub_cancel,
    Nat.add_comm 1, Nat.lt_succ_iff]

/-- **"exactly the lines the span touches"**: a line index lies between the line of `a`
    and the line of `b` iff some offset of the closed interval `[a, b]` is on that line. -/
theorem span_lines_touch (t : Text) {a b : Nat} (hab : a ≤ b) (i : Nat) :
    (lineIdx t a ≤ i ∧ i ≤ lineIdx t b) ↔ ∃ p, a ≤ p ∧ p ≤ b ∧ lineIdx t p = i := by
  constructor
  · exact fun h => exists_between (lineIdx_succ_le t) hab h.1 h.2
  · rintro ⟨p, h1, h2, rfl⟩
    exact ⟨lineIdx_mono t h1, lineIdx_mono t h2⟩

/-- the lines of the text concatenate to the text, every line but possibly the last ends with
    its only `\n`, and an unterminated last line is not empty -/
theorem spec_lines_partition (t : Text) : (specLines t).flatten = t ∧ LinesOK (specLines t) :=
  ⟨specLines_flatten t, specLines_ok t⟩

/-- **C14, str(span)** is `text[start:end]` … -/
theorem span_str (t : Text) (a b : Nat) : pySpanStr t a b = (t.take b).drop a := rfl

/-- … i.e. the characters at offsets `a, a+1, …, b-1` -/
theorem span_str_get (t : Text) (a b i : Nat) :
    (pySpanStr t a b)[i]? = if a + i < b then t[a + i]? else none := by
  simp only [pySpanStr, List.getElem?_drop, List.getElem?_take]

theorem span_str_length (t : Text) {a b : Nat} (hb : b ≤ t.length) :
    (pySpanStr t a b).length = b - a := by
  rw [pySpanStr, List.length_drop, List.length_take, Nat.min_eq_left hb]

/-! ### the hypotheses are satisfiable; the inputs of /repo's `fix:` commits 55da1f2, 1b31089 -/

-- "ab\ncd\n", "a\n\nb"
example : OnlyLF [97, 98, 10, 99, 100, 10] := by decide +kernel
example : ¬ OnlyLF [97, 13, 10] := by decide +kernel
example : pyLineCol [97, 98] 2 = some (1, 3) := by decide +kernel                       -- `fix:` 55da1f2
example : pyLineCol [97, 98, 10] 3 = some (2, 1) := by decide +kernel
example : pyLineCol [97, 98, 10, 99, 100, 10] 4 = some (2, 2) := by decide +kernel
example : specLineCol [97, 98, 10, 99, 100, 10] 4 = (2, 2) := by decide +kernel
example : pyLineOf [97, 98, 10, 99, 100] 4 = some [99, 100] := by decide +kernel          -- `fix:` 1b31089
example : pyLineOf [97, 98, 10, 99, 100, 10] 3 = some [99, 100, 10] := by decide +kernel
example : pyLineOf [97, 98, 10] 3 = some [] := by decide +kernel
example : pySpanLines [97, 10, 98, 10, 99] 1 3 = some [[97, 10], [98, 10]] := by decide +kernel
example : pySpanLines [97, 10] 2 2 = some [] := by decide +kernel
example : specLines [97, 10, 10, 98] = [[97, 10], [10], [98]] := by decide +kernel
-- outside the spec's scope the model still follows `str.splitlines`: "a\r\nb<U+2028>c"
example : splitlines true [97, 13, 10, 98, 8232, 99] = [[97, 13, 10], [98, 8232], [99]] := by decide +kernel
example : pyLineCol [97, 13, 10, 98, 8232, 99] 5 = some (3, 1) := by decide +kernel

end C14
end Pest
