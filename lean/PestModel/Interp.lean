/-
  Interp.lean — L1: mirror of the tree-walking interpreter.

  One Lean function per `parse` method of src/pest/grammar/expressions/*.py, `Rule.parse`
  (src/pest/grammar/rule.py), `ParserState.parse_trivia` (src/pest/state.py) and
  `Parser.parse` (src/pest/parser.py), statement by statement, over `PState`.

  Open recursion: `step k rec` interprets one node, calling `rec` for sub-expressions and
  rule bodies; `run (n+1) = step n (run n)`, `run 0 = oof`.  `while True` loops are
  helpers that recurse on the budget `k` (= remaining fuel), so the fuel bounds recursion
  depth and loop iterations alike; `oof` means "not enough fuel (or the real code loops
  forever / exceeds its recursion budget)".
  Partial Python operations are not totalised: they yield `exc`.
-/
import PestModel.Expr

namespace Pest

inductive R1 where
  | done (matched : Bool) (c : PState) (ps : List Pair)
  | oof
  | exc (k : PyExc)
deriving Repr, Inhabited

abbrev Sem1 := Expr → PState → R1

namespace L1

variable (g : Grammar) (inp : Input)

/-- `state.fail(label)` from a terminal (`rule_name=None`, `force=False`) -/
def failT (c : PState) : R1 :=
  match c.fail none false with
  | some c' => .done false c' []
  | none => .exc .indexError

/-- the class string `[a-b]` of `Range` -/
def inRange (a b c : CP) : Bool := a ≤ c && c ≤ b

/-! #### OptimizedChoice: the regex `build_optimized_pattern` emits, as ordered alternatives -/

def asciiUpper (c : CP) : CP := if 97 ≤ c && c ≤ 122 then c - 32 else c

/-- does the merged character class accept `c`? (singles, CI singles as upper+lower, ranges) -/
def classAccepts (alts : List Alt) (c : CP) : Bool :=
  alts.any fun
    | .lit [x] false => x == c
    | .lit [x] true => asciiUpper x == c || asciiLower x == c
    | .range a b => inRange (min a b) (max a b) c
    | _ => false

/-- end position of the first alternative (in *pattern* order) matching at `pos` -/
def optMatchOnce (alts : List Alt) (pos : Nat) : Option Nat :=
  let multiS := alts.filterMap fun | .lit s false => if s.length ≠ 1 then some s else none | _ => none
  let multiI := alts.filterMap fun | .lit s true => if s.length ≠ 1 then some s else none | _ => none
  let props := alts.filterMap fun | .uprop n => some n | _ => none
  let hasClass := alts.any fun | .lit s _ => s.length == 1 | .range _ _ => true | _ => false
  match multiS.find? (startsWithAt inp · pos) with
  | some s => some (pos + s.length)
  | none =>
    match multiI.find? (startsWithAtCI inp · pos) with
    | some s => some (pos + s.length)
    | none =>
      match inp[pos]? with
      | none => none
      | some c =>
        if props.any (g.uprop · c) then some (pos + 1)
        else if hasClass && classAccepts alts c then some (pos + 1)
        else none

/-- `(?:…)*`: iterate while an alternative matches and consumes -/
def optMatchStar (alts : List Alt) : Nat → Nat → Nat
  | 0, pos => pos
  | k + 1, pos =>
    match optMatchOnce g inp alts pos with
    | some p => if p > pos then optMatchStar alts k p else pos
    | none => pos

def optMatch (alts : List Alt) (star : Bool) (pos : Nat) : Option Nat :=
  if alts.isEmpty then some pos                      -- pattern "" matches the empty string
  else if star then some (optMatchStar g inp alts (inp.size + 1 - pos) pos)
  else optMatchOnce g inp alts pos

/-- `SkipUntil.parse`: earliest occurrence of any of `subs`, else end of input -/
def skipUntilPos (subs : List Str) (pos : Nat) : Nat :=
  let best := subs.foldl (fun (b : Option Nat) s =>
    match findFrom inp s pos with
    | some p => (match b with | none => some p | some q => if p < q then some p else some q)
    | none => b) none
  best.getD inp.size

/-! #### Rule.parse -/

def isTriviaName (n : String) : Bool := n == "COMMENT" || n == "WHITESPACE"

/-- does the rule run its body under `with state.atomic_checkpoint():`? -/
def ruleScoped (name : String) (mod : Nat) : Bool :=
  hasBit mod ATOMIC || hasBit mod COMPOUND || isTriviaName name || hasBit mod NONATOMIC

/-- entering the body: `atomic_depth += 1` for `@`, `$` and the trivia rules, `.zero()` for `!`,
    both after `atomic_depth.snapshot()`; nothing otherwise -/
def ruleEnter (name : String) (mod : Nat) (c1 : PState) : PState :=
  if hasBit mod ATOMIC || hasBit mod COMPOUND || isTriviaName name then
    { c1 with adepth := (c1.adepth.snapshot).add 1 }
  else if hasBit mod NONATOMIC then
    { c1 with adepth := (c1.adepth.snapshot).zero }
  else c1

/-- after the body: leave the `with` block, pop the rule stack, make the pair -/
def ruleExit (name : String) (mod : Nat) (start : Nat) (matched : Bool) (c2 : PState)
    (children : List Pair) : R1 :=
  let c3 := if ruleScoped name mod then { c2 with adepth := c2.adepth.restore } else c2
  match c3.rstack.pop with
  | none => .exc .indexError
  | some (_, rs) =>
    let c4 := { c3 with rstack := rs }
    if !matched then .done false c4 []
    else if hasBit mod SILENT then .done true c4 children
    else
      let (tag, c5) : Option String × PState :=
        match c4.tagStack with
        | [] => (none, c4)
        | t :: ts => (some t, { c4 with tagStack := ts })
      let children := if hasBit mod ATOMIC then visibleList children else children
      .done true c5 [.mk name mod start c5.pos children tag]

/-- `Rule.parse(state, pairs)` for a rule (name, modifier, body) -/
def ruleParse (rec : Sem1) (name : String) (mod : Nat) (body : Expr) (c : PState) : R1 :=
  match rec body (ruleEnter name mod { c with rstack := c.rstack.push name }) with
  | .done matched c2 children => ruleExit name mod c.pos matched c2 children
  | r => r

/-- `with state.tag(t): …` — push, run, then `if self.tag_stack: self.tag_stack.pop()` -/
def withTag (tag : Option String) (c : PState) (body : PState → R1) : R1 :=
  match tag with
  | none => body c
  | some t =>
    match body { c with tagStack := t :: c.tagStack } with
    | .done m c' ps => .done m { c' with tagStack := c'.tagStack.tail } ps
    | r => r

/-- `state.parser.rules[name].parse(state, pairs)` -/
def callRule (rec : Sem1) (name : String) (c : PState) : R1 :=
  match g.lookup name with
  | none => .exc .keyError
  | some r => ruleParse rec r.name r.mod r.body c

/-! #### ParserState.parse_trivia -/

/-- one guarded attempt of `parse_trivia` at a trivia rule -/
inductive TryR where
  | matched (c : PState) (ps : List Pair)     -- `state.ok(); continue`
  | no (c : PState)                           -- `state.restore()`, fall through (or no such rule)
  | stop (r : R1)                             -- out of fuel / exception

def tryTrivia (rec : Sem1) (r : Option Rule) (c : PState) : TryR :=
  match r with
  | none => .no c
  | some r =>
    match ruleParse rec r.name r.mod r.body c.checkpoint with
    | .done true c' ps => .matched c'.ok ps
    | .done false c' _ => .no c'.restore
    | r => .stop r

/-- the `while True` loop of `parse_trivia`; `acc` = pairs appended so far -/
def triviaLoop (rec : Sem1) (ws cm : Option Rule) : Nat → PState → List Pair → R1
  | 0, _, _ => .oof
  | k + 1, c, acc =>
    match tryTrivia rec ws c with
    | .matched c' ps => triviaLoop rec ws cm k c' (acc ++ ps)
    | .stop r => r
    | .no c1 =>
      match tryTrivia rec cm c1 with
      | .matched c' ps => triviaLoop rec ws cm k c' (acc ++ ps)
      | .stop r => r
      | .no c2 => .done true c2 acc                                          -- `break`

/-- `ParserState.parse_trivia(pairs)`; the Boolean it returns is never used by callers -/
def parseTrivia (rec : Sem1) (k : Nat) (c : PState) : R1 :=
  if c.adepth.val > 0 then .done false c []
  else
    match g.fusedSkip with
    | some skip => ruleParse rec skip.name skip.mod skip.body c
    | none =>
      let ws := g.lookup "WHITESPACE"
      let cm := g.lookup "COMMENT"
      if ws.isNone && cm.isNone then .done false c []
      else
        match triviaLoop rec ws cm k { c with suppress := true } [] with
        | .done m c' ps => .done m { c' with suppress := false } ps
        | r => r

/-! #### Sequence / Choice / Repeat -/

/-- `Sequence.parse`: `children` accumulates; trivia after every element but the last -/
def seqParse (rec : Sem1) (k : Nat) : List Expr → PState → List Pair → R1
  | [], c, acc => .done true c acc
  | e :: rest, c, acc =>
    match rec e c with
    | .done true c1 ps =>
      if rest.isEmpty then .done true c1 (acc ++ ps)
      else
        match parseTrivia g rec k c1 with
        | .done _ c2 tps => seqParse rec k rest c2 (acc ++ ps ++ tps)
        | r => r
    | .done false c1 _ => .done false c1 []
    | r => r

/-- `Choice.parse` -/
def choiceParse (rec : Sem1) : List Expr → PState → R1
  | [], c => .done false c []
  | e :: rest, c =>
    match rec e c.checkpoint with
    | .done true c1 ps => .done true c1.ok ps
    | .done false c1 _ => choiceParse rec rest c1.restore
    | r => r

/-- the `while True` loop of `Repeat.parse` (after the fix: checkpoint, then trivia unless
    first, then the item) -/
def repLoop (rec : Sem1) (e : Expr) : Nat → Nat → Bool → PState → List Pair → R1
  | 0, _, _, _, _ => .oof
  | k + 1, kk, first, c, acc =>
    let c0 := c.checkpoint
    let afterTrivia : R1 :=
      if first then .done true c0 [] else parseTrivia g rec kk c0
    match afterTrivia with
    | .done _ c1 tps =>
      match rec e c1 with
      | .done true c2 ps => repLoop rec e k kk false c2.ok (acc ++ tps ++ ps)
      | .done false c2 _ => .done true c2.restore acc
      | r => r
    | r => r

/-- the sequences the bounded repetitions delegate to (`_unrolled`) -/
def unrolled : Expr → Option (List Expr)
  | .rep1 e => some [e, .rep e]
  | .repExact e n => some (List.replicate n e)
  | .repMin e n => some (List.replicate n e ++ [.rep e])
  | .repMax e n => some (List.replicate n (.opt e))
  | .repMinMax e m n => some (List.replicate m e ++ List.replicate (n - m) (.opt e))
  | _ => none

/-! #### stack terminals -/

/-- match `lits` back to back from `pos`; `some p` = all matched, end position `p`;
    `none` = mismatch -/
def matchAll : List Str → Nat → Option Nat
  | [], p => some p
  | l :: ls, p => if startsWithAt inp l p then matchAll ls (p + l.length) else none

/-- `PopAll.parse`: pop one by one under a checkpoint -/
def popAllLoop : Nat → PState → Nat → R1
  | 0, _, _ => .oof
  | k + 1, c, position =>
    match c.ustack.pop with
    | none => .done true { c.ok with pos := position } []
    | some (lit, us) =>
      let c1 := { c with ustack := us }
      if startsWithAt inp lit position then popAllLoop k c1 (position + lit.length)
      else failT c1.restore

/-- `failed_rule_name` of `NegativePredicate`: the rule's name if the operand is a rule
    reference, else `None` (falls back to the current rule) -/
def failedName : Expr → Option String
  | .ident n _ => some n
  | .rule n _ _ _ => some n
  | _ => none

/-! #### one node -/

def step (k : Nat) (rec : Sem1) : Sem1
  | .str s, c =>
    if startsWithAt inp s c.pos then .done true { c with pos := c.pos + s.length } [] else failT c
  | .ci s, c =>
    if startsWithAtCI inp s c.pos then .done true { c with pos := c.pos + s.length } [] else failT c
  | .range a b, c =>
    match inp[c.pos]? with
    | some x => if inRange a b x then .done true { c with pos := c.pos + 1 } [] else failT c
    | none => failT c
  | .ident name tag, c => withTag tag c (callRule g rec name)
  | .rule name mod _ body, c => ruleParse rec name mod body c
  | .seq es, c => seqParse g rec k es c []
  | .choice es, c => choiceParse rec es c
  | .opt e, c =>
    match rec e c.checkpoint with
    | .done true c1 ps => .done true c1.ok ps
    | .done false c1 _ => .done true c1.restore []
    | r => r
  | .rep e, c => repLoop g rec e k k true c []
  | .rep1 e, c => seqParse g rec k [e, .rep e] c []
  | .repExact e n, c => seqParse g rec k (List.replicate n e) c []
  | .repMin e n, c => seqParse g rec k (List.replicate n e ++ [.rep e]) c []
  | .repMax e n, c => seqParse g rec k (List.replicate n (.opt e)) c []
  | .repMinMax e m n, c =>
    seqParse g rec k (List.replicate m e ++ List.replicate (n - m) (.opt e)) c []
  | .andP e, c =>
    match rec e c.checkpoint with
    | .done m c1 _ => .done m c1.restore []
    | r => r
  | .notP e, c =>
    let c0 := c.checkpoint
    match rec e { c0 with negDepth := c0.negDepth + 1 } with
    | .done matched c1 _ =>
      let c2 := c1.restore
      if matched then
        -- `label = str(state.parser.rules[name].expression)`: the lookup cannot fail, the
        -- rule has just been parsed
        match c2.fail (failedName e) true with
        | some c3 => .done false { c3 with negDepth := c3.negDepth - 1 } []
        | none => .exc .indexError
      else .done true { c2 with negDepth := c2.negDepth - 1 } []
    | r => r
  | .group e tag, c => withTag tag c (rec e)
  | .push e, c =>
    match rec e c with
    | .done true c1 ps =>
      .done true { c1 with ustack := c1.ustack.push (slice inp c.pos c1.pos) } ps
    | .done false c1 _ => .done false c1 []
    | r => r
  | .pushLit s, c => .done true { c with ustack := c.ustack.push s } []
  | .peekSlice a b, c =>
    -- bottom to top: Python order of `user_stack[slice]`
    match matchAll inp (pySlice c.ustack.items.reverse a b) c.pos with
    | some p => .done true { c with pos := p } []
    | none => failT c
  | .peek, c =>
    match c.ustack.peek with
    | none => .done false c []                         -- IndexError suppressed, no fail()
    | some v =>
      if startsWithAt inp v c.pos then .done true { c with pos := c.pos + v.length } [] else failT c
  | .peekAll, c =>
    match matchAll inp c.ustack.items c.pos with       -- top to bottom
    | some p => .done true { c with pos := p } []
    | none => failT c
  | .pop, c =>
    match c.ustack.peek with
    | none => .done false c []
    | some v =>
      if startsWithAt inp v c.pos then
        match c.ustack.pop with
        | some (_, us) => .done true { c with ustack := us, pos := c.pos + v.length } []
        | none => .exc .indexError
      else failT c
  | .popAll, c => popAllLoop inp (c.ustack.items.length + 1) c.checkpoint c.pos
  | .drop, c =>
    match c.ustack.pop with
    | some (_, us) => .done true { c with ustack := us } []
    | none => failT c
  | .anyB, c => if c.pos < inp.size then .done true { c with pos := c.pos + 1 } [] else .done false c []
  | .soiB, c => .done (c.pos == 0) c []
  | .eoiB, c => .done (c.pos == inp.size) c []
  | .uprop n, c =>
    match inp[c.pos]? with
    | some x => if g.uprop n x then .done true { c with pos := c.pos + 1 } [] else .done false c []
    | none => .done false c []
  | .skipUntil subs, c => .done true { c with pos := skipUntilPos inp subs c.pos } []
  | .optChoice alts star, c =>
    match optMatch g inp alts star c.pos with
    | some p => .done true { c with pos := p } []
    | none => .done false c []

def run : Nat → Sem1
  | 0 => fun _ _ => .oof
  | n + 1 => step g inp n (run n)

/-- `Parser.parse(start_rule, text, start_pos=k)`: `rule = self.rules[start_rule]`,
    fresh `ParserState`, `rule.parse` -/
def parse (fuel : Nat) (start : String) (startPos : Nat) : R1 :=
  match g.lookup start with
  | none => .exc .keyError
  | some r => ruleParse (run g inp fuel) r.name r.mod r.body (.init startPos)

end L1
end Pest
