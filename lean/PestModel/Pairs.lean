/-
  Pairs.lean — the token / flatten views of a parse tree (src/pest/pairs.py).

    `Tok`            `Start(rule, pos)` / `End(rule, pos)` (classes `Start`, `End`); only the rule's
                     name is kept (a `Pair` of the model stores name and modifier of its rule).
    `Pair.tokens`    `Pair.tokens()`:  `yield Start(self.rule, self.start)`; for every child
                     `yield from child.tokens()`; `yield End(self.rule, self.end)`.
    `tokensL`        `Pairs.tokens()`: `for pair in self._pairs: yield from pair.tokens()`.
    `Pair.flatten`   the local generator `_flatten(pair)` of `Pairs.flatten()`: the pair itself, then
                     `_flatten(child)` for every child (pre-order).
    `flattenL`       `Pairs.flatten()`: `for pair in self._pairs: yield from _flatten(pair)`.

  Generators are modelled by the list of what they yield.  `Pair.text` / `str(pair)` is
  `input[start:end]` by definition (a `Pair` stores only `start`/`stop`), so it has no counterpart
  here.  `dump()` / `dumps()` are not modelled in this file (the JSON side has its own model,
  `Json.lean`); nothing below depends on them.

  Model file: core only.  The theorems about these functions are in `Lemmas/TreeWF.lean`; the
  equations of `tokensL`/`flattenL` stand below.
-/
import PestModel.Expr

namespace Pest

/-- `Start` / `End` of src/pest/pairs.py -/
inductive Tok where
  | start (name : String) (pos : Nat)
  | stop (name : String) (pos : Nat)
deriving Repr, DecidableEq, Inhabited

namespace Tok
def pos : Tok → Nat
  | start _ p => p
  | stop _ p => p
def name : Tok → String
  | start n _ => n
  | stop n _ => n
def isStart : Tok → Bool
  | start _ _ => true
  | stop _ _ => false
end Tok

mutual
/-- `Pair.tokens()` -/
def Pair.tokens : Pair → List Tok
  | .mk n _ s e ch _ => .start n s :: (tokensL ch ++ [.stop n e])
/-- `Pairs.tokens()` -/
def tokensL : List Pair → List Tok
  | [] => []
  | p :: ps => p.tokens ++ tokensL ps
end

mutual
/-- `_flatten(pair)` inside `Pairs.flatten()` -/
def Pair.flatten : Pair → List Pair
  | .mk n m s e ch t => .mk n m s e ch t :: flattenL ch
/-- `Pairs.flatten()` -/
def flattenL : List Pair → List Pair
  | [] => []
  | p :: ps => p.flatten ++ flattenL ps
end

theorem tokensL_nil : tokensL [] = [] := by simp [tokensL]

theorem tokensL_cons (n : String) (m s e : Nat) (ch : List Pair) (t : Option String) (rest : List Pair) :
    tokensL (.mk n m s e ch t :: rest) = .start n s :: (tokensL ch ++ [.stop n e]) ++ tokensL rest := by
  simp [tokensL, Pair.tokens]

theorem flattenL_nil : flattenL [] = [] := by simp [flattenL]

theorem flattenL_cons (n : String) (m s e : Nat) (ch : List Pair) (t : Option String) (rest : List Pair) :
    flattenL (.mk n m s e ch t :: rest) = .mk n m s e ch t :: flattenL ch ++ flattenL rest := by
  simp [flattenL, Pair.flatten]

end Pest
