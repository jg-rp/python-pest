/-
  OptHyps.lean — executable form of the hypotheses of C02 (optimizer soundness), kept in a model
  file (core only, no proofs) so that the line-protocol driver can evaluate `OptS.wfCheck` on every
  grammar of a correspondence run without importing any proof.

    `sigOf`          name and modifier of the rule a name refers to
    `allNb p e`      `p` holds of every node of `e` (bodies of embedded rule objects included)
    `nodeOKb g`      node-local well-formedness (`OptS.NodeOK`, Lemmas/OptSoundPass.lean)
    `nskB`           the node is not a reference to `SKIP`
    `wsProgressB g`  a `WHITESPACE` that will be fused has no empty-string alternative
    `wfCheck g`      all of `OptS.WF g`

  `Lemmas/OptSoundMain.lean` proves `wfCheck g = true → OptS.WF g` (`wfCheck_sound`).
-/
import PestModel.Expr
import PestModel.Interp
import PestModel.Opt

namespace Pest
namespace OptS

/-- name and modifier of the rule a name refers to -/
def sigOf (G : Grammar) (n : String) : Option (String × Nat) := (G.lookup n).map fun r => (r.name, r.mod)

/-- the modifier is `_` alone: silent and neither `@`, `$` nor `!` -/
def plainSilentB (m : Nat) : Bool :=
  hasBit m SILENT && !hasBit m ATOMIC && !hasBit m COMPOUND && !hasBit m NONATOMIC

mutual
/-- `p` holds of every node of `e` (bodies of embedded rule nodes included) -/
def allNb (p : Expr → Bool) : Expr → Bool
  | .rule n m sm b => p (.rule n m sm b) && allNb p b
  | .seq es => p (.seq es) && allNbL p es
  | .choice es => p (.choice es) && allNbL p es
  | .opt e => p (.opt e) && allNb p e
  | .rep e => p (.rep e) && allNb p e
  | .rep1 e => p (.rep1 e) && allNb p e
  | .repExact e n => p (.repExact e n) && allNb p e
  | .repMin e n => p (.repMin e n) && allNb p e
  | .repMax e n => p (.repMax e n) && allNb p e
  | .repMinMax e m n => p (.repMinMax e m n) && allNb p e
  | .andP e => p (.andP e) && allNb p e
  | .notP e => p (.notP e) && allNb p e
  | .group e t => p (.group e t) && allNb p e
  | .push e => p (.push e) && allNb p e
  | e => p e
def allNbL (p : Expr → Bool) : List Expr → Bool
  | [] => true
  | e :: es => allNb p e && allNbL p es
end

/-- ranges of an `OptimizedChoice` are not reversed -/
def altOKb : Alt → Bool
  | .range lo hi => decide (lo ≤ hi)
  | _ => true

/-- `NodeOK`, as a Boolean: embedded rule objects are the built-ins (silent except `EOI`, never
    atomic / compound / non-atomic, body not directly a rule object or a reference, `ANY` is
    `_Any`, a Unicode property rule carries its own name); no reference by name to `ANY`; a
    reference to a silent rule is to a rule whose modifier is `_` alone; a `Choice` is not empty,
    a range not reversed, an `OptimizedChoice` non-empty, non-repeating, without reversed ranges -/
def nodeOKb (g : Grammar) : Expr → Bool
  | .rule n m _ b =>
    (match b with | .rule _ _ _ _ => false | .ident _ _ => false | _ => true) && !hasBit m ATOMIC &&
    !hasBit m COMPOUND && !hasBit m NONATOMIC && !L1.isTriviaName n &&
    (n == "EOI" || hasBit m SILENT) &&
    (n != "EOI" || (match b with | .eoiB => true | _ => false)) &&
    (match b with | .uprop pn => pn == n | _ => true) &&
    (n != "ANY" || (match b with | .anyB => true | _ => false))
  | .ident n _ =>
    n != "ANY" &&
    (match sigOf g n with
     | some (_, md) => !hasBit md SILENT || plainSilentB md
     | none => true)
  | .choice es => !es.isEmpty
  | .range a b => decide (a ≤ b)
  | .optChoice alts star => !star && !alts.isEmpty && alts.all altOKb
  | _ => true

/-- not a reference to `SKIP` -/
def nskB : Expr → Bool
  | .ident n _ => n != "SKIP"
  | _ => true

/-- no empty-string alternative in a `WHITESPACE` that will be fused -/
def wsProgressB (g : Grammar) : Bool :=
  match g.lookup "COMMENT", g.lookup "WHITESPACE" with
  | none, some wr =>
    match wr.body with
    | .choice es =>
      match Opt.squash 1000 es [] with
      | some alts => alts.all fun | .lit [] _ => false | _ => true
      | none => true
    | _ => true
  | _, _ => true

/-- the executable form of `OptS.WF`:
    every node well-formed; no grammar rule called `SKIP` carries the modifier `SILENT+ATOMIC` of
    the fused trivia rule; `SKIP` is not referenced unless the grammar defines it; a `WHITESPACE`
    that will be fused has no empty-string alternative -/
def wfCheck (g : Grammar) : Bool :=
  g.rules.all (fun r => allNb (nodeOKb g) r.body) &&
  g.fusedSkip.isNone &&
  ((g.lookup "SKIP").isSome || g.rules.all (fun r => allNb nskB r.body)) &&
  wsProgressB g

end OptS
end Pest
