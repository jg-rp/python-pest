/-
  Front/AstText2.lean — `GrammarText'`: the relation "the text `t` is a layout of the source-level
  grammar `g`" of Front/AstTrivia.lean, extended to *every* spelling pest's meta-grammar allows
  (and python-pest's front end accepts).  `GrammarText` fixes one spelling per token and one line
  end per doc line; `GrammarText'` adds

    1. a line comment that ends the text without a line break                     (`EndC`)
    2. trivia between `^` and the string of a case-insensitive literal            (`Spells`)
    3. escapes in string literals: any body of ordinary characters and pest escapes
       `\" \\ \r \n \t \0 \' \xHH \u{H…}` that denotes the string                  (`StrBody`)
    4. escapes in character literals: `'\n'`, `'\x41'`, `'\u{41}'` …               (`CharSpell`)
    5. leading zeros in repetition bounds and slice indices: `{007}`, `PEEK[-01..]`
       (`NumSpell`, `IntSpell`; any number of them since the `fix:` commit 6f76b47)
    6. a doc line ended by CR LF, or by the end of the text                       (`DocEnd`)
    7. the optional blank or tab between a doc marker and the line                (`DocSp`,
       already in `GrammarText`; since the `fix:` commit 77be14c it belongs to the marker)

  (Texts using them are valid pest and are accepted by the implementation, so the exactness
  theorem of Props/C10Exact.lean needs them.)

  `WF'` is `WF` (Front/Ast.lean) with two conditions weakened to what a text needs to be
  accepted: instead of the bound `|i| ≤ 4294967295` on `PEEK[a..b]` indices (python-pest does
  not range-check them) only "at most 4300 significant digits" (`SliceIdxOK`: CPython's `int()`
  limit, reported as "number too large"); and not "a doc line does not end with CR" (it may, at
  the end of the text; before a line feed the relation `DocEnd` excludes it).

  `ActKV kv kv'`: `kv'` is what the scanner emits for the item `kv` of `g.kv` — the same kind,
  and the same value except for numbers, integers and character literals, whose tokens carry
  the text as spelled.
-/
import PestModel.Front.AstTrivia

namespace Pest
namespace Front

/-! ### spellings of literals and numbers -/

/-- `StrBody body s`: `body` (the text between the quotes of a string literal) consists of
    characters other than `"` and `\`, which denote themselves, and of pest escapes
    (`Unescape.Escape e v`: `\e` denotes the code point `v`), and denotes `s` -/
inductive StrBody : Text → Text → Prop
  | nil : StrBody [] []
  | char (c : Nat) {b s : Text} : c ≠ 92 → c ≠ 34 → StrBody b s → StrBody (c :: b) (c :: s)
  | esc {e : Text} {v : Nat} {b s : Text} : Unescape.Escape e v → StrBody b s →
      StrBody (92 :: (e ++ b)) (v :: s)

/-- `CharSpell a w`: `w` is a character literal for the code point `a`: `'c'` with `c` not a
    backslash, or `'\e'` with a pest escape `e` -/
inductive CharSpell : Nat → Text → Prop
  | raw (c : Nat) : c ≠ 92 → CharSpell c [39, c, 39]
  | esc {e : Text} {v : Nat} : Unescape.Escape e v → CharSpell v (39 :: 92 :: (e ++ [39]))

/-- `NumSpell n w`: `w` is a decimal spelling of `n`: `[0-9]+`, leading zeros allowed -/
def NumSpell (n : Nat) (w : Text) : Prop :=
  w ≠ [] ∧ w.all isDigit = true ∧ digitsVal w = n

/-- `IntSpell i w`: `w` is a spelling of `i` after `integer = @{ number | "-" ~ "0"* ~ '1'..'9' ~ number? }` -/
inductive IntSpell : Int → Text → Prop
  | nonneg {n : Nat} {w : Text} : NumSpell n w → IntSpell (n : Int) w
  | neg {n : Nat} {zs : Text} {d : Nat} {ds : Text} : (∀ z ∈ zs, z = 48) → 49 ≤ d → d ≤ 57 →
      NumSpell n (zs ++ d :: ds) → IntSpell (-(n : Int)) (45 :: (zs ++ d :: ds))

/-- how an item of `g.kv` may be spelled -/
def Spells : KV → Text → Prop
  | (.string, s), w => ∃ body, w = 34 :: (body ++ [34]) ∧ StrBody body s
  | (.stringCI, s), w =>
    ∃ ws body, IsTrivia ws ∧ w = 94 :: (ws ++ 34 :: (body ++ [34])) ∧ StrBody body s
  | (.char, v), w => ∃ a, v = charLit a ∧ CharSpell a w
  | (.number, v), w => ∃ n, v = natDigits n ∧ NumSpell n w
  | (.integer, v), w => ∃ i, v = intDigits i ∧ IntSpell i w
  | (_, v), w => w = v

/-- the value of the token the scanner emits for an item of `g.kv`: the item's value, except
    for numbers, integers and character literals, which keep their spelling -/
def ActVal : KV → Text → Prop
  | (.char, v), w => ∃ a, v = charLit a ∧ CharSpell a w
  | (.number, v), w => ∃ n, v = natDigits n ∧ NumSpell n w
  | (.integer, v), w => ∃ i, v = intDigits i ∧ IntSpell i w
  | (_, v), w => w = v

/-- `kv'` is a token (kind, value) the scanner may emit for the item `kv` of `g.kv` -/
def ActKV (kv kv' : KV) : Prop := kv'.1 = kv.1 ∧ ActVal kv kv'.2

/-- pointwise `ActKV` -/
inductive Act : List KV → List KV → Prop
  | nil : Act [] []
  | cons {kv kv' : KV} {l l' : List KV} : ActKV kv kv' → Act l l' → Act (kv :: l) (kv' :: l')

/-! ### the layout -/

/-- `t` is the tokens `kvs`, each in one of its spellings and followed by some trivia, and then `tl` -/
inductive Sc' : List KV → Text → Text → Prop
  | nil (tl : Text) : Sc' [] tl tl
  | cons (kv : KV) {kvs : List KV} {w ws t tl : Text} : Spells kv w → IsTrivia ws → Sc' kvs t tl →
      Sc' (kv :: kvs) (w ++ (ws ++ t)) tl

/-- what may follow the doc line `l`: the end of the text, a line feed (then `l` does not end
    with CR — the CR would belong to the line break), or CR LF -/
def DocEnd (l rest : Text) : Prop :=
  rest = [] ∨ (∃ r, rest = 10 :: r ∧ l.getLast? ≠ some 13) ∨ ∃ r, rest = 13 :: 10 :: r

/-- doc lines with marker `m`: marker, optional blank (`DocSp`), line, then (`DocEnd`) the end
    of the text or trivia that starts with the line break; then `tl` -/
def DocsText' (m : Text) : List Text → Text → Text → Prop
  | [], t, tl => t = tl
  | l :: ls, t, tl => ∃ sp ws t', DocSp sp l ∧ IsTrivia ws ∧ t = m ++ (sp ++ (l ++ (ws ++ t'))) ∧
      DocEnd l (ws ++ t') ∧ DocsText' m ls t' tl

def RulesText' : List SRule → Text → Text → Prop
  | [], t, tl => t = tl
  | r :: rs, t, tl => ∃ t1 t2, DocsText' sRDOC r.docs t t1 ∧ Sc' r.headKV t1 t2 ∧ RulesText' rs t2 tl

/-- the end of the text: nothing, or a line comment without its line break -/
def EndC (e : Text) : Prop :=
  e = [] ∨ ∃ r, e = 47 :: 47 :: r ∧ (∀ c ∈ r, c ≠ 10) ∧ r.head? ≠ some 47 ∧ r.head? ≠ some 33

/-- `t` is a layout of `g` -/
def GrammarText' (g : SGrammar) (t : Text) : Prop :=
  ∃ lead t0 t1 t2 e, IsTrivia lead ∧ t = lead ++ t0 ∧ DocsText' sGDOC g.gdocs t0 t1 ∧
    RulesText' g.rules t1 t2 ∧ DocsText' sRDOC g.trailing t2 e ∧ EndC e

/-! ### well-formedness -/

/-- a doc line contains no line feed (hence no line break) -/
def NoLF (l : Text) : Prop := ∀ c ∈ l, c ≠ 10

/-- the index of a `PEEK[a..b]` slice has at most 4300 significant digits (python-pest does not
    range-check slice indices, but CPython's `int()` refuses longer digit strings and the front
    end reports "number too large") -/
def SliceIdxOK : Option Int → Prop
  | some i => (natDigits i.natAbs).length ≤ 4300
  | none => True

mutual
def SNode.WF' : SNode → Prop
  | .range a b => a ≤ b
  | .ident name => IsIdent name
  | .slice a b => SliceIdxOK a ∧ SliceIdxOK b
  | .push _ e => e.WF'
  | .paren _ e => e.WF'
  | _ => True
def STerm.WF' : STerm → Prop
  | .mk tag _ node post =>
    (match tag with | some t => IsTagName t | none => True) ∧ node.WF' ∧ ∀ p ∈ post, WFPost p
def SExpr.WF' : SExpr → Prop
  | .one t => t.WF'
  | .cons t _ rest => t.WF' ∧ rest.WF'
end

def SRule.WF' (r : SRule) : Prop :=
  (∀ l ∈ r.docs, NoLF l) ∧ IsIdent r.name ∧
    (match r.mod with | some c => c = 95 ∨ c = 64 ∨ c = 36 ∨ c = 33 | none => True) ∧ r.body.WF'

def SGrammar.WF' (g : SGrammar) : Prop :=
  (∀ l ∈ g.gdocs, NoLF l) ∧ (∀ r ∈ g.rules, r.WF') ∧ (∀ l ∈ g.trailing, NoLF l)

end Front
end Pest
