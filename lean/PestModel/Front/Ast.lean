/-
  Front/Ast.lean — the *source-level* syntax of a pest grammar (what a grammar text is, in the
  shape of pest's meta-grammar: `expression = choice_operator? ~ term ~ (infix_operator ~ term)*`,
  `term = node_tag? ~ prefix_operator* ~ node ~ postfix_operator*`), its canonical printer, the
  token sequence the printer's output must scan to, and the rule table it denotes.
  Used by Props/C10.lean to state the round trip `load (pretty g) = den g`.

    pretty  : every token followed by one blank; doc comments on lines of their own, one
              blank between the marker and the line
    kv      : kinds and values of the tokens of `pretty` (starts are whatever the scanner says)
    den     : the `Pest.Expr` trees python-pest is to build — operator precedence (`~` binds
              tighter than `|`), n-ary `seq`/`choice` for the right-nested chains, prefix
              operators outside postfix operators, postfix operators innermost first, `Group`
              for parentheses, tags where the tree can hold them, PEEK/POP/… as their own nodes,
              slices, decoded literals, bounds, modifiers, doc lines
-/
import PestModel.Front.Parse

namespace Pest
namespace Front

/-- a postfix operator: `? * + {n} {n,} {,n} {m,n}` -/
inductive Post
  | opt | rep | rep1 | exact (n : Nat) | min (n : Nat) | max (n : Nat) | minmax (m n : Nat)
deriving Repr, DecidableEq

mutual
/-- `node` of the meta-grammar -/
inductive SNode
  | str (s : Text)                    -- "…"   (s = the decoded string)
  | ci (s : Text)                     -- ^"…"
  | range (a b : Nat)                 -- 'a'..'b'
  | ident (name : Text)               -- identifier (including PEEK POP DROP PEEK_ALL POP_ALL)
  | pushLit (s : Text)                -- PUSH_LITERAL("…")
  | push (bar : Bool) (e : SExpr)     -- PUSH( |? e )
  | slice (a b : Option Int)          -- PEEK[a..b]
  | paren (bar : Bool) (e : SExpr)    -- ( |? e )
/-- `term`: tag, prefix operators (`true` = `&`, `false` = `!`), node, postfix operators -/
inductive STerm
  | mk (tag : Option Text) (pre : List Bool) (node : SNode) (post : List Post)
/-- `term (infix_operator term)*`; `bar = true`: the operator is `|`, else `~` -/
inductive SExpr
  | one (t : STerm)
  | cons (t : STerm) (bar : Bool) (rest : SExpr)
end

/-- a rule with the doc comments before it; `mod` = the modifier character, if any;
    `bar` = a leading `|` in the body -/
structure SRule where
  docs : List Text
  name : Text
  mod : Option Nat
  bar : Bool
  body : SExpr

structure SGrammar where
  gdocs : List Text          -- `//!` lines
  rules : List SRule
  trailing : List Text       -- `///` lines after the last rule

/-! ### decimal numbers -/

/-- the decimal digits of `n`, most significant first (`fuel` ≥ number of digits) -/
def natDigitsAux : Nat → Nat → List Nat → List Nat
  | 0, _, acc => acc
  | fuel + 1, n, acc =>
    if n < 10 then (48 + n) :: acc else natDigitsAux fuel (n / 10) ((48 + n % 10) :: acc)

def natDigits (n : Nat) : Text := natDigitsAux (n + 1) n []

def intDigits (i : Int) : Text :=
  if i < 0 then 45 :: natDigits i.natAbs else natDigits i.toNat

/-! ### literals -/

/-- the body of a string literal for a decoded string: `"` and `\` escaped, everything else raw -/
def escapeBody : Text → Text
  | [] => []
  | c :: r => if c = 34 ∨ c = 92 then 92 :: c :: escapeBody r else c :: escapeBody r

/-- a character literal: `'\\'` for a backslash, the raw character otherwise -/
def charLit (c : Nat) : Text := if c = 92 then [39, 92, 92, 39] else [39, c, 39]

/-! ### the token sequence (kind, value) -/

abbrev KV := TK × Text

def postKV : Post → List KV
  | .opt => [(.optionOp, [63])]
  | .rep => [(.repeatOp, [42])]
  | .rep1 => [(.repeatOnceOp, [43])]
  | .exact n => [(.lbrace, [123]), (.number, natDigits n), (.rbrace, [125])]
  | .min n => [(.lbrace, [123]), (.number, natDigits n), (.comma, [44]), (.rbrace, [125])]
  | .max n => [(.lbrace, [123]), (.comma, [44]), (.number, natDigits n), (.rbrace, [125])]
  | .minmax m n =>
    [(.lbrace, [123]), (.number, natDigits m), (.comma, [44]), (.number, natDigits n), (.rbrace, [125])]

def preKV (b : Bool) : KV := if b then (.posPred, [38]) else (.negPred, [33])

def barKV (b : Bool) : List KV := if b then [(.choiceOp, [124])] else []

def opKV (bar : Bool) : KV := if bar then (.choiceOp, [124]) else (.sequenceOp, [126])

def tagKV : Option Text → List KV
  | none => []
  | some t => [(.tag, 35 :: t), (.assignOp, [61])]

def optIntKV : Option Int → List KV
  | none => []
  | some i => [(.integer, intDigits i)]

mutual
def SNode.kv : SNode → List KV
  | .str s => [(.string, s)]
  | .ci s => [(.stringCI, s)]
  | .range a b => [(.char, charLit a), (.rangeOp, [46, 46]), (.char, charLit b)]
  | .ident name => [(keywordKind name, name)]
  | .pushLit s => [(.pushLiteral, sPUSH_LITERAL), (.lparen, [40]), (.string, s), (.rparen, [41])]
  | .push bar e => [(.push, sPUSH), (.lparen, [40])] ++ barKV bar ++ e.kv ++ [(.rparen, [41])]
  | .slice a b =>
    [(.peek, sPEEK), (.lbracket, [91])] ++ optIntKV a ++ [(.rangeOp, [46, 46])] ++ optIntKV b ++ [(.rbracket, [93])]
  | .paren bar e => [(.lparen, [40])] ++ barKV bar ++ e.kv ++ [(.rparen, [41])]
def STerm.kv : STerm → List KV
  | .mk tag pre node post => tagKV tag ++ pre.map preKV ++ node.kv ++ (post.map postKV).flatten
def SExpr.kv : SExpr → List KV
  | .one t => t.kv
  | .cons t bar rest => t.kv ++ [opKV bar] ++ rest.kv
end

def docKV (marker : TK) (m : Text) (line : Text) : List KV := [(marker, m), (.commentText, line)]

def modKV : Option Nat → List KV
  | none => []
  | some c => [(.modifier, [c])]

def SRule.kv (r : SRule) : List KV :=
  (r.docs.map (docKV .ruleDoc sRDOC)).flatten ++
    [(.identifier, r.name), (.assignOp, [61])] ++ modKV r.mod ++ [(.lbrace, [123])] ++ barKV r.bar ++
    r.body.kv ++ [(.rbrace, [125])]

def SGrammar.kv (g : SGrammar) : List KV :=
  (g.gdocs.map (docKV .grammarDoc sGDOC)).flatten ++ (g.rules.map SRule.kv).flatten ++
    (g.trailing.map (docKV .ruleDoc sRDOC)).flatten

/-! ### the canonical text -/

/-- how a token is spelled -/
def spell : KV → Text
  | (.string, s) => 34 :: escapeBody s ++ [34]
  | (.stringCI, s) => 94 :: 34 :: escapeBody s ++ [34]
  | (_, v) => v

/-- every token followed by one blank -/
def spellAll (kvs : List KV) : Text := (kvs.map fun kv => spell kv ++ [32]).flatten

/-- a doc line as printed: marker, the separating blank (always written: it belongs to the
    marker, `"///" ~ space? ~ inner_doc`, so a line that itself starts with a blank survives
    re-reading), the line, a line feed -/
def docLine (m : Text) (line : Text) : Text := m ++ 32 :: line ++ [10]

def SRule.pretty (r : SRule) : Text :=
  (r.docs.map (docLine sRDOC)).flatten ++
    spellAll ([(.identifier, r.name), (.assignOp, [61])] ++ modKV r.mod ++ [(.lbrace, [123])] ++
      barKV r.bar ++ r.body.kv ++ [(.rbrace, [125])]) ++ [10]

def SGrammar.pretty (g : SGrammar) : Text :=
  (g.gdocs.map (docLine sGDOC)).flatten ++ (g.rules.map SRule.pretty).flatten ++
    (g.trailing.map (docLine sRDOC)).flatten

/-! ### what the text denotes -/

def applyPost (e : Expr) : Post → Expr
  | .opt => .opt e
  | .rep => .rep e
  | .rep1 => .rep1 e
  | .exact n => .repExact e n
  | .min n => .repMin e n
  | .max n => .repMax e n
  | .minmax m n => .repMinMax e m n

def applyPre (b : Bool) (e : Expr) : Expr := if b then .andP e else .notP e

/-- `seq`/`choice` of one element is the element -/
def mkSeq : List Expr → Expr
  | [e] => e
  | es => .seq es

def mkChoice : List Expr → Expr
  | [e] => e
  | es => .choice es

/-- an identifier node: the stack keywords, a built-in (tag dropped), or a reference -/
def identExpr (builtins : List String) (name : Text) (tag : Option String) : Expr :=
  match keywordKind name with
  | .peek => .peek
  | .peekAll => .peekAll
  | .pop => .pop
  | .popAll => .popAll
  | .drop => .drop
  | _ =>
    let n := nameOf name
    if n != "EOI" && builtins.contains n then .ident n none else .ident n tag

/-- put an element in front of the first group -/
def consGroup (x : Expr) : List (List Expr) → List (List Expr)
  | g :: gs => (x :: g) :: gs
  | [] => [[x]]          -- not reached: `groups` is never empty

mutual
/-- `tag` = the tag the node may show (that of its term when the term has no prefix operator) -/
def SNode.den (builtins : List String) (tag : Option String) : SNode → Expr
  | .str s => .str s
  | .ci s => .ci s
  | .range a b => .range a b
  | .ident name => identExpr builtins name tag
  | .pushLit s => .pushLit s
  | .push _ e => .push (e.den builtins)
  | .slice a b => .peekSlice a b
  | .paren _ e => .group (e.den builtins) tag
def STerm.den (builtins : List String) : STerm → Expr
  | .mk tag pre node post =>
    let shown := if pre.isEmpty then tag.map nameOf else none
    pre.foldr applyPre (post.foldl applyPost (node.den builtins shown))
/-- the alternatives of an expression, each a list of sequence elements:
    `a ~ b | c ~ d | e` ↦ `[[a, b], [c, d], [e]]` -/
def SExpr.groups (builtins : List String) : SExpr → List (List Expr)
  | .one t => [[t.den builtins]]
  | .cons t true rest => [t.den builtins] :: rest.groups builtins
  | .cons t false rest => consGroup (t.den builtins) (rest.groups builtins)
def SExpr.den (builtins : List String) (e : SExpr) : Expr :=
  mkChoice ((e.groups builtins).map mkSeq)
end

def SRule.den (builtins : List String) (r : SRule) : FRule :=
  ⟨nameOf r.name, (r.mod.map fun c => modifierBits [c]).getD 0, r.body.den builtins, r.docs⟩

/-- the rule table: dictionary semantics for a name defined more than once -/
def SGrammar.den (builtins : List String) (g : SGrammar) : Loaded :=
  ⟨g.rules.foldl (fun acc r => dictSet acc (r.den builtins)) [], g.gdocs⟩

/-! ### well-formedness: the pieces are spellable -/

/-- `RE_IDENTIFIER` matches the whole name -/
def IsIdent (name : Text) : Prop := mIdentifier name = some name.length

/-- a tag name: `[_a-zA-Z][_a-zA-Z0-9]*` -/
def IsTagName (t : Text) : Prop :=
  match t with
  | c :: r => isIdentStart c = true ∧ r.all isIdentChar = true
  | [] => False

/-- a doc line: no line break inside, and no `\r` at its end (it would pair with the `\n`) -/
def IsDocLine (l : Text) : Prop := findNewline (l ++ [10]) = some l.length

/-- the optional blank between a doc marker and the line `l` (`space?` of `grammar_doc` /
    `line_doc`: it belongs to the marker): a blank, a tab, or nothing — nothing only if `l` does
    not itself start with a blank or a tab (which would then be read as the marker's) -/
def DocSp (sp l : Text) : Prop :=
  sp = [32] ∨ sp = [9] ∨ (sp = [] ∧ l.head? ≠ some 32 ∧ l.head? ≠ some 9)

def WFPost : Post → Prop
  | .exact n | .min n | .max n => n ≤ 4294967295
  | .minmax m n => m ≤ 4294967295 ∧ n ≤ 4294967295
  | _ => True

mutual
def SNode.WF : SNode → Prop
  | .range a b => a ≤ b
  | .ident name => IsIdent name
  | .slice a b =>
    (match a with | some i => i.natAbs ≤ 4294967295 | none => True) ∧
    (match b with | some i => i.natAbs ≤ 4294967295 | none => True)
  | .push _ e => e.WF
  | .paren _ e => e.WF
  | _ => True
def STerm.WF : STerm → Prop
  | .mk tag _ node post =>
    (match tag with | some t => IsTagName t | none => True) ∧ node.WF ∧ ∀ p ∈ post, WFPost p
def SExpr.WF : SExpr → Prop
  | .one t => t.WF
  | .cons t _ rest => t.WF ∧ rest.WF
end

def SRule.WF (r : SRule) : Prop :=
  (∀ l ∈ r.docs, IsDocLine l) ∧ IsIdent r.name ∧
    (match r.mod with | some c => c = 95 ∨ c = 64 ∨ c = 36 ∨ c = 33 | none => True) ∧ r.body.WF

def SGrammar.WF (g : SGrammar) : Prop :=
  (∀ l ∈ g.gdocs, IsDocLine l) ∧ (∀ r ∈ g.rules, r.WF) ∧ (∀ l ∈ g.trailing, IsDocLine l)

end Front
end Pest
