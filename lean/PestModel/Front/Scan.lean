/-
  Front/Scan.lean — executable mirror of src/pest/grammar/scanner.py (after the `fix:`
  commits edfb74e … 21d7862 of /repo), method by method.

  The scanner only ever moves forward, so its state is the *remaining* text together with the
  two counters of the Python object (`pos`, `start`) and the tokens emitted so far:
  `self.grammar[self.pos:]` is `St.rest`, `len(self.grammar)` is `pos + rest.length`.
  Every regular expression of the module is a small hand-written matcher on the remaining text
  returning the length of the match (`pattern.match(self.grammar, self.pos)`); the recursive
  block-comment pattern is a nesting counter.  `self.error(msg)` is the result `.err`, carrying
  what the raised `PestGrammarSyntaxError` carries: the message (as an `EK` constructor), and the
  error token's `start` and `value` (`self.grammar[self.pos : self.pos + 1]`).

  Python indexing: the repaired scanner has no subscript that can fail — `next`/`peek` catch
  `IndexError`, everything else is a slice — so the scanner proper has no `exc` result; the
  calls to `unescape_string` keep theirs (`Unescape.Res.exc`, shown unreachable in
  Props/C12Escapes.lean and Props/C11.lean).

  Recursion: `accept_expression → accept_term → accept_terminal → accept_expression` is open
  recursion over a depth fuel (`acceptExpression (fuel+1) = exprStep (acceptExpression fuel)`);
  every `while True:` loop carries its own iteration bound (remaining length + 1).  Running out of
  either is the result `.oof`; Props/C11.lean shows it unreachable for fuel `text.length + 1`.
-/
import PestModel.Unescape

namespace Pest
namespace Front

abbrev Text := List Nat

/-- `TokenKind` of src/pest/grammar/tokens.py (the members the front end uses) -/
inductive TK
  | eoi | error | commentText | identifier | assignOp | modifier | lbrace | rbrace | choiceOp
  | sequenceOp | tag | posPred | negPred | char | comma | drop | grammarDoc | lbracket | lparen
  | peek | peekAll | repeatOnceOp | pop | popAll | push | pushLiteral | optionOp | rangeOp
  | rbracket | rparen | ruleDoc | repeatOp | string | stringCI | number | integer
deriving DecidableEq, Repr, Inhabited

def TK.name : TK → String
  | .eoi => "EOI" | .error => "ERROR" | .commentText => "COMMENT_TEXT" | .identifier => "IDENTIFIER"
  | .assignOp => "ASSIGN_OP" | .modifier => "MODIFIER" | .lbrace => "LBRACE" | .rbrace => "RBRACE"
  | .choiceOp => "CHOICE_OP" | .sequenceOp => "SEQUENCE_OP" | .tag => "TAG"
  | .posPred => "POSITIVE_PREDICATE" | .negPred => "NEGATIVE_PREDICATE" | .char => "CHAR"
  | .comma => "COMMA" | .drop => "DROP" | .grammarDoc => "GRAMMAR_DOC" | .lbracket => "LBRACKET"
  | .lparen => "LPAREN" | .peek => "PEEK" | .peekAll => "PEEK_ALL" | .repeatOnceOp => "REPEAT_ONCE_OP"
  | .pop => "POP" | .popAll => "POP_ALL" | .push => "PUSH" | .pushLiteral => "PUSH_LITERAL"
  | .optionOp => "OPTION_OP" | .rangeOp => "RANGE_OP" | .rbracket => "RBRACKET" | .rparen => "RPAREN"
  | .ruleDoc => "RULE_DOC" | .repeatOp => "REPEAT_OP" | .string => "STRING" | .stringCI => "STRING_CI"
  | .number => "NUMBER" | .integer => "INTEGER"

/-- `Token(kind, value, start, grammar)` -/
structure Token where
  kind : TK
  value : Text
  start : Nat
deriving DecidableEq, Repr, Inhabited

/-- the messages of the `PestGrammarSyntaxError`s the front end raises -/
inductive EK
  | expectedRule            -- "expected a rule"
  | expectedAssign          -- "expected the assignment operator"
  | expectedLBrace          -- "expected an opening brace"
  | expectedRBrace          -- "expected a closing brace"
  | expectedLParen          -- "expected an opening paren"
  | expectedRParen          -- "expected a closing paren"
  | expectedRangeOp         -- "expected a range operator"
  | expectedChar            -- "expected a character"
  | invalidEscape           -- "invalid escape"
  | unclosedString          -- "unclosed string starting at index {start}"
  | expectedString          -- "expected a string literal"
  | unescape (e : Unescape.Err)   -- raised by unescape_string
  | unexpected              -- Parser.eat: "unexpected {token.value!r}"
  | unexpectedToken         -- Parser.parse_expression: "unexpected token {kind}"
  | unexpectedOperator      -- Parser.parse_infix_expression: "unexpected operator {kind}"
  | expectedNumberOrComma   -- "expected a number or a comma"
  | rangeOrder              -- "the start of a range must not be greater than its end"
  | numberTooLarge          -- "number too large"
  | numberOverflow          -- "number cannot overflow u32"
deriving DecidableEq, Repr

def EK.slug : EK → String
  | .expectedRule => "expected_a_rule" | .expectedAssign => "expected_the_assignment_operator"
  | .expectedLBrace => "expected_an_opening_brace" | .expectedRBrace => "expected_a_closing_brace"
  | .expectedLParen => "expected_an_opening_paren" | .expectedRParen => "expected_a_closing_paren"
  | .expectedRangeOp => "expected_a_range_operator" | .expectedChar => "expected_a_character"
  | .invalidEscape => "invalid_escape" | .unclosedString => "unclosed_string"
  | .expectedString => "expected_a_string_literal" | .unescape e => "unescape_" ++ e.slug
  | .unexpected => "unexpected" | .unexpectedToken => "unexpected_token"
  | .unexpectedOperator => "unexpected_operator"
  | .expectedNumberOrComma => "expected_a_number_or_a_comma" | .rangeOrder => "range_order"
  | .numberTooLarge => "number_too_large"
  | .numberOverflow => "number_overflow"

/-! ### character classes -/

def isDigit (c : Nat) : Bool := 48 ≤ c && c ≤ 57
def isAlpha (c : Nat) : Bool := (65 ≤ c && c ≤ 90) || (97 ≤ c && c ≤ 122)
/-- `[_a-zA-Z]` -/
def isIdentStart (c : Nat) : Bool := c == 95 || isAlpha c
/-- `[_a-zA-Z0-9]` -/
def isIdentChar (c : Nat) : Bool := isIdentStart c || isDigit c

/-- length of the longest prefix all of whose characters satisfy `p` (`[..]*`) -/
def spanLen (p : Nat → Bool) : Text → Nat
  | [] => 0
  | c :: r => if p c then spanLen p r + 1 else 0

def startsWith : Text → Text → Bool
  | _, [] => true
  | [], _ :: _ => false
  | c :: r, d :: l => c == d && startsWith r l

/-! ### the regular expressions, as `pattern.match(grammar, pos)`: length of the match -/

def sPUSH : Text := [80, 85, 83, 72]
def sPUSH_LITERAL : Text := [80, 85, 83, 72, 95, 76, 73, 84, 69, 82, 65, 76]

/-- a fixed string (`RE_GRAMMAR_DOC`, `RE_RULE_DOC`, `RE_PUSH`, `RE_PUSH_LITERAL`, `RE_RANGE_OP`) -/
def mLit (lit : Text) (t : Text) : Option Nat := if startsWith t lit then some lit.length else none

/-- `RE_IDENTIFIER = (?!PUSH)[_a-zA-Z][_a-zA-Z0-9]*` -/
def mIdentifier (t : Text) : Option Nat :=
  if startsWith t sPUSH then none
  else match t with
    | c :: r => if isIdentStart c then some (spanLen isIdentChar r + 1) else none
    | [] => none

/-- `RE_TAG = #[_a-zA-Z][_a-zA-Z0-9]*` -/
def mTag : Text → Option Nat
  | 35 :: c :: r => if isIdentStart c then some (spanLen isIdentChar r + 2) else none
  | _ => none

/-- `RE_NUMBER = [0-9]+` -/
def mNumber (t : Text) : Option Nat :=
  let n := spanLen isDigit t
  if n = 0 then none else some n

/-- `RE_INTEGER = [0-9]+|-0*[1-9][0-9]*` -/
def mInteger (t : Text) : Option Nat :=
  match mNumber t with
  | some n => some n
  | none =>
    match t with
    | 45 :: r =>
      let z := spanLen (· == 48) r
      match r.drop z with
      | d :: r' => if 49 ≤ d && d ≤ 57 then some (1 + z + 1 + spanLen isDigit r') else none
      | [] => none
    | _ => none

/-- `RE_MODIFIER = [_@\$!]` -/
def mModifier : Text → Option Nat
  | c :: _ => if c == 95 || c == 64 || c == 36 || c == 33 then some 1 else none
  | [] => none

/-- `RE_WHITESPACE = (?:[ \t\n]|\r\n)+` -/
def wsLen : Text → Nat
  | [] => 0
  | 13 :: 10 :: r => wsLen r + 2
  | c :: r => if c == 32 || c == 9 || c == 10 then wsLen r + 1 else 0

def mWhitespace (t : Text) : Option Nat :=
  let n := wsLen t
  if n = 0 then none else some n

/-- `RE_LINE_COMMENT = //(?!/|!).*` (`.` is anything but `\n`) -/
def mLineComment : Text → Option Nat
  | 47 :: 47 :: r =>
    match r with
    | c :: _ => if c == 47 || c == 33 then none else some (2 + spanLen (· != 10) r)
    | [] => some 2
  | _ => none

/-- the body of `RE_BLOCK_COMMENT = /\*(?:[^*/]|\*(?!/)|/(?!\*)|(?R))*\*/` after an opening `/*`,
    with `depth` further comments open around it: `*/` closes one level, `/*` opens one, any
    other character is skipped; `none` at the end of the text.  (The four alternatives of the
    pattern exclude each other on their first two characters, so the match is unique.) -/
def blockBody : Nat → Text → Option Nat
  | _, [] => none
  | depth, 42 :: 47 :: r =>
    match depth with
    | 0 => some 2
    | d + 1 => (blockBody d r).map (· + 2)
  | depth, 47 :: 42 :: r => (blockBody (depth + 1) r).map (· + 2)
  | depth, _ :: r => (blockBody depth r).map (· + 1)

def mBlockComment : Text → Option Nat
  | 47 :: 42 :: r => (blockBody 0 r).map (· + 2)
  | _ => none

/-- `RE_ESCAPE = [\\"rnt0']|x[0-9a-fA-F]{2}|u\{[0-9a-fA-F]{2,6}\}` -/
def mEscape (t : Text) : Option Nat := Unescape.escapeLen t

/-- `RE_CHAR = '(?:\\(?:<RE_ESCAPE>)|[^\\])'` -/
def mChar : Text → Option Nat
  | 39 :: 92 :: r =>
    match mEscape r with
    | some n => if (r.drop n).head? = some 39 then some (n + 3) else none
    | none => none
  | 39 :: _ :: 39 :: _ => some 3
  | _ => none

/-- `RE_NEWLINE.search(grammar, pos)`: distance to the first `\n` or `\r\n` -/
def findNewline : Text → Option Nat
  | [] => none
  | 10 :: _ => some 0
  | 13 :: 10 :: _ => some 0
  | _ :: r => (findNewline r).map (· + 1)

/-! ### scanner state -/

structure St where
  rest : Text            -- self.grammar[self.pos:]
  pos : Nat              -- self.pos
  start : Nat            -- self.start
  toks : List Token      -- self.tokens, most recent first
deriving Repr

/-- what a scanner method does: returns normally (value, new state), or raises
    `PestGrammarSyntaxError(msg, token=Token(ERROR, value, start))`, or the model ran out of
    fuel -/
inductive SR (α : Type)
  | ok (a : α) (s : St)
  | err (k : EK) (start : Nat) (value : Text)
  | exc (name : String)        -- a Python exception that is not a PestGrammarError
  | oof

abbrev M (α : Type) := St → SR α

@[inline] def M.pure {α} (a : α) : M α := fun s => .ok a s
@[inline] def M.bind {α β} (m : M α) (f : α → M β) : M β := fun s =>
  match m s with
  | .ok a s' => f a s'
  | .err k st v => .err k st v
  | .exc n => .exc n
  | .oof => .oof

instance : Monad M where
  pure := M.pure
  bind := M.bind

/-- `self.pos += n` -/
def St.adv (s : St) (n : Nat) : St := { s with rest := s.rest.drop n, pos := s.pos + n }

/-- `self.emit(kind, value)` -/
def St.emit (s : St) (kind : TK) (value : Text) : St :=
  { s with toks := ⟨kind, value, s.start⟩ :: s.toks, start := s.pos }

/-- `self.peek()` (`none` = the empty string at the end of the text) -/
def St.peek (s : St) : Option Nat := s.rest.head?

/-- `self.error(message)` -/
def error {α} (k : EK) : M α := fun s => .err k s.start (s.rest.take 1)

/-- `self.skip(pattern)` -/
def skip (m : Text → Option Nat) (s : St) : Bool × St :=
  match m s.rest with
  | some n => let s' := s.adv n; (true, { s' with start := s'.pos })
  | none => (false, s)

/-- one evaluation of the tuple `(skip(RE_WHITESPACE), skip(RE_LINE_COMMENT), skip(RE_BLOCK_COMMENT))` -/
def triviaRound (s : St) : Bool × St :=
  let (a, s) := skip mWhitespace s
  let (b, s) := skip mLineComment s
  let (c, s) := skip mBlockComment s
  (a || b || c, s)

def skipTriviaN : Nat → St → St
  | 0, s => s
  | n + 1, s =>
    let (any, s') := triviaRound s
    if any then skipTriviaN n s' else s'

/-- `self.skip_trivia()`: rounds until none of the three patterns matches (every successful
    round consumes a character, so `rest.length + 1` rounds suffice: `skipTrivia_done`) -/
def skipTrivia (s : St) : St := skipTriviaN (s.rest.length + 1) s

def triv : M Unit := fun s => .ok () (skipTrivia s)

/-- `if value := self.scan(pattern): self.emit(kind, value)`; returns whether it matched -/
def scanEmit (m : Text → Option Nat) (kind : TK) : M Bool := fun s =>
  match m s.rest with
  | some n => .ok true ((s.adv n).emit kind (s.rest.take n))
  | none => .ok false s

/-- `if self.peek() == c: self.emit(kind, self.next()) else: self.error(msg)` -/
def expect (c : Nat) (kind : TK) (k : EK) : M Unit := fun s =>
  if s.peek = some c then .ok () ((s.adv 1).emit kind [c]) else error k s

/-- `if self.peek() == c: self.emit(kind, self.next())`; returns whether it did -/
def optChar (c : Nat) (kind : TK) : M Bool := fun s =>
  if s.peek = some c then .ok true ((s.adv 1).emit kind [c]) else .ok false s

/-! ### strings -/

/-- the `while True:` loop of `accept_string` / `accept_ci_string`; `body` = the characters
    consumed since the opening quote, most recent first (`self.grammar[self.start : self.pos]`);
    `esc` = `needs_unescaping`.

```python
c = self.next()
if c == "\\":
    if self.scan(RE_ESCAPE): needs_unescaping = True
    else: self.error("invalid escape")
if not c: self.error(f"unclosed string starting at index {self.start}")
if c == '"':
    value = self.grammar[self.start : self.pos - 1]
    if needs_unescaping: value = unescape_string(value, Token(kind, value, self.start, ...))
    self.emit(kind, value); return True
``` -/
def stringLoop (kind : TK) : Nat → Text → Bool → M Bool
  | 0, _, _ => fun _ => .oof
  | n + 1, body, esc => fun s =>
    match s.rest with
    | [] => .err .unclosedString s.start []
    | 92 :: r =>
      let s1 := s.adv 1
      match mEscape r with
      | some k => stringLoop kind n ((r.take k).reverse ++ 92 :: body) true (s1.adv k)
      | none => error .invalidEscape s1
    | 34 :: _ =>
      let s1 := s.adv 1
      let raw := body.reverse
      if esc then
        match Unescape.unescape raw with
        | .ok v => .ok true (s1.emit kind v)
        | .error e => .err (.unescape e) s.start raw
        | .exc name => .exc name
      else .ok true (s1.emit kind raw)
    | c :: _ => stringLoop kind n (c :: body) esc (s.adv 1)

/-- ```python
if self.peek() != '"': return False
self.pos += 1; self.start = self.pos
<loop>
``` -/
def acceptString : M Bool := fun s =>
  if s.peek = some 34 then
    let s1 := s.adv 1
    stringLoop .string (s1.rest.length + 1) [] false { s1 with start := s1.pos }
  else .ok false s

/-- ```python
if self.peek() != "^": return False
self.pos += 1; self.start = self.pos; self.skip_trivia()
if self.peek() != '"': self.error("expected a string literal")
self.pos += 1; self.start = self.pos
<loop>
``` -/
def acceptCIString : M Bool := fun s =>
  if s.peek = some 94 then
    let s1 := s.adv 1
    let s2 := skipTrivia { s1 with start := s1.pos }
    if s2.peek = some 34 then
      let s3 := s2.adv 1
      stringLoop .stringCI (s3.rest.length + 1) [] false { s3 with start := s3.pos }
    else error .expectedString s2
  else .ok false s

/-! ### postfix operators -/

/-- ```python
while True:
    self.skip_trivia()
    if self.peek() == ",": self.emit(COMMA, self.next())
    elif value := self.scan(RE_NUMBER): self.emit(NUMBER, value)
    else: break
``` -/
def boundsLoop : Nat → M Unit
  | 0 => fun _ => .oof
  | n + 1 => fun s0 =>
    let s := skipTrivia s0
    if s.peek = some 44 then boundsLoop n ((s.adv 1).emit .comma [44])
    else match mNumber s.rest with
      | some k => boundsLoop n ((s.adv k).emit .number (s.rest.take k))
      | none => .ok () s

/-- `accept_postfix_op` -/
def acceptPostfixOp : M Bool := fun s0 =>
  let s := skipTrivia s0
  if s.peek = some 63 then .ok true ((s.adv 1).emit .optionOp [63])
  else if s.peek = some 42 then .ok true ((s.adv 1).emit .repeatOp [42])
  else if s.peek = some 43 then .ok true ((s.adv 1).emit .repeatOnceOp [43])
  else if s.peek = some 123 then
    let s1 := (s.adv 1).emit .lbrace [123]
    (do boundsLoop (s1.rest.length + 1)
        triv
        expect 125 .rbrace .expectedRBrace
        pure true : M Bool) s1
  else .ok false s

/-- `accept_postfix_ops`: `while self.accept_postfix_op(): pass` -/
def postfixLoop : Nat → M Unit
  | 0 => fun _ => .oof
  | n + 1 => do
    let b ← acceptPostfixOp
    if b then postfixLoop n else pure ()

def acceptPostfixOps : M Unit := fun s => postfixLoop (s.rest.length + 1) s

/-! ### terminals -/

def sPEEK : Text := [80, 69, 69, 75]
def sPEEK_ALL : Text := [80, 69, 69, 75, 95, 65, 76, 76]
def sPOP : Text := [80, 79, 80]
def sPOP_ALL : Text := [80, 79, 80, 95, 65, 76, 76]
def sDROP : Text := [68, 82, 79, 80]

/-- `KEYWORDS.get(value, TokenKind.IDENTIFIER)` -/
def keywordKind (v : Text) : TK :=
  if v = sPEEK then .peek else if v = sPEEK_ALL then .peekAll else if v = sPOP then .pop
  else if v = sPOP_ALL then .popAll else if v = sDROP then .drop else .identifier

/-- `if value := self.scan(RE_IDENTIFIER): kind = KEYWORDS.get(…); self.emit(kind, value)` -/
def scanIdent : M (Option TK) := fun s =>
  match mIdentifier s.rest with
  | some n =>
    let v := s.rest.take n
    .ok (some (keywordKind v)) ((s.adv n).emit (keywordKind v) v)
  | none => .ok none s

/-- `if value := self.scan(RE_INTEGER): self.emit(INTEGER, value); self.skip_trivia()` -/
def optInteger : M Unit := do
  let b ← scanEmit mInteger .integer
  if b then triv else pure ()

/-- `if value := self.scan(p): self.emit(kind, value) else: self.error(msg)` -/
def scanOrError (m : Text → Option Nat) (kind : TK) (k : EK) : M Unit := do
  let b ← scanEmit m kind
  if b then pure () else error k

def sDOTS : Text := [46, 46]

/-- the rest of `accept_terminal` after `PEEK` was emitted -/
def peekTail : M Bool := do
  triv
  let b ← optChar 91 .lbracket
  if b then do
    triv
    optInteger
    scanOrError (mLit sDOTS) .rangeOp .expectedRangeOp
    triv
    optInteger
    expect 93 .rbracket .expectedRParen
    pure true
  else pure true

/-- the `RE_CHAR` branch of `accept_terminal` -/
def charRange : M Bool := do
  let b ← scanEmit mChar .char
  if b then do
    triv
    scanOrError (mLit sDOTS) .rangeOp .expectedRangeOp
    triv
    scanOrError mChar .char .expectedChar
    pure true
  else pure false

/-- `accept_terminal`; `recExpr` = `self.accept_expression` -/
def acceptTerminal (recExpr : M Unit) : M Bool := do
  let b ← scanEmit (mLit sPUSH_LITERAL) .pushLiteral
  if b then do
    triv
    expect 40 .lparen .expectedLParen
    triv
    let _ ← acceptString
    triv
    expect 41 .rparen .expectedRParen
    pure true
  else do
    let b ← scanEmit (mLit sPUSH) .push
    if b then do
      triv
      expect 40 .lparen .expectedLParen
      triv
      recExpr
      triv
      expect 41 .rparen .expectedRParen
      pure true
    else do
      let k ← scanIdent
      match k with
      | some kind => if kind = .peek then peekTail else pure true
      | none => do
        let b ← acceptString
        if b then pure true
        else do
          let b ← acceptCIString
          if b then pure true else charRange

/-! ### terms and expressions -/

/-- ```python
if value := self.scan(RE_TAG):
    self.emit(TAG, value); self.skip_trivia()
    if self.peek() == "=": self.emit(ASSIGN_OP, self.next())
    else: self.error("expected the assignment operator")
    self.skip_trivia()
``` -/
def acceptTag : M Unit := do
  let b ← scanEmit mTag .tag
  if b then do
    triv
    expect 61 .assignOp .expectedAssign
    triv
  else pure ()

/-- ```python
while True:
    if self.peek() == "&": self.emit(POSITIVE_PREDICATE, self.next())
    elif self.peek() == "!": self.emit(NEGATIVE_PREDICATE, self.next())
    else: break
    self.skip_trivia()
``` -/
def prefixLoop : Nat → M Unit
  | 0 => fun _ => .oof
  | n + 1 => fun s =>
    if s.peek = some 38 then prefixLoop n (skipTrivia ((s.adv 1).emit .posPred [38]))
    else if s.peek = some 33 then prefixLoop n (skipTrivia ((s.adv 1).emit .negPred [33]))
    else .ok () s

/-- `accept_term` -/
def acceptTerm (recExpr : M Unit) : M Unit := do
  acceptTag
  (fun s => prefixLoop (s.rest.length + 1) s)
  let b ← acceptTerminal recExpr
  if b then acceptPostfixOps
  else do
    expect 40 .lparen .expectedLParen
    triv
    recExpr
    triv
    expect 41 .rparen .expectedRParen
    acceptPostfixOps

/-- ```python
while True:
    self.skip_trivia()
    if self.peek() == "~": self.emit(SEQUENCE_OP, self.next()); self.skip_trivia(); self.accept_term()
    elif self.peek() == "|": self.emit(CHOICE_OP, self.next()); self.skip_trivia(); self.accept_term()
    else: break
``` -/
def exprLoop (recExpr : M Unit) : Nat → M Unit
  | 0 => fun _ => .oof
  | n + 1 => do
    triv
    let b ← optChar 126 .sequenceOp
    if b then do
      triv
      acceptTerm recExpr
      exprLoop recExpr n
    else do
      let b ← optChar 124 .choiceOp
      if b then do
        triv
        acceptTerm recExpr
        exprLoop recExpr n
      else pure ()

/-- `if self.peek() == "|": self.emit(CHOICE_OP, self.next()); self.skip_trivia()` -/
def leadingChoice : M Unit := do
  let b ← optChar 124 .choiceOp
  if b then triv else pure ()

/-- the body of `accept_expression`, with the recursive calls abstracted -/
def exprStep (recExpr : M Unit) : M Unit := do
  triv
  leadingChoice
  acceptTerm recExpr
  (fun s => exprLoop recExpr (s.rest.length + 1) s)

/-- `accept_expression`, `fuel` bounding the nesting depth of parentheses and `PUSH(…)` -/
def acceptExpression : Nat → M Unit
  | 0 => fun _ => .oof
  | fuel + 1 => exprStep (acceptExpression fuel)

/-! ### the state functions -/

inductive Fn | grammar | grammarDocInner | grammarRule | ruleDocInner
deriving DecidableEq, Repr

def sGDOC : Text := [47, 47, 33]
def sRDOC : Text := [47, 47, 47]

/-- the optional blank behind a doc marker (`space? ` of `grammar_doc` / `line_doc`):
```python
if self.peek() in (" ", "	"):
    self.next()
    self.start = self.pos
``` -/
def docBlank (s : St) : St :=
  match s.rest with
  | c :: _ => if c == 32 || c == 9 then let s' := s.adv 1; { s' with start := s'.pos } else s
  | [] => s

/-- `scan_grammar_doc_inner` / `scan_rule_doc_inner` up to their `return` (after the `fix:`
    commit 77be14c: the blank belongs to the marker, the token is `inner_doc`):
```python
if self.peek() in (" ", "	"):
    self.next()
    self.start = self.pos
self.emit(COMMENT_TEXT, self.scan_until(RE_NEWLINE))
```
`scan_until` returns `self.grammar[self.start : <line break or end>]`; both callers run right
after an `emit`, so `self.start == self.pos` on entry (and again after the blank) and the slice
is the text consumed by `scan_until`. -/
def docInner : M Unit := fun s =>
  let s1 := docBlank s
  let n := (findNewline s1.rest).getD s1.rest.length
  .ok () ((s1.adv n).emit .commentText (s1.rest.take n))

/-- `if value := self.scan(RE_MODIFIER): self.emit(MODIFIER, value); self.skip_trivia()` -/
def optModifier : M Unit := do
  let b ← scanEmit mModifier .modifier
  if b then triv else pure ()

/-- `scan_grammar_rule` from the identifier on (after the doc-comment test) -/
def ruleTail : M (Option Fn) := do
  triv
  let b ← scanEmit mIdentifier .identifier
  if b then do
    triv
    expect 61 .assignOp .expectedAssign
    triv
    optModifier
    expect 123 .lbrace .expectedLBrace
    (fun s => acceptExpression (s.rest.length + 1) s)
    expect 125 .rbrace .expectedRBrace
    pure (some .grammarRule)
  else fun s =>
    if s.rest.isEmpty then .ok none s          -- self.pos == len(self.grammar)
    else error .expectedRule s

/-- one call of a state function; the result is the next state function -/
def stateFn : Fn → M (Option Fn)
  | .grammar => do
    triv
    let b ← scanEmit (mLit sGDOC) .grammarDoc
    if b then pure (some .grammarDocInner) else pure (some .grammarRule)
  | .grammarDocInner => do docInner; pure (some .grammar)
  | .grammarRule => do
    triv
    let b ← scanEmit (mLit sRDOC) .ruleDoc
    if b then pure (some .ruleDocInner) else ruleTail
  | .ruleDocInner => do docInner; pure (some .grammarRule)

/-- `while state is not None: state = state()` -/
def run : Nat → Fn → M Unit
  | 0, _ => fun _ => .oof
  | n + 1, fn => do
    let next ← stateFn fn
    match next with
    | some fn' => run n fn'
    | none => pure ()

/-- result of `tokenize(grammar)` -/
inductive ScanResult
  | ok (toks : List Token)
  | err (k : EK) (start : Nat) (value : Text)
  | exc (name : String)
  | oof
deriving Repr

def St.init (text : Text) : St := { rest := text, pos := 0, start := 0, toks := [] }

/-- `Scanner(grammar).tokens`.  The bound on state-function calls: a call either consumes a
    character or moves to a state of lower rank (grammarDocInner > grammar = ruleDocInner >
    grammarRule), see `run_sat` (Lemmas/FrontTotalScan.lean). -/
def scan (text : Text) : ScanResult :=
  match run (3 * text.length + 3) .grammar (St.init text) with
  | .ok _ s => .ok s.toks.reverse
  | .err k st v => .err k st v
  | .exc n => .exc n
  | .oof => .oof

end Front
end Pest
