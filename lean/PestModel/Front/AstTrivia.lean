/-
  Front/AstTrivia.lean — grammar texts with *arbitrary* trivia between the tokens (Front/Ast.lean
  fixes one blank; here every place where pest's implicit WHITESPACE / COMMENT is legal may hold
  any trivia, including none).  Used by Lemmas/FrontCstGlue.lean and Lemmas/FrontScanAst.lean (the
  C10 round trip for every layout).

    IsBlock c      : `c` is a complete (possibly nested) block comment `/* … */`
    IsTrivia ws    : `ws` is a sequence of blanks, tabs, line feeds, CR LF pairs, block comments
                     and line comments `// … \n` (a line comment does not start with `///` or
                     `//!` — those are doc comments — and includes the line feed that ends it)
    Sc kvs t tl    : `t` is the tokens `kvs`, each followed by some trivia, and then `tl`
    DocsText / RulesText / GrammarText g t : `t` is a layout of the grammar `g`: leading trivia,
                     `//!` lines, rules (with their `///` lines), trailing `///` lines; after every
                     token and after the line feed of every doc line any trivia.  Fixed layout only
                     inside doc lines (marker, optional blank, line, `\n`) and inside literals (`spell`).
    spellAllWith / docsWith / SRule.prettyWith / SGrammar.prettyWith lead sep :
                     the printer with an explicit separator `sep i` behind the `i`-th item
                     (doc lines and tokens counted together from 0)
-/
import PestModel.Front.Ast

namespace Pest
namespace Front

/-- a complete block comment: `/*`, a body, and the `*/` that closes it — whatever follows.
    (Stated with the scanner's own nesting counter `blockBody`; `TRT.isBlock_flat`, `TRT.BB` and `TRT.isBlock_of_BB` in
    Lemmas/FrontSkipTrivia.lean give direct descriptions.) -/
def IsBlock (c : Text) : Prop :=
  ∃ body, c = 47 :: 42 :: body ∧ ∀ tl, blockBody 0 (body ++ tl) = some body.length

/-- trivia: what `skip_trivia` skips -/
inductive IsTrivia : Text → Prop
  | nil : IsTrivia []
  | sp {t : Text} : IsTrivia t → IsTrivia (32 :: t)
  | tab {t : Text} : IsTrivia t → IsTrivia (9 :: t)
  | lf {t : Text} : IsTrivia t → IsTrivia (10 :: t)
  | crlf {t : Text} : IsTrivia t → IsTrivia (13 :: 10 :: t)
  /-- `//` + text without line feed, not starting with `/` or `!` + line feed -/
  | line (r : Text) {t : Text} : (∀ c ∈ r, c ≠ 10) → r.head? ≠ some 47 → r.head? ≠ some 33 →
      IsTrivia t → IsTrivia (47 :: 47 :: (r ++ 10 :: t))
  | block {c t : Text} : IsBlock c → IsTrivia t → IsTrivia (c ++ t)

/-- `t` is the tokens `kvs`, each followed by some trivia, and then `tl` -/
inductive Sc : List KV → Text → Text → Prop
  | nil (tl : Text) : Sc [] tl tl
  | cons (kv : KV) {kvs : List KV} {ws t tl : Text} : IsTrivia ws → Sc kvs t tl →
      Sc (kv :: kvs) (spell kv ++ (ws ++ t)) tl

/-- doc lines with marker `m` (marker, optional blank, line, line feed), each followed by
    trivia, then `tl` -/
def DocsText (m : Text) : List Text → Text → Text → Prop
  | [], t, tl => t = tl
  | l :: ls, t, tl => ∃ sp ws t', DocSp sp l ∧ IsTrivia ws ∧ t = m ++ (sp ++ (l ++ 10 :: (ws ++ t'))) ∧
      DocsText m ls t' tl

/-- the tokens of a rule without its doc comments -/
def SRule.headKV (r : SRule) : List KV :=
  [(.identifier, r.name), (.assignOp, [61])] ++ modKV r.mod ++ [(.lbrace, [123])] ++ barKV r.bar ++
    r.body.kv ++ [(.rbrace, [125])]

def RulesText : List SRule → Text → Text → Prop
  | [], t, tl => t = tl
  | r :: rs, t, tl => ∃ t1 t2, DocsText sRDOC r.docs t t1 ∧ Sc r.headKV t1 t2 ∧ RulesText rs t2 tl

/-- `t` is a layout of `g` -/
def GrammarText (g : SGrammar) (t : Text) : Prop :=
  ∃ lead t0 t1 t2, IsTrivia lead ∧ t = lead ++ t0 ∧ DocsText sGDOC g.gdocs t0 t1 ∧
    RulesText g.rules t1 t2 ∧ DocsText sRDOC g.trailing t2 []

/-! ### the printer with explicit separators -/

/-- token `i` (counted from `i0`) followed by `sep i` -/
def spellAllWith (sep : Nat → Text) : Nat → List KV → Text
  | _, [] => []
  | i, kv :: r => spell kv ++ (sep i ++ spellAllWith sep (i + 1) r)

/-- doc line `i` (counted from `i0`): marker, blank, line, line feed, `sep i` -/
def docsWith (sep : Nat → Text) (m : Text) : Nat → List Text → Text
  | _, [] => []
  | i, l :: ls => m ++ 32 :: (l ++ 10 :: (sep i ++ docsWith sep m (i + 1) ls))

/-- number of items (doc lines and tokens) of a rule -/
def SRule.items (r : SRule) : Nat := r.docs.length + r.headKV.length

def SRule.prettyWith (sep : Nat → Text) (i0 : Nat) (r : SRule) : Text :=
  docsWith sep sRDOC i0 r.docs ++ spellAllWith sep (i0 + r.docs.length) r.headKV

def rulesWith (sep : Nat → Text) : Nat → List SRule → Text
  | _, [] => []
  | i, r :: rs => r.prettyWith sep i ++ rulesWith sep (i + r.items) rs

def rulesItems : List SRule → Nat
  | [] => 0
  | r :: rs => r.items + rulesItems rs

/-- the grammar text with leading trivia `lead` and `sep i` behind the `i`-th item -/
def SGrammar.prettyWith (lead : Text) (sep : Nat → Text) (g : SGrammar) : Text :=
  lead ++ (docsWith sep sGDOC 0 g.gdocs ++ (rulesWith sep g.gdocs.length g.rules ++
    docsWith sep sRDOC (g.gdocs.length + rulesItems g.rules) g.trailing))

end Front
end Pest
