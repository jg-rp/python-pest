import PestModel.Stack
import PestModel.State
import PestModel.Lemmas.Stack
import PestModel.Lemmas.State
import PestModel.Props.C09
import PestModel.Expr
import PestModel.Interp
import PestModel.Gen
import PestModel.Opt
import PestModel.LineCol
import PestModel.Lemmas.LineCol
import PestModel.Props.C14
import PestModel.Props.C13Text
import PestModel.Drv.Core
import PestModel.Drv.Text
import PestModel.Spec
import PestModel.Pratt
import PestModel.Lemmas.Pratt
import PestModel.Props.C18
import PestModel.Drv.Pratt
import PestModel.Lemmas.Prim
import PestModel.Lemmas.LeafAct
import PestModel.Lemmas.Thread
import PestModel.Lemmas.Kit
import PestModel.Lemmas.Frame
import PestModel.Lemmas.Refine
import PestModel.Props.C03
import PestModel.Props.C04
import PestModel.Props.C05
import PestModel.Lemmas.TagHist
import PestModel.Lemmas.GenEq
import PestModel.Props.C01
import PestModel.Lemmas.Mono
import PestModel.Lemmas.Big
import PestModel.Props.Tables
import PestModel.World
import PestModel.Props.C15
import PestModel.Drv.World
import PestModel.CharSet
import PestModel.CharClass
import PestModel.Lemmas.CharSet
import PestModel.Generated.AsciiTables
import PestModel.Drv.CharSet
import PestModel.Lemmas.BigSim
import PestModel.Lemmas.Algebra
import PestModel.Props.C08
import PestModel.Pairs
import PestModel.Lemmas.TreeWF
import PestModel.Props.C06
import PestModel.Drv.Pairs
import PestModel.Hyps
import PestModel.Drv.Hyps
import PestModel.Lemmas.Shift
import PestModel.Props.C16
import PestModel.Lemmas.FailPos
import PestModel.Props.C13
import PestModel.WF
import PestModel.Lemmas.Term
import PestModel.Props.C07
import PestModel.Unescape
import PestModel.Front.Scan
import PestModel.Front.Parse
import PestModel.Front.ErrorContext
import PestModel.Front.Ast
import PestModel.Front.AstTrivia
import PestModel.Drv.Escapes
import PestModel.Drv.Front
import PestModel.Lemmas.Unescape
import PestModel.Props.C12Escapes
import PestModel.Props.C12
import PestModel.Props.C10
import PestModel.Props.C11
import PestModel.Props.C11Blowup
import PestModel.Props.Tags
import PestModel.Front.AstText2
import PestModel.Props.C10Exact
import PestModel.Calc
import PestModel.Json
import PestModel.Drv.Examples
import PestModel.Props.C17
import PestModel.OptHyps
import PestModel.Props.C02
import PestModel.Props.AllModes
import PestModel.Lemmas.OptSoundKeeps
import PestModel.Lemmas.OptSoundKeepsAll
